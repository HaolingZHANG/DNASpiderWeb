import DswModel.Tie.SwCodingLib
/-!
# Translation tie — `connect_coding_graph`: the trimming rounds (`while True` … `break`)
-/
namespace Dsw.Tie.Ccg
open Dsw Dsw.Py Dsw.Tie Dsw.Trim

abbrev CEnv := Gen.connect_coding_graph.Env

/-- the value the code writes into cell `v` of `new_vertices`. -/
def keepCell (k t : Nat) (m : Mask) (v : Nat) : Bool := decide (t ≤ succIn k m v)

/-- `new_vertices` after the `for` loop over the marked indices. -/
def newMask (k t : Nat) (m : Mask) : Mask :=
  m.indices.foldl (fun acc w => acc.setIfInBounds w (keepCell k t m w)) (Array.replicate (4 ^ k) false)

theorem getD_replicate_false (n v : Nat) : (Array.replicate n false).getD v false = false := by
  simp [Array.getD]

theorem newMask_eq {k t : Nat} {m : Mask} : newMask k t m = trimStep k t m := by
  apply Trim.Mask.ext
  · rw [newMask, foldl_set_size, trimStep_size]; simp
  · intro v
    rw [newMask, foldl_set_getD, trimStep_getD]
    simp only [Array.size_replicate, Mask.mem_indices, getD_replicate_false]
    by_cases hv : v < 4 ^ k
    · by_cases hmv : m.getD v false = true
      · simp [hv, hmv, keepCell]
      · have : m.getD v false = false := by simpa using hmv
        simp [hv, this]
    · simp [hv]

/-- The relations between model state and environment say that `e` is unchanged by the update that sets the fields
the loop reads: a proof rewrites with the equation once, after which every read of such a field computes, and for an
environment written out by `simp` the equation holds by `rfl`. -/
def TrimIn (k t : Nat) (ai : Bool) (m : Mask) (Tm : PV) (nm : Mask) (e : CEnv) : Prop :=
  e = { e with observed_length := .int (k : Int), threshold := .int (t : Int), vertices := bmask ai m.toList,
               new_vertices := bmask false nm.toList, nucleotides := .str ['A', 'C', 'G', 'T'], times := Tm } ∧
    nm.size = 4 ^ k

theorem for2_spec (k t fuel : Nat) (ai : Bool) (m : Mask) (hm : m.size = 4 ^ k) (Tm : PV) (i v : Nat)
    (hv : v < 4 ^ k) (nm : Mask) (e : CEnv) (h : TrimIn k t ai m Tm nm e) :
    ∃ e', Gen.connect_coding_graph.for2_body fuel (.tup [.int (i : Int), .int (v : Int)]) e = .ok (.norm e') ∧
      TrimIn k t ai m Tm (nm.setIfInBounds v (keepCell k t m v)) e' := by
  obtain ⟨he, h5⟩ := h
  rw [he]
  have hl : ∀ w ∈ obtainLatters k v, w < m.toList.length := by
    intro w hw
    obtain ⟨j, _, rfl⟩ := (mem_obtainLatters k v w).1 hw
    rw [Array.length_toList, hm]
    exact Nat.mod_lt _ (four_pow_pos k)
  have hv' : v < nm.toList.length := by rw [Array.length_toList, h5]; exact hv
  have hcast : decide ((t : Int) ≤ ((cnt ((obtainLatters k v).map fun w => m.toList.getD w false) : Nat) : Int)) =
      keepCell k t m v := by
    rw [cnt_map_getD, keepCell, succIn]
    simp only [getD_toList, Int.ofNat_le]
  simp only [Gen.connect_coding_graph.for2_body, pyUnpack_two_tup, bnd_ok, List.getD_cons_zero,
    List.getD_cons_succ, tie_obtain_latters, pyIndex_bmask_list ai hl, npSum_bmask,
    npCmp_int_int, pyGe_int, R_map_ok, hcast, pySetItem_bmask hv', ite_self, ← toList_setIfInBounds]
  exact ⟨_, rfl, rfl, by rw [Array.size_setIfInBounds]; exact h5⟩

def TrimSt (k t : Nat) (ai : Bool) (m : Mask) (n : Int) (e : CEnv) : Prop :=
  e = { e with observed_length := .int (k : Int), threshold := .int (t : Int), vertices := bmask ai m.toList,
               nucleotides := .str ['A', 'C', 'G', 'T'], times := .int n }

def RoundPost (k t : Nat) (ai : Bool) (m : Mask) (n : Int) (r : R (Flow CEnv)) : Prop :=
  if (trimStep k t m).count < 1 then r = .error .valueError
  else if m.count = (trimStep k t m).count then ∃ e', r = .ok (.brk e') ∧ TrimSt k t ai m n e'
  else ∃ e', r = .ok (.norm e') ∧ TrimSt k t false (trimStep k t m) (n + 1) e'

theorem k4_spec (k t fuel : Nat) (ai : Bool) (m : Mask) (n : Int) (e : CEnv)
    (h : TrimIn k t ai m (.int n) (trimStep k t m) e) :
    RoundPost k t ai m n (Gen.connect_coding_graph.k4 fuel e) := by
  rw [h.1]
  simp only [Gen.connect_coding_graph.k4, npSum_bmask, bnd_ok, npSub_int, ite_self, seq_norm,
    Gen.connect_coding_graph.k3, pyLt_int, ← count_eq_cnt]
  unfold RoundPost
  by_cases hz : (trimStep k t m).count < 1
  · have hz' : ((trimStep k t m).count : Int) < 1 := by omega
    simp only [hz, hz', decide_true, ↓reduceIte, seq_error]
  · have hz' : ¬ ((trimStep k t m).count : Int) < 1 := by omega
    simp only [hz, hz', decide_false, Bool.false_eq_true, ↓reduceIte, seq_norm, Gen.connect_coding_graph.k2,
      truthy_int, bnd_ok]
    by_cases hc : m.count = (trimStep k t m).count
    · have hc' : ((m.count : Int) - ((trimStep k t m).count : Int) != 0) = false := by
        rw [hc]; simp
      rw [if_pos hc]
      simp only [hc', Bool.not_false, ↓reduceIte, seq_brk]
      exact ⟨_, rfl, rfl⟩
    · have hc' : ((m.count : Int) - ((trimStep k t m).count : Int) != 0) = true := by
        simp only [bne_iff_ne, ne_eq]; omega
      rw [if_neg hc]
      simp only [hc', Bool.not_true, Bool.false_eq_true, ↓reduceIte, seq_norm,
        Gen.connect_coding_graph.k1, npAdd_int, bnd_ok]
      exact ⟨_, rfl, rfl⟩

theorem round_spec (k t fuel : Nat) (ai : Bool) (m : Mask) (hm : m.size = 4 ^ k) (n : Int) (e : CEnv)
    (h : TrimSt k t ai m n e) :
    RoundPost k t ai m n (Gen.connect_coding_graph.while1_body fuel e) := by
  rw [h]
  simp only [Gen.connect_coding_graph.while1_body, bnd_ok, ite_self, seq_norm, Gen.connect_coding_graph.k5,
    GzTie.pyLen_ACGT, pyPow_nat, pyInt_int, npZerosBool_nat, npCmp_ne_zero_bmask, where_bmask,
    idxArrPV, pyEnumerate_arr, pyIter_list]
  refine seq_pred (TrimIn k t ai m (.int n) (trimStep k t m)) _ ?_ (fun e1 g => k4_spec k t fuel ai m n e1 g)
  rw [← newMask_eq, newMask, indices_eq_idxs]
  refine forLoop_rel_enum (TrimIn k t ai m (.int n))
    (fun (nm : Mask) (v : Nat) => nm.setIfInBounds v (keepCell k t m v)) (fun (v : Nat) => PV.int (v : Int)) 0
    (fun i v hv st e he => for2_spec k t fuel ai m hm _ i v ?_ st e he) ?_
  · have := lt_of_getD_true (mem_idxs.1 hv)
    rwa [Array.length_toList, hm] at this
  · exact ⟨rfl, Array.size_replicate⟩

/-- the loop: it mirrors `trimLoop` as long as the model does not run out of fuel. -/
theorem trim_while (k t fuel : Nat) :
    ∀ (f : Nat) (ai : Bool) (m : Mask) (n : Int) (W : Nat) (e : CEnv), m.size = 4 ^ k → TrimSt k t ai m n e →
      f ≤ W →
      (∀ s, trimLoop k t f m = .ok s →
        ∃ e' ai' n', whileLoop (Gen.connect_coding_graph.while1_cond fuel)
            (Gen.connect_coding_graph.while1_body fuel) W e = .ok (.norm e') ∧ TrimSt k t ai' s n' e') ∧
      (trimLoop k t f m = .error .valueError →
        whileLoop (Gen.connect_coding_graph.while1_cond fuel)
            (Gen.connect_coding_graph.while1_body fuel) W e = .error .valueError) := by
  intro f
  induction f with
  | zero =>
    intro ai m n W e _ _ _
    exact ⟨fun s h => (by cases h), fun h => (by cases h)⟩
  | succ f ih =>
    intro ai m n W e hm hst hW
    obtain ⟨W', rfl⟩ : ∃ W', W = W' + 1 := ⟨W - 1, by omega⟩
    have hr := round_spec k t fuel ai m hm n e hst
    unfold RoundPost at hr
    simp only [trimLoop]
    by_cases hz : (trimStep k t m).count < 1
    · rw [if_pos hz] at hr
      simp only [hz, ↓reduceIte]
      refine ⟨fun s h => (by cases h), fun _ => ?_⟩
      exact whileLoop_true_error (cond := Gen.connect_coding_graph.while1_cond fuel) (e := e) rfl hr W'
    · rw [if_neg hz] at hr
      simp only [hz, ↓reduceIte]
      by_cases hc : m.count = (trimStep k t m).count
      · rw [if_pos hc] at hr
        obtain ⟨e1, hb, h1⟩ := hr
        simp only [hc, ↓reduceIte]
        refine ⟨fun s h => ?_, fun h => (by cases h)⟩
        cases h
        exact ⟨e1, ai, n, whileLoop_true_brk (cond := Gen.connect_coding_graph.while1_cond fuel) (e := e) rfl hb W',
          h1⟩
      · rw [if_neg hc] at hr
        obtain ⟨e1, hb, h1⟩ := hr
        simp only [hc, ↓reduceIte]
        rw [whileLoop_true_norm (cond := Gen.connect_coding_graph.while1_cond fuel) (e := e) rfl hb W']
        exact ih false _ (n + 1) W' e1 (trimStep_size k t m) h1 (by omega)

end Dsw.Tie.Ccg
