import DswModel.Tie.NpLemmas
import DswModel.Tie.BuildDefs
import DswModel.Tie.GzArith
import DswModel.Tie.GzViews
import DswModel.Lemmas.TrimOne
/-!
# Translation tie — `connect_coding_graph`: computation lemmas for the primitives that first appear there
(true division, boolean arrays and their gather / update arms of `pyIndex` / `pySetItem`), masks as arrays (`bmask`)
-/
namespace Dsw.Tie.Ccg
open Dsw Dsw.Py Dsw.Tie

def bmask (asInt : Bool) (l : List Bool) : PV := .arr (l.map (cellPV asInt))

theorem maskPV_eq (ai : Bool) (m : Mask) : maskPV ai m = bmask ai m.toList := rfl

theorem bmask_false (l : List Bool) : bmask false l = .arr (l.map .bool) := rfl

def cnt (l : List Bool) : Nat := (l.filter id).length

theorem cnt_nil : cnt [] = 0 := rfl
theorem cnt_cons (b : Bool) (l : List Bool) : cnt (b :: l) = (if b then 1 else 0) + cnt l := by
  cases b
  · exact (Nat.zero_add _).symm
  · exact Nat.add_comm _ 1

theorem count_eq_cnt (m : Mask) : m.count = cnt m.toList := rfl

theorem cntI_eq_cnt (l : List Bool) : GzV.cntI l = (cnt l : Int) := GzV.cntI_eq l

theorem npSum_bmask (ai : Bool) (l : List Bool) : npSum (bmask ai l) = .ok (.int (cnt l : Int)) := by
  simp only [npSum, bmask, mapM_asInt?_cells]
  exact congrArg (fun z => Except.ok (PV.int z)) (cntI_eq_cnt l)

theorem pyLen_bmask (ai : Bool) (l : List Bool) : pyLen (bmask ai l) = .ok (.int (l.length : Int)) := by
  simp [bmask]

/-- `vertices != 0`. -/
theorem npCmp_ne_zero_bmask (ai : Bool) (l : List Bool) :
    npCmp pyNe (bmask ai l) (.int 0) = .ok (bmask false l) := by
  rw [bmask, npCmp, arrBroadcast_map_int (g := fun b => PV.bool b)]
  · rfl
  · intro b; cases ai <;> cases b <;> rfl

def idxs (l : List Bool) : List Nat := (List.range l.length).filter fun j => l.getD j false

theorem indices_eq_idxs (m : Mask) : m.indices = idxs m.toList := by
  unfold Mask.indices idxs
  rw [Array.length_toList]
  apply List.filter_congr
  intro v _
  rw [← Trim.Mask.getD_toList]

/-- `where(bools)[0]`. -/
theorem where_bmask (l : List Bool) :
    (bnd (npWhere (bmask false l)) fun t => pyIndex t (.int 0)) = .ok (idxArrPV (idxs l)) := by
  rw [bmask_false]
  exact npWhere_map_bool (fun b : Bool => b) l false

theorem mem_idxs {l : List Bool} {v : Nat} : v ∈ idxs l ↔ l.getD v false = true := by
  unfold idxs
  rw [List.mem_filter, List.mem_range]
  constructor
  · exact fun h => h.2
  · intro h
    refine ⟨?_, h⟩
    rcases Nat.lt_or_ge v l.length with h1 | h1
    · exact h1
    · rw [List.getD_eq_getElem?_getD, List.getElem?_eq_none h1] at h; cases h

theorem lt_of_getD_true {l : List Bool} {v : Nat} (h : l.getD v false = true) : v < l.length := by
  rcases Nat.lt_or_ge v l.length with h1 | h1
  · exact h1
  · rw [List.getD_eq_getElem?_getD, List.getElem?_eq_none h1] at h; cases h

theorem pyIndexSeq_bmask (ai : Bool) {l : List Bool} {w : Nat} (hw : w < l.length) :
    pyIndexSeq (bmask ai l) (.int (w : Int)) = .ok (cellPV ai (l.getD w false)) := by
  have hw' : w < (l.map (cellPV ai)).length := by simpa using hw
  simp only [pyIndexSeq, bmask, asInt?_int, normIndex_natCast hw', List.getD_eq_getElem?_getD, List.getElem?_map,
    List.getElem?_eq_getElem hw, Option.map_some, Option.getD_some]

theorem pyIndex_bmask (ai : Bool) {l : List Bool} {w : Nat} (hw : w < l.length) :
    pyIndex (bmask ai l) (.int (w : Int)) = .ok (cellPV ai (l.getD w false)) :=
  pyIndexSeq_bmask ai hw

/-- gather: one `pyIndexSeq` per index, whether the indices come as a list or as an array. -/
theorem gather_bmask (ai : Bool) {l : List Bool} {ws : List Nat} (h : ∀ w ∈ ws, w < l.length) :
    (mapM' (fun k => pyIndexSeq (bmask ai l) k) (ws.map fun (n : Nat) => PV.int (n : Int))).map PV.arr =
      .ok (bmask ai (ws.map fun w => l.getD w false)) := by
  rw [mapM'_map (g := fun w => cellPV ai (l.getD w false)) (fun w hw => pyIndexSeq_bmask ai (h w hw)), R_map_ok, bmask,
    List.map_map]
  rfl

theorem pyIndex_bmask_list (ai : Bool) {l : List Bool} {ws : List Nat} (h : ∀ w ∈ ws, w < l.length) :
    pyIndex (bmask ai l) (natsPV ws) = .ok (bmask ai (ws.map fun w => l.getD w false)) :=
  gather_bmask ai h

theorem pyIndex_bmask_arr (ai : Bool) {l : List Bool} {ws : List Nat} (h : ∀ w ∈ ws, w < l.length) :
    pyIndex (bmask ai l) (idxArrPV ws) = .ok (bmask ai (ws.map fun w => l.getD w false)) :=
  gather_bmask ai h

/-- `bools[v] = b` keeps the array boolean. -/
theorem pySetItem_bmask {l : List Bool} {v : Nat} (hv : v < l.length) (b : Bool) :
    pySetItem (bmask false l) (.int (v : Int)) (.bool b) = .ok (bmask false (l.set v b)) := by
  have hv' : v < (l.map (cellPV false)).length := by simpa using hv
  have hg : (l.map (cellPV false)).getD v .none = .bool (l[v]) := by
    simp [List.getD_eq_getElem?_getD, List.getElem?_eq_getElem hv, cellPV]
  simp only [pySetItem, bmask, asInt?_int, asInt?_bool, normIndex_natCast hv', hg, List.map_set]
  cases b <;> rfl

theorem npZerosBool_nat (n : Nat) :
    npZerosBool (.tup [.int (n : Int)]) = .ok (bmask false (List.replicate n false)) := by
  have h : ¬ ((n : Int) < 0) := by omega
  simp [npZerosBool, npFullBool, h, bmask, cellPV]

theorem cnt_map_getD (l : List Bool) (ws : List Nat) :
    cnt (ws.map fun w => l.getD w false) = (ws.filter fun w => l.getD w false).length := by
  rw [cnt, List.filter_map, List.length_map]; rfl

theorem cnt_pos_iff_any (l : List Bool) : 0 < cnt l ↔ l.any id = true := by
  rw [cnt, List.length_filter_pos_iff, List.any_eq_true]

theorem pyFilter_arr (f : PV → R Bool) (l : List PV) : pyFilter f (.arr l) = (filterM' f l).map .list := rfl

theorem foldl_set_getD (f : Nat → Bool) (l : List Nat) (init : Array Bool) (v : Nat) :
    (l.foldl (fun acc w => acc.setIfInBounds w (f w)) init).getD v false =
      if v ∈ l ∧ v < init.size then f v else init.getD v false := by
  induction l generalizing init with
  | nil => simp
  | cons x xs ih =>
    rw [List.foldl_cons, ih, Array.size_setIfInBounds]
    by_cases hvx : v = x
    · subst hvx
      by_cases hs : v < init.size
      · simp [hs, getD_setIfInBounds_self _ _ _ _ hs]
      · simp [hs, Array.getD, Array.setIfInBounds]
    · rw [getD_setIfInBounds_ne _ _ _ _ _ (Ne.symm hvx)]
      simp [hvx]

theorem foldl_set_size (f : Nat → Bool) (l : List Nat) (init : Array Bool) :
    (l.foldl (fun acc w => acc.setIfInBounds w (f w)) init).size = init.size := by
  induction l generalizing init with
  | nil => rfl
  | cons x xs ih => rw [List.foldl_cons, ih, Array.size_setIfInBounds]

theorem toList_setIfInBounds {α} (a : Array α) (v : Nat) (x : α) :
    (a.setIfInBounds v x).toList = a.toList.set v x := by simp

theorem shape_of_wfdb {k : Nat} {a : Acc} (h : WFdB k a) : GzV.Shape (4 ^ k) a :=
  ⟨h.1, fun i hi => (h.2 i hi).1⟩

end Dsw.Tie.Ccg
