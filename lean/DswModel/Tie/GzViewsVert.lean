import DswModel.Tie.GzViewsLib
/-!
# Translation tie — `obtain_vertices`, `accessor_to_latter_map` (dsw/graphized.py)
-/
namespace Dsw.Tie.GzV
open Dsw Dsw.Py Dsw.Tie

theorem obtain_vertices_tie (a : Acc) (fuel : Nat) :
    Gen.obtain_vertices fuel (accPV a) = .ok (idxArrPV (obtainVertices a)) := by
  simp only [Gen.obtain_vertices, Gen.obtain_vertices.body, vertices_expr, bnd_ok, callResult_ret]

/-- the latter map after the vertices `pre` have been entered. -/
def FillRel (a : Acc) (verbose : Bool) (pre : List Nat) (e : Gen.accessor_to_latter_map.Env) : Prop :=
  e.accessor = accPV a ∧ e.verbose = .bool verbose ∧
    e.latter_map = lmapPV (pre.map fun (v : Nat) => (v, a.liveEntries (v : Int)))

theorem fill_body {a : Acc} (ha : a.WF) (fuel : Nat) (verbose : Bool) (i : Nat) (pre : List Nat) (x : Nat)
    (hx : x < a.size) (hnot : x ∉ pre) (e : Gen.accessor_to_latter_map.Env) (h : FillRel a verbose pre e) :
    ∃ e', Gen.accessor_to_latter_map.for1_body fuel (.tup [.int (i : Int), .int (x : Int)]) e = .ok (.norm e') ∧
      FillRel a verbose (pre ++ [x]) e' := by
  obtain ⟨h1, h2, h3⟩ := h
  have hnot' : x ∉ (pre.map fun (v : Nat) => (v, a.liveEntries (v : Int))).map (·.1) := by
    simpa [List.map_map, Function.comp_def] using hnot
  simp only [Gen.accessor_to_latter_map.for1_body, pyUnpack_two_tup, bnd_ok, List.getD_cons_zero,
    List.getD_cons_succ, h1, pyIndex_accPV_nat hx, acc_live_tolist ha hx, h3,
    pySetItem_lmapPV_new hnot', h2, truthy_bool, ite_self]
  refine ⟨_, rfl, by first | rfl | exact h1, by first | rfl | exact h2, ?_⟩
  simp only [List.map_append, List.map_cons, List.map_nil]

theorem accessor_to_latter_map_tie (a : Acc) (fuel : Nat) (verbose : Bool) (ha : a.WF) :
    Gen.accessor_to_latter_map fuel (accPV a) (.bool verbose) = .ok (lmapPV (accessorToLatterMap a)) := by
  simp only [Gen.accessor_to_latter_map, Gen.accessor_to_latter_map.body, pyLen_accPV, bnd_ok, locations_expr,
    idxArrPV, pyEnumerate_arr, pyIter_list]
  apply callResult_seq_of_norm (FillRel a verbose (obtainVertices a))
  · refine forLoop_enum_prefix (FillRel a verbose) (fun (v : Nat) => PV.int (v : Int)) (obtainVertices a)
      (fun i pre x suf has e he => ?_) ⟨rfl, rfl, rfl⟩
    have hnd := nodup_obtainVertices a
    rw [has] at hnd
    have hx : x < a.size := mem_obtainVertices (by rw [has]; simp)
    have hnot : x ∉ pre := fun hm => by
      have := (List.nodup_append.mp hnd).2.2 x hm x (by simp)
      exact this rfl
    exact fill_body ha fuel verbose i pre x hx hnot e he
  · intro e' h
    simp only [Gen.accessor_to_latter_map.k1, h.2.2, callResult_ret, accessorToLatterMap]

end Dsw.Tie.GzV
