import DswModel.Tie.GzViewsLib
import DswModel.Lemmas.UselessSpec
/-!
# Translation tie — `remove_useless`, `latter_map_to_accessor` (dsw/graphized.py)
-/
namespace Dsw.Tie.GzV
open Dsw Dsw.Py Dsw.Tie

abbrev REnv := Gen.remove_useless.Env

def keepF (rm sv : List Nat) (w : Nat) : Bool := !rm.contains w && sv.contains w

def bmap (rm sv : List Nat) (pre : LMap) : LMap :=
  (pre.filter fun p => !rm.contains p.1).map fun p => (p.1, p.2.filter (keepF rm sv))

def bflag (rm sv : List Nat) (pre : LMap) : Bool :=
  (pre.filter fun p => !rm.contains p.1).any fun p => p.2.any fun w => !keepF rm sv w

theorem round_eq (m : LMap) (t : Nat) :
    removeUselessRound m t =
      (bmap (UselessSpec.rem m t) (UselessSpec.sav m t) m, bflag (UselessSpec.rem m t) (UselessSpec.sav m t) m) :=
  rfl

theorem bmap_nil (rm sv : List Nat) : bmap rm sv [] = [] := rfl
theorem bflag_nil (rm sv : List Nat) : bflag rm sv [] = false := rfl

theorem bmap_append_keep {rm sv : List Nat} (pre : LMap) {p : Nat × List Nat} (h : rm.contains p.1 = false) :
    bmap rm sv (pre ++ [p]) = bmap rm sv pre ++ [(p.1, p.2.filter (keepF rm sv))] := by
  simp only [bmap, List.filter_append, List.filter_cons, List.filter_nil, h, Bool.not_false, ↓reduceIte,
    List.map_append, List.map_cons, List.map_nil]

theorem bflag_append_keep {rm sv : List Nat} (pre : LMap) {p : Nat × List Nat} (h : rm.contains p.1 = false) :
    bflag rm sv (pre ++ [p]) = (bflag rm sv pre || p.2.any fun w => !keepF rm sv w) := by
  simp only [bflag, List.filter_append, List.filter_cons, List.filter_nil, h, Bool.not_false, ↓reduceIte,
    List.any_append, List.any_cons, List.any_nil, Bool.or_false]

theorem bmap_append_drop {rm sv : List Nat} (pre : LMap) {p : Nat × List Nat} (h : rm.contains p.1 = true) :
    bmap rm sv (pre ++ [p]) = bmap rm sv pre := by
  simp only [bmap, List.filter_append, List.filter_cons, List.filter_nil, h, Bool.not_true, Bool.false_eq_true,
    ↓reduceIte, List.append_nil]

theorem bflag_append_drop {rm sv : List Nat} (pre : LMap) {p : Nat × List Nat} (h : rm.contains p.1 = true) :
    bflag rm sv (pre ++ [p]) = bflag rm sv pre := by
  simp only [bflag, List.filter_append, List.filter_cons, List.filter_nil, h, Bool.not_true, Bool.false_eq_true,
    ↓reduceIte, List.append_nil]

theorem keys_bmap_sub {rm sv : List Nat} {pre : LMap} {v : Nat} (h : v ∈ (bmap rm sv pre).map (·.1)) :
    v ∈ pre.map (·.1) := by
  simp only [bmap, List.map_map, List.mem_map, List.mem_filter, Function.comp] at h ⊢
  obtain ⟨p, ⟨hp, _⟩, rfl⟩ := h
  exact ⟨p, hp, rfl⟩

def clsStep (t : Nat) (st : List Nat × List Nat) (p : Nat × List Nat) : List Nat × List Nat :=
  if p.2.length < t then (st.1 ++ [p.1], st.2) else (st.1, st.2 ++ [p.1])

theorem cls_foldl (t : Nat) (m : LMap) (st : List Nat × List Nat) :
    m.foldl (clsStep t) st = (st.1 ++ UselessSpec.rem m t, st.2 ++ UselessSpec.sav m t) := by
  induction m generalizing st with
  | nil => simp only [List.foldl_nil, UselessSpec.rem, UselessSpec.sav, List.filter_nil, List.map_nil, List.append_nil]
  | cons p m ih =>
    rw [List.foldl_cons, ih]
    by_cases h : p.2.length < t
    · simp only [clsStep, UselessSpec.rem, UselessSpec.sav, h, ↓reduceIte, decide_true, not_true_eq_false,
        decide_false, Bool.false_eq_true, not_false_eq_true, List.filter_cons_of_pos, List.filter_cons_of_neg,
        List.map_cons, List.append_assoc, List.cons_append, List.nil_append]
    · simp only [clsStep, UselessSpec.rem, UselessSpec.sav, h, ↓reduceIte, decide_false, Bool.false_eq_true,
        not_false_eq_true, decide_true, List.filter_cons_of_pos, List.filter_cons_of_neg, List.map_cons,
        List.append_assoc, List.cons_append, List.nil_append]

/-- the loop relations are record equations: the listed fields have the listed values, the others are free. -/
def ClsRel (t : Nat) (L V Rn : PV) (st : List Nat × List Nat) (e : REnv) : Prop :=
  e = { e with
    threshold := .int (t : Int), remove_vertices := natsPV st.1, saved_vertices := natsPV st.2,
    latter_map := L, verbose := V, round_number := Rn }

theorem for2_spec (t : Nat) (L V Rn : PV) (fuel i : Nat) (p : Nat × List Nat) (st : List Nat × List Nat) (e : REnv)
    (h : ClsRel t L V Rn st e) :
    ∃ e', Gen.remove_useless.for2_body fuel (.tup [.int (i : Int), itemPV p]) e = .ok (.norm e') ∧
      ClsRel t L V Rn (clsStep t st p) e' := by
  rw [h]
  simp only [Gen.remove_useless.for2_body, itemPV, pyUnpack_two_tup, bnd_ok, List.getD_cons_zero,
    List.getD_cons_succ, pyLen_natsPV, pyLt_nat, clsStep]
  by_cases hlt : p.2.length < t
  · simp only [hlt, decide_true, ↓reduceIte, pyAppend_natsPV, bnd_ok, seq_norm, Gen.remove_useless.k1, ite_self]
    exact ⟨_, rfl, rfl⟩
  · simp only [hlt, decide_false, Bool.false_eq_true, ↓reduceIte, pyAppend_natsPV, bnd_ok, seq_norm,
      Gen.remove_useless.k1, ite_self]
    exact ⟨_, rfl, rfl⟩

def fltStep (rm sv : List Nat) (st : List Nat × Bool) (w : Nat) : List Nat × Bool :=
  if keepF rm sv w then (st.1 ++ [w], st.2) else (st.1, true)

theorem flt_foldl (rm sv : List Nat) (l : List Nat) (st : List Nat × Bool) :
    l.foldl (fltStep rm sv) st = (st.1 ++ l.filter (keepF rm sv), st.2 || l.any fun w => !keepF rm sv w) := by
  induction l generalizing st with
  | nil => simp
  | cons w l ih =>
    rw [List.foldl_cons, ih]
    cases h : keepF rm sv w <;> simp [fltStep, h]

def FltRel (rm sv : List Nat) (L T V Rn NL FV : PV) (st : List Nat × Bool) (e : REnv) : Prop :=
  e = { e with
    remove_vertices := natsPV rm, saved_vertices := natsPV sv,
    available_latter_vertices := natsPV st.1, remove_flag := .bool st.2,
    latter_map := L, threshold := T, verbose := V, round_number := Rn, new_latter_map := NL, former_vertex := FV }

theorem for4_spec (rm sv : List Nat) (L T V Rn NL FV : PV) (fuel w : Nat) (st : List Nat × Bool) (e : REnv)
    (h : FltRel rm sv L T V Rn NL FV st e) :
    ∃ e', Gen.remove_useless.for4_body fuel (.int (w : Int)) e = .ok (.norm e') ∧
      FltRel rm sv L T V Rn NL FV (fltStep rm sv st w) e' := by
  rw [h]
  simp only [Gen.remove_useless.for4_body, pyIn_natsPV, bnd_ok, ite_ok_and, fltStep, keepF]
  rcases Bool.eq_false_or_eq_true (!rm.contains w && sv.contains w) with hk | hk
  · simp only [hk, ↓reduceIte, pyAppend_natsPV, bnd_ok]
    exact ⟨_, rfl, rfl⟩
  · simp only [hk, Bool.false_eq_true, ↓reduceIte]
    exact ⟨_, rfl, rfl⟩

def RebRel (rm sv : List Nat) (L T V Rn : PV) (pre : LMap) (e : REnv) : Prop :=
  e = { e with
    remove_vertices := natsPV rm, saved_vertices := natsPV sv,
    new_latter_map := lmapPV (bmap rm sv pre), remove_flag := .bool (bflag rm sv pre),
    latter_map := L, threshold := T, verbose := V, round_number := Rn }

theorem for3_spec (rm sv : List Nat) (L T V Rn : PV) (fuel i : Nat) (pre : LMap) (p : Nat × List Nat)
    (hnot : p.1 ∉ pre.map (·.1)) (e : REnv) (h : RebRel rm sv L T V Rn pre e) :
    ∃ e', Gen.remove_useless.for3_body fuel (.tup [.int (i : Int), itemPV p]) e = .ok (.norm e') ∧
      RebRel rm sv L T V Rn (pre ++ [p]) e' := by
  rw [h]
  simp only [Gen.remove_useless.for3_body, itemPV, pyUnpack_two_tup, bnd_ok, List.getD_cons_zero,
    List.getD_cons_succ, pyIn_natsPV]
  cases hc : rm.contains p.1
  · simp only [Bool.not_false, ↓reduceIte, pyIter_natsPV, bnd_ok]
    have hnot' : p.1 ∉ (bmap rm sv pre).map (·.1) := fun hm => hnot (keys_bmap_sub hm)
    refine seq_norm_exists (Q := RebRel rm sv L T V Rn (pre ++ [p])) ?_ ?_
    · refine seq_norm_exists (Q := FltRel rm sv L T V Rn (lmapPV (bmap rm sv pre)) (.int (p.1 : Int))
        (p.2.foldl (fltStep rm sv) ([], bflag rm sv pre))) ?_ ?_
      · exact forLoop_rel_map (FltRel rm sv L T V Rn (lmapPV (bmap rm sv pre)) (.int (p.1 : Int))) (fltStep rm sv)
          (fun (n : Nat) => PV.int (n : Int)) (fun w _ st e he => for4_spec rm sv _ _ _ _ _ _ fuel w st e he) rfl
      · intro e1 g
        rw [flt_foldl] at g
        rw [g]
        simp only [Gen.remove_useless.k2, List.nil_append, pySetItem_lmapPV_new hnot', bnd_ok]
        refine ⟨_, rfl, ?_⟩
        rw [RebRel, bmap_append_keep pre hc, bflag_append_keep pre hc]
    · intro e1 g
      simp only [Gen.remove_useless.k3, bnd_ok, ite_self]
      exact ⟨_, rfl, g⟩
  · simp only [Bool.not_true, Bool.false_eq_true, ↓reduceIte, seq_norm, Gen.remove_useless.k3, bnd_ok, ite_self]
    refine ⟨_, rfl, ?_⟩
    rw [RebRel, bmap_append_drop pre hc, bflag_append_drop pre hc]

def RU (m : LMap) (t : Nat) (V : PV) (rn : Int) (e : REnv) : Prop :=
  e = { e with latter_map := lmapPV m, threshold := .int (t : Int), verbose := V, round_number := .int rn }

/-- the outcome of one round: `break` when nothing was removed. -/
def RoundPost (m : LMap) (t : Nat) (V : PV) (rn : Int) (r : R (Flow REnv)) : Prop :=
  ∃ e', r = .ok (if (removeUselessRound m t).2 then .norm e' else .brk e') ∧
    RU (removeUselessRound m t).1 t V (rn + 1) e'

theorem k4_spec (m : LMap) (t : Nat) (V : PV) (rn : Int) (fuel : Nat) (e : REnv)
    (h : RebRel (UselessSpec.rem m t) (UselessSpec.sav m t) (lmapPV m) (.int (t : Int)) V (.int rn) m e) :
    RoundPost m t V rn (Gen.remove_useless.k4 fuel e) := by
  rw [h]
  simp only [RoundPost, round_eq, Gen.remove_useless.k4, npAdd_int, bnd_ok, truthy_bool]
  rcases Bool.eq_false_or_eq_true (bflag (UselessSpec.rem m t) (UselessSpec.sav m t) m) with hfl | hfl
  · simp only [hfl, Bool.not_true, Bool.false_eq_true, ↓reduceIte]
    exact ⟨_, rfl, rfl⟩
  · simp only [hfl, Bool.not_false, Bool.false_eq_true, ↓reduceIte]
    exact ⟨_, rfl, rfl⟩

theorem k5_spec (m : LMap) (hm : LMap.KeysNodup m) (t : Nat) (V : PV) (rn : Int) (fuel : Nat) (e : REnv)
    (h : ClsRel t (lmapPV m) V (.int rn) (UselessSpec.rem m t, UselessSpec.sav m t) e) :
    RoundPost m t V rn (Gen.remove_useless.k5 fuel e) := by
  rw [h]
  simp only [Gen.remove_useless.k5, pyDictItems_lmapPV, bnd_ok, pyEnumerate_list, pyIter_list]
  refine seq_pred (RebRel (UselessSpec.rem m t) (UselessSpec.sav m t) (lmapPV m) (.int (t : Int)) V (.int rn) m)
    _ ?_ (fun e1 g => k4_spec m t V rn fuel e1 g)
  refine forLoop_enum_prefix (RebRel (UselessSpec.rem m t) (UselessSpec.sav m t) (lmapPV m) (.int (t : Int)) V
    (.int rn)) itemPV m (fun i pre x suf has e he => ?_) rfl
  have hnd : (m.map (·.1)).Nodup := hm
  rw [has, List.map_append, List.map_cons] at hnd
  have hnot : x.1 ∉ pre.map (·.1) := fun hmem =>
    (List.nodup_append.mp hnd).2.2 x.1 hmem x.1 List.mem_cons_self rfl
  exact for3_spec _ _ _ _ _ _ fuel i pre x hnot e he

theorem k7_spec (m : LMap) (hm : LMap.KeysNodup m) (t : Nat) (V : PV) (rn : Int) (fuel : Nat) (e : REnv)
    (h : RU m t V rn e) : RoundPost m t V rn (Gen.remove_useless.k7 fuel e) := by
  rw [h]
  simp only [Gen.remove_useless.k7, pyLen_lmapPV, pyDictItems_lmapPV, bnd_ok, pyEnumerate_list, pyIter_list]
  refine seq_pred (ClsRel t (lmapPV m) V (.int rn) (m.foldl (clsStep t) ([], []))) _ ?_ ?_
  · exact forLoop_rel_enum (ClsRel t (lmapPV m) V (.int rn)) (clsStep t) itemPV 0
      (fun i p _ st e he => for2_spec t _ _ _ fuel i p st e he) rfl
  · intro e1 g
    rw [cls_foldl, List.nil_append, List.nil_append] at g
    simp only [Gen.remove_useless.k6, bnd_ok, ite_self, seq_norm]
    exact k5_spec m hm t V rn fuel e1 g

theorem round_spec (m : LMap) (hm : LMap.KeysNodup m) (t : Nat) (V : PV) (rn : Int) (fuel : Nat) (e : REnv)
    (h : RU m t V rn e) : RoundPost m t V rn (Gen.remove_useless.while1_body fuel e) := by
  simp only [Gen.remove_useless.while1_body, bnd_ok, ite_self, seq_norm]
  exact k7_spec m hm t V rn fuel e h

theorem while_spec (t : Nat) (V : PV) (fuel : Nat) :
    ∀ (f : Nat) (m r : LMap) (rn : Int) (W : Nat) (e : REnv), LMap.KeysNodup m → RU m t V rn e →
      removeUselessLoop t f m = .ok r → f ≤ W →
      ∃ e', whileLoop (Gen.remove_useless.while1_cond fuel) (Gen.remove_useless.while1_body fuel) W e =
          .ok (.norm e') ∧ e'.latter_map = lmapPV r := by
  intro f
  induction f with
  | zero => intro m r rn W e _ _ h _; cases h
  | succ f ih =>
    intro m r rn W e hm hru h hW
    obtain ⟨W', rfl⟩ : ∃ W', W = W' + 1 := Nat.exists_eq_add_one.mpr (Nat.lt_of_lt_of_le (Nat.succ_pos f) hW)
    obtain ⟨e1, hb, hr1⟩ := round_spec m hm t V rn fuel e hru
    simp only [removeUselessLoop] at h
    cases hfl : (removeUselessRound m t).2
    · rw [hfl] at h hb
      simp only [Bool.false_eq_true, ↓reduceIte, Except.ok.injEq] at h hb
      refine ⟨e1, whileLoop_true_brk (cond := Gen.remove_useless.while1_cond fuel) (e := e) rfl hb W', ?_⟩
      rw [← h, hr1]
    · rw [hfl] at h hb
      simp only [↓reduceIte] at h hb
      rw [whileLoop_true_norm (cond := Gen.remove_useless.while1_cond fuel) (e := e) rfl hb W']
      exact ih _ r (rn + 1) W' e1 (UselessSpec.round_nodup t hm) hr1 h (Nat.le_of_succ_le_succ hW)

theorem remove_useless_tie (m r : LMap) (t fuel : Nat) (V : PV) (hm : LMap.KeysNodup m)
    (h : removeUseless m t = .ok r) (hf : m.arcs + 2 ≤ fuel) :
    Gen.remove_useless fuel (lmapPV m) (.int (t : Int)) V = .ok (lmapPV r) := by
  simp only [Gen.remove_useless, Gen.remove_useless.body, bnd_ok, ite_self, seq_norm, Gen.remove_useless.k9]
  apply callResult_seq_of_norm (fun e => e.latter_map = lmapPV r)
  · exact while_spec t V fuel (m.arcs + 1) m r 1 fuel _ hm rfl h (Nat.le_of_succ_le hf)
  · intro e' h
    simp only [Gen.remove_useless.k8, h, callResult_ret]

abbrev AEnv := Gen.latter_map_to_accessor.Env

def fillAcc (m : LMap) (k : Nat) : Acc :=
  m.foldl (fun acc p => p.2.foldl (fun acc w => acc.setEnt p.1 (w % 4) w) acc)
    (Array.replicate (4 ^ k) (Array.replicate 4 (-1)))

def FillA (k : Nat) (acc : Acc) (e : AEnv) : Prop :=
  e.accessor = accPV acc ∧ Shape (4 ^ k) acc ∧ e.nucleotides = .str ['A', 'C', 'G', 'T']

def FillIn (k v : Nat) (acc : Acc) (e : AEnv) : Prop := FillA k acc e ∧ e.former_vertex = .int (v : Int)

theorem lma_for2_spec (k fuel v : Nat) (hv : v < 4 ^ k) (w : Nat) (acc : Acc) (e : AEnv) (h : FillIn k v acc e) :
    ∃ e', Gen.latter_map_to_accessor.for2_body fuel (.int (w : Int)) e = .ok (.norm e') ∧
      FillIn k v (acc.setEnt v (w % 4) (w : Int)) e' := by
  obtain ⟨⟨h1, h2, h3⟩, h4⟩ := h
  have hv' : v < acc.size := by rw [h2.1]; exact hv
  have hj : w % 4 < (acc.getD v #[]).size := by rw [h2.2 v hv]; exact Nat.mod_lt w (Nat.succ_pos 3)
  simp only [Gen.latter_map_to_accessor.for2_body, h3, GzTie.pyLen_ACGT, bnd_ok,
    pyMod_nat (a := w) (b := 4) (Nat.succ_ne_zero 3), h1, h4, npSetItem2_accPV hv' hj]
  exact ⟨_, rfl, ⟨rfl, h2.setEnt _ _ _, rfl⟩, rfl⟩

theorem lma_for1_spec (k fuel i : Nat) (p : Nat × List Nat) (hp : p.1 < 4 ^ k) (acc : Acc) (e : AEnv)
    (h : FillA k acc e) :
    ∃ e', Gen.latter_map_to_accessor.for1_body fuel (.tup [.int (i : Int), itemPV p]) e = .ok (.norm e') ∧
      FillA k (p.2.foldl (fun acc w => acc.setEnt p.1 (w % 4) w) acc) e' := by
  obtain ⟨h1, h2, h3⟩ := h
  simp only [Gen.latter_map_to_accessor.for1_body, itemPV, pyUnpack_two_tup, bnd_ok, List.getD_cons_zero,
    List.getD_cons_succ, pyIter_natsPV]
  refine seq_norm_exists (Q := FillIn k p.1 (p.2.foldl (fun acc w => acc.setEnt p.1 (w % 4) w) acc)) ?_ ?_
  · exact forLoop_rel_map (FillIn k p.1) (fun acc (w : Nat) => acc.setEnt p.1 (w % 4) (w : Int))
      (fun (n : Nat) => PV.int (n : Int)) (fun w _ st e he => lma_for2_spec k fuel p.1 hp w st e he)
      ⟨⟨h1, h2, h3⟩, rfl⟩
  · intro e1 g
    simp only [Gen.latter_map_to_accessor.k1, bnd_ok, ite_self]
    exact ⟨_, rfl, g.1⟩

theorem lma_k2_spec (k fuel : Nat) (m : LMap) (hk : ∀ p ∈ m, p.1 < 4 ^ k) (e : AEnv)
    (hl : e.latter_map = lmapPV m) (ha : e.accessor = accPV (Array.replicate (4 ^ k) (Array.replicate 4 (-1))))
    (hn : e.nucleotides = .str ['A', 'C', 'G', 'T']) :
    ∃ e', Gen.latter_map_to_accessor.k2 fuel e = .ok (.norm e') ∧ FillA k (fillAcc m k) e' := by
  simp only [Gen.latter_map_to_accessor.k2, hl, pyDictItems_lmapPV, pyLen_list, bnd_ok, pyEnumerate_list,
    pyIter_list]
  unfold fillAcc
  refine forLoop_rel_enum (FillA k) (fun acc p => p.2.foldl (fun acc w => acc.setEnt p.1 (w % 4) w) acc) itemPV 0
    (fun i p hp st e he => lma_for1_spec k fuel i p (hk p hp) st e he) ?_
  exact ⟨ha, Shape_init _, hn⟩

theorem lma_k4_spec (k fuel : Nat) (m : LMap) (hk : ∀ p ∈ m, p.1 < 4 ^ k) (e : AEnv)
    (hl : e.latter_map = lmapPV m) (ho : e.observed_length = .int (k : Int))
    (hn : e.nucleotides = .str ['A', 'C', 'G', 'T']) :
    Gen.latter_map_to_accessor.k4 fuel e = .ok (.ret (accPV (fillAcc m k))) := by
  simp only [Gen.latter_map_to_accessor.k4, hn, GzTie.pyLen_ACGT, bnd_ok, ho, pyPow_nat, neg_ones_expr, hl,
    pyLen_lmapPV, pyGt_nat_zero]
  by_cases h0 : 0 < m.length
  · simp only [h0, decide_true, ↓reduceIte, ite_self, seq_norm]
    apply seq_eq_of_norm (FillA k (fillAcc m k))
    · exact lma_k2_spec k fuel m hk _ (rfl) rfl (rfl)
    · intro e' g
      simp only [Gen.latter_map_to_accessor.k3, g.1]
  · have hm : m = [] := List.eq_nil_of_length_eq_zero (Nat.eq_zero_of_not_pos h0)
    subst hm
    simp only [List.length_nil, Nat.lt_irrefl, decide_false, Bool.false_eq_true, ↓reduceIte, seq_norm,
      Gen.latter_map_to_accessor.k3]
    rfl

theorem lma_model (m : LMap) (k : Nat) (hk : ∀ p ∈ m, p.1 < 4 ^ k) :
    (if m.any (fun p => decide (p.1 ≥ 4 ^ k)) then (Except.error PyErr.indexError : R Acc)
      else pure (fillAcc m k)) = .ok (fillAcc m k) := by
  have : m.any (fun p => decide (p.1 ≥ 4 ^ k)) = false := by
    rw [List.any_eq_false]
    intro p hp
    simp only [ge_iff_le, decide_eq_true_eq]
    exact Nat.not_le_of_gt (hk p hp)
  rw [this]; rfl

theorem lma_plain_tie (m : LMap) (k fuel : Nat) (V : PV) (hk : ∀ p ∈ m, p.1 < 4 ^ k) :
    Gen.latter_map_to_accessor fuel (lmapPV m) (.int (k : Int)) .none V =
      (latterMapToAccessor m k Option.none).map accPV := by
  have hmod : latterMapToAccessor m k Option.none = .ok (fillAcc m k) := lma_model m k hk
  rw [hmod]
  simp only [Gen.latter_map_to_accessor, Gen.latter_map_to_accessor.body, pyIsNone_none, Bool.not_true, bnd_ok,
    Bool.false_eq_true, ↓reduceIte, seq_norm]
  rw [lma_k4_spec k fuel m hk _ rfl rfl rfl]
  rfl

theorem lma_trim_tie (m : LMap) (k t fuel : Nat) (V : PV) (hm : LMap.KeysNodup m)
    (hk : ∀ p ∈ m, p.1 < 4 ^ k) (hf : m.arcs + 2 ≤ fuel) :
    Gen.latter_map_to_accessor fuel (lmapPV m) (.int (k : Int)) (.int (t : Int)) V =
      (latterMapToAccessor m k (some t)).map accPV := by
  obtain ⟨r, hr, hsub, _, _⟩ := UselessSpec.removeUseless_spec m t hm
  have hkr : ∀ p ∈ r, p.1 < 4 ^ k := by
    intro p hp
    obtain ⟨q, hq, hqp⟩ := List.mem_map.mp (hsub.1.subset (List.mem_map_of_mem hp))
    exact hqp ▸ hk q hq
  have hmod : latterMapToAccessor m k (some t) = .ok (fillAcc r k) := by
    simp only [latterMapToAccessor, hr]
    exact lma_model r k hkr
  rw [hmod]
  simp only [Gen.latter_map_to_accessor, Gen.latter_map_to_accessor.body, pyIsNone_int, Bool.not_false, bnd_ok,
    ↓reduceIte, remove_useless_tie m r t fuel V hm hr hf, seq_norm]
  rw [lma_k4_spec k fuel r hkr _ rfl rfl rfl]
  rfl

end Dsw.Tie.GzV
