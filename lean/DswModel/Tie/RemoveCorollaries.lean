import DswModel.Tie.SwRemove
import DswModel.Tie.GraphCorollaries
import DswModel.Props.C19
/-!
# DswModel.Tie.RemoveCorollaries — C19 restated on the generated `remove_nasty_arc`

`tie_remove_nasty_arc` proves that `Gen.remove_nasty_arc` computes the model's `removeNastyArc`.
Composed with `C19_step` / `C19_history`: one returning call of the generated code removes exactly one existing arc, that arc has the maximum intersection score of the graph before the call, no other
cell changes, and the two views it hands back describe the same graph; over any sequence of returning calls the views
stay in step and each call removes one arc.
-/
namespace Dsw.Tie
open Dsw Dsw.Py
open SwCor RepCor GraphCor

/-- what a returning call of the generated code returned, in model terms. -/
theorem gen_C19_returns (k : Nat) (a : Acc) (lm : LMap) (ins del vb : Bool) (fuel it : Nat) (v : PV)
    (hc : Consistent k a lm)
    (h : Gen.remove_nasty_arc fuel (accPV a) (lmapPV lm) (.int (it : Int)) (.bool ins) (.bool del) (.bool vb) = .ok v) :
    ∃ r, removeNastyArc a lm ins del = .ok r ∧ v = removeResultPV r := by
  obtain ⟨hw, rfl⟩ := hc
  rw [tie_remove_nasty_arc a _ k fuel it ins del vb hw.wf hw.1 (keysNodup_latterMap a) (keys_lt_latterMap hw.1)] at h
  cases hr : removeNastyArc a (accessorToLatterMap a) ins del with
  | error e => rw [hr] at h; cases h
  | ok r => rw [hr] at h; exact ⟨r, rfl, by injection h with h; exact h.symm⟩

/-- C19 on the generated code, one call: it removes exactly one arc that existed, that arc has the maximum intersection
score of the graph before the call, no other cell changes, the accessor and the latter map handed back describe the same
graph, and the graph has one arc less. -/
theorem gen_C19_step (k : Nat) (a : Acc) (lm : LMap) (ins del vb : Bool) (fuel it : Nat) (v : PV) (hk : 1 ≤ k)
    (hc : Consistent k a lm)
    (h : Gen.remove_nasty_arc fuel (accPV a) (lmapPV lm) (.int (it : Int)) (.bool ins) (.bool del) (.bool vb) = .ok v) :
    ∃ r, v = removeResultPV r ∧ r.former < 4 ^ k ∧
      ∃ j, j < 4 ∧ a.ent (r.former : Int) j = (r.latter : Int) ∧
        r.acc = a.setEnt r.former j (-1) ∧
        (∀ u j' : Nat, u < 4 ^ k → j' < 4 →
          scoreAt (calculateIntersectionScore lm k ins del) u j' ≤
            scoreAt (calculateIntersectionScore lm k ins del) r.former j) ∧
        Consistent k r.acc r.lmap ∧ r.acc.arcCount + 1 = a.arcCount := by
  obtain ⟨r, hr, rfl⟩ := gen_C19_returns k a lm ins del vb fuel it v hc h
  exact ⟨r, rfl, C19_step k a lm ins del r hk hc hr⟩

/-- a sequence of calls of the generated code, each fed with the views the previous one returned. -/
def genRemoveSeq (fuel : Nat) : PV → PV → List (Bool × Bool) → R (PV × PV)
  | a, lm, [] => .ok (a, lm)
  | a, lm, f :: fs =>
    match Gen.remove_nasty_arc fuel a lm (.int 0) (.bool f.1) (.bool f.2) (.bool false) with
    | .ok (.tup [a', lm', _, _]) => genRemoveSeq fuel a' lm' fs
    | .ok _ => .error .other
    | .error e => .error e

/-- C19 on the generated code, any history: over any sequence of returning calls the two views stay in step and each
call removes exactly one arc. -/
theorem gen_C19_history (k : Nat) (a : Acc) (lm : LMap) (flags : List (Bool × Bool)) (fuel : Nat) (va vl : PV)
    (hk : 1 ≤ k) (hc : Consistent k a lm)
    (h : genRemoveSeq fuel (accPV a) (lmapPV lm) flags = .ok (va, vl)) :
    ∃ a' lm', va = accPV a' ∧ vl = lmapPV lm' ∧ Consistent k a' lm' ∧ a'.arcCount + flags.length = a.arcCount := by
  induction flags generalizing a lm with
  | nil =>
    simp only [genRemoveSeq, Except.ok.injEq, Prod.mk.injEq] at h
    exact ⟨a, lm, h.1.symm, h.2.symm, hc, rfl⟩
  | cons f fs ih =>
    rw [genRemoveSeq] at h
    cases hcall : Gen.remove_nasty_arc fuel (accPV a) (lmapPV lm) (.int 0) (.bool f.1) (.bool f.2) (.bool false) with
    | error e => rw [hcall] at h; cases h
    | ok v =>
      obtain ⟨r, rfl, _, j, _, _, _, _, hc', hcnt⟩ := gen_C19_step k a lm f.1 f.2 false fuel 0 v hk hc hcall
      rw [hcall] at h
      simp only [removeResultPV] at h
      obtain ⟨a', lm', h1, h2, h3, h4⟩ := ih r.acc r.lmap hc' h
      refine ⟨a', lm', h1, h2, h3, ?_⟩
      simp only [List.length_cons]
      omega

end Dsw.Tie
