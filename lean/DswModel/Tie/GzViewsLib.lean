import DswModel.Tie.NpLemmas
import DswModel.Tie.ViewDefs
import DswModel.Tie.GzArith
import DswModel.Lemmas.Removal
/-!
# Computation lemmas for the graph views of dsw/graphized.py: dicts as `lmapPV`, lists of naturals, and the
two-dimensional integer arrays behind `accPV`, each under the Python expression it evaluates; and the loop rule
`forLoop_enum_prefix`
-/
namespace Dsw.Tie.GzV
open Dsw Dsw.Py Dsw.Tie

section Loops
variable {ε α : Type}

/-- `forLoop_enum_len` with the position passed as a variable `i` (it is `pre.length`; for bodies that never use it). -/
theorem forLoop_enum_prefix {body : PV → ε → R (Flow ε)} (Rel : List α → ε → Prop) (emb : α → PV)
    (as : List α)
    (h : ∀ (i : Nat) (pre : List α) (x : α) (suf : List α), as = pre ++ x :: suf → ∀ e, Rel pre e →
      ∃ e', body (.tup [.int (i : Int), emb x]) e = .ok (.norm e') ∧ Rel (pre ++ [x]) e')
    {e : ε} (h0 : Rel [] e) :
    ∃ e', forLoop body (enumFrom 0 (as.map emb)) e = .ok (.norm e') ∧ Rel as e' :=
  forLoop_enum_len Rel emb as (fun pre => h pre.length pre) h0

end Loops

theorem ite_ok_and (c d : Bool) : (if c then (Except.ok d : R Bool) else .ok false) = .ok (c && d) := by
  cases c <;> rfl

theorem foldl_append_flatMap {α β} (f : α → List β) (l : List α) (init : List β) :
    l.foldl (fun acc x => acc ++ f x) init = init ++ l.flatMap f := by
  induction l generalizing init with
  | nil => simp
  | cons x xs ih => rw [List.foldl_cons, ih, List.flatMap_cons, List.append_assoc]

theorem foldl_const_iterate {α β} (f : β → β) (l : List α) (s : β) (g : Nat → β → β)
    (h0 : ∀ s, g 0 s = s) (hs : ∀ n s, g (n + 1) s = g n (f s)) :
    l.foldl (fun s _ => f s) s = g l.length s := by
  induction l generalizing s with
  | nil => exact (h0 s).symm
  | cons x xs ih => rw [List.foldl_cons, ih, List.length_cons, hs]

theorem findIdxEq_nats_isSome (l : List Nat) (w i : Nat) :
    (findIdxEq (.int (w : Int)) (l.map fun (n : Nat) => PV.int (n : Int)) i).isSome = l.contains w := by
  induction l generalizing i with
  | nil => rfl
  | cons x xs ih =>
    rw [List.map_cons, findIdxEq_cons, eqb_int, natCast_beq, List.contains_cons, BEq.comm (a := w)]
    cases h : (x == w)
    · rw [if_neg Bool.false_ne_true, Bool.false_or]; exact ih (i + 1)
    · rfl

/-- `w in vertices` for a Python list of naturals. -/
theorem pyIn_natsPV (w : Nat) (l : List Nat) : pyIn (.int (w : Int)) (natsPV l) = .ok (l.contains w) := by
  simp only [pyIn, natsPV, findIdxEq_nats_isSome]

theorem npAdd_natsPV (s t : List Nat) : npAdd (natsPV s) (natsPV t) = .ok (natsPV (s ++ t)) := by
  simp only [natsPV, npAdd_list, List.map_append]

theorem lmapPV_cons (p : Nat × List Nat) (m : LMap) :
    lmapPV (p :: m) = .dict (.int (p.1 : Int) :: m.map fun p => PV.int (p.1 : Int))
      (natsPV p.2 :: m.map fun p => natsPV p.2) := rfl

theorem lmapPV_nil : lmapPV [] = .dict [] [] := rfl

theorem lmapPV_append_singleton (m : LMap) (v : Nat) (l : List Nat) :
    lmapPV (m ++ [(v, l)]) = .dict ((m.map fun p => PV.int (p.1 : Int)) ++ [.int (v : Int)])
      ((m.map fun p => natsPV p.2) ++ [natsPV l]) := by
  simp [lmapPV]

@[simp] theorem pyIsNone_lmapPV (m : LMap) : pyIsNone (lmapPV m) = false := rfl

theorem get?_nil (v : Nat) : LMap.get? [] v = Option.none := rfl

theorem get?_cons (p : Nat × List Nat) (m : LMap) (v : Nat) :
    LMap.get? (p :: m) v = if p.1 == v then some p.2 else LMap.get? m v := by
  unfold LMap.get?
  rw [List.find?_cons]
  cases h : (p.1 == v) <;> simp

theorem findIdxEq_succ (x : PV) (l : List PV) (i : Nat) :
    findIdxEq x l (i + 1) = (findIdxEq x l i).map (· + 1) := by
  induction l generalizing i with
  | nil => rfl
  | cons y ys ih =>
    rw [findIdxEq_cons, findIdxEq_cons]
    by_cases h : PV.eqb y x = true
    · simp [h]
    · simp only [h]; exact ih (i + 1)

/-- the search in a non-empty key list, as the `dict` arms of `pyIndex` / `pySetItem` / `pyDelItem` run it. -/
theorem findIdxEq_cons_zero (key k : PV) (ks : List PV) :
    findIdxEq key (k :: ks) 0 = if PV.eqb k key then some 0 else (findIdxEq key ks 0).map (· + 1) := by
  rw [findIdxEq_cons, Nat.zero_add, findIdxEq_succ]

theorem findIdxEq_keys_isSome (m : LMap) (v i : Nat) :
    (findIdxEq (.int (v : Int)) (m.map fun p => PV.int (p.1 : Int)) i).isSome = (LMap.get? m v).isSome := by
  induction m generalizing i with
  | nil => rfl
  | cons p m ih =>
    rw [List.map_cons, findIdxEq_cons, eqb_int, natCast_beq, get?_cons]
    cases h : (p.1 == v)
    · rw [if_neg Bool.false_ne_true, if_neg Bool.false_ne_true]; exact ih (i + 1)
    · rfl

theorem findIdxEq_keys_none {m : LMap} {v : Nat} (h : v ∉ m.map (·.1)) (i : Nat) :
    findIdxEq (.int (v : Int)) (m.map fun p => PV.int (p.1 : Int)) i = Option.none := by
  induction m generalizing i with
  | nil => rfl
  | cons p m ih =>
    rw [List.map_cons] at h
    have hp : ¬ p.1 = v := fun e => h (by rw [e]; exact List.mem_cons_self)
    have hb : ((p.1 : Int) == (v : Int)) = false := by rw [natCast_beq]; simpa using hp
    rw [List.map_cons, findIdxEq_cons, eqb_int, hb]
    simp only [Bool.false_eq_true, if_false]
    exact ih (fun hm => h (List.mem_cons_of_mem _ hm)) (i + 1)

/-- `v in latter_map`. -/
theorem pyIn_lmapPV (m : LMap) (v : Nat) : pyIn (.int (v : Int)) (lmapPV m) = .ok (LMap.get? m v).isSome := by
  simp only [pyIn, lmapPV, findIdxEq_keys_isSome]

theorem pyIndex_dict_cons (k x key : PV) (ks xs : List PV) :
    pyIndex (.dict (k :: ks) (x :: xs)) key =
      if PV.eqb k key then .ok x else pyIndex (.dict ks xs) key := by
  simp only [pyIndex, findIdxEq_cons_zero]
  cases PV.eqb k key <;> cases findIdxEq key ks 0 <;> rfl

/-- `latter_map[v]` for a key that is there. -/
theorem pyIndex_lmapPV {m : LMap} {v : Nat} {l : List Nat} (h : LMap.get? m v = some l) :
    pyIndex (lmapPV m) (.int (v : Int)) = .ok (natsPV l) := by
  induction m with
  | nil => cases h
  | cons p m ih =>
    rw [get?_cons] at h
    rw [lmapPV_cons, pyIndex_dict_cons, eqb_int, natCast_beq]
    cases hb : (p.1 == v)
    · rw [hb] at h
      simp only [Bool.false_eq_true, if_false] at h ⊢
      exact ih h
    · rw [hb] at h
      simp only [if_true, Option.some.injEq] at h ⊢
      rw [h]

/-- `latter_map[v] = l` for a key that is not there yet: appended. -/
theorem pySetItem_lmapPV_new {m : LMap} {v : Nat} (h : v ∉ m.map (·.1)) (l : List Nat) :
    pySetItem (lmapPV m) (.int (v : Int)) (natsPV l) = .ok (lmapPV (m ++ [(v, l)])) := by
  rw [lmapPV_append_singleton]
  simp only [pySetItem, lmapPV, findIdxEq_keys_none h]

theorem zipPairs_lmap (m : LMap) :
    zipPairs (m.map fun p => PV.int (p.1 : Int)) (m.map fun p => natsPV p.2) =
      m.map fun p => PV.tup [.int (p.1 : Int), natsPV p.2] := by
  induction m with
  | nil => rfl
  | cons p m ih => simp only [List.map_cons, zipPairs, ih]

/-- the item a loop over `latter_map.items()` sees. -/
def itemPV (p : Nat × List Nat) : PV := .tup [.int (p.1 : Int), natsPV p.2]

theorem pyDictItems_lmapPV (m : LMap) : pyDictItems (lmapPV m) = .ok (.list (m.map itemPV)) := by
  simp only [pyDictItems, lmapPV, zipPairs_lmap]; rfl

theorem pyLen_lmapPV (m : LMap) : pyLen (lmapPV m) = .ok (.int (m.length : Int)) := by
  simp [pyLen, lmapPV]

/-- a list of rows as a two-dimensional integer array. -/
def mat (rows : List (List Int)) : PV := .arr (rows.map fun r => .arr (r.map .int))

theorem accPV_eq_mat (a : Acc) : accPV a = mat (a.toList.map Array.toList) := by
  simp only [accPV, mat, List.map_map]; rfl

/-- `accessor + 1`. -/
theorem npAdd_mat_int (rows : List (List Int)) (b : Int) :
    npAdd (mat rows) (.int b) = .ok (mat (rows.map fun r => r.map (· + b))) := by
  simp only [mat, npAdd, arrBroadcast_arr_int]
  rw [mapM'_map (g := fun (r : List Int) => PV.arr ((r.map (· + b)).map .int))]
  · simp only [R_map_ok, List.map_map, Function.comp_def]
  · intro r _
    simp only [addItem]
    rw [arrBroadcast_map_int (g := fun a => PV.int (a + b)) (fun _ => rfl), List.map_map]; rfl

/-- `.astype(bool)` on a two-dimensional integer array. -/
theorem npAstypeBool_mat (rows : List (List Int)) :
    npAstypeBool (mat rows) = .ok (.arr (rows.map fun r => .arr ((r.map fun x => x != 0).map .bool))) := by
  simp only [npAstypeBool, npAstype, mat, List.map_map, Function.comp_def]
  rfl

def cntI (bs : List Bool) : Int := (bs.map fun b => if b then (1 : Int) else 0).foldl (· + ·) 0

theorem cntI_eq (bs : List Bool) : cntI bs = ((bs.filter id).length : Int) := foldl_bools bs

theorem cntI_nil : cntI [] = 0 := rfl
theorem cntI_cons (b : Bool) (bs : List Bool) : cntI (b :: bs) = (if b then 1 else 0) + cntI bs := by
  unfold cntI
  rw [List.map_cons, List.foldl_cons, foldl_add_shift]; omega

theorem cntI_pos_iff (bs : List Bool) : 0 < cntI bs ↔ bs.any id = true := by
  rw [cntI_eq, Int.natCast_pos, List.length_pos_iff_exists_mem, List.any_eq_true]
  exact ⟨fun ⟨x, hx⟩ => ⟨x, List.mem_filter.mp hx⟩, fun ⟨x, hx⟩ => ⟨x, List.mem_filter.mpr hx⟩⟩

theorem cntI_ne_zero_iff (bs : List Bool) : cntI bs ≠ 0 ↔ bs.any id = true := by
  rw [← cntI_pos_iff, cntI_eq, Int.natCast_pos, Int.natCast_ne_zero, Nat.pos_iff_ne_zero]

/-- `sum(axis=1)` of a two-dimensional boolean array. -/
theorem npSumAxis1_bools (rows : List (List Bool)) :
    npSumAxis1 (.arr (rows.map fun r => .arr (r.map .bool))) = .ok (.arr ((rows.map cntI).map .int)) := by
  simp only [npSumAxis1]
  rw [mapM'_map (g := fun (r : List Bool) => PV.int (cntI r))]
  · simp only [R_map_ok, List.map_map]; rfl
  · intro r _
    simp only [npSum, mapM_asInt?_bools]; rfl

theorem npAstypeBool_ints (xs : List Int) :
    npAstypeBool (.arr (xs.map .int)) = .ok (.arr ((xs.map fun x => x != 0).map .bool)) := by
  simp only [npAstypeBool, npAstype, List.map_map]
  congr 2

theorem npAstypeInt_ints (xs : List Int) : npAstypeInt (.arr (xs.map .int)) = .ok (.arr (xs.map .int)) := by
  simp only [npAstypeInt, npAstype, List.map_map]
  congr 2

theorem npAstypeInt_nats (xs : List Nat) :
    npAstypeInt (.arr (xs.map fun (n : Nat) => PV.int (n : Int))) =
      .ok (.arr (xs.map fun (n : Nat) => PV.int (n : Int))) := by
  rw [← map_natCast_int, npAstypeInt_ints]

/-- `bools == 1`. -/
theorem npCmp_pyEq_bools_one (bs : List Bool) :
    npCmp pyEq (.arr (bs.map .bool)) (.int 1) = .ok (.arr (bs.map .bool)) := by
  rw [npCmp, arrBroadcast_map_int (g := fun b => PV.bool b)]
  intro b
  cases b <;> rfl

/-- the row flags `sum((accessor + 1).astype(bool), axis=1)`. -/
theorem row_sums (rows : List (List Int)) :
    (bnd (bnd (npAdd (mat rows) (.int 1)) fun t => npAstypeBool t) fun t => npSumAxis1 t) =
      .ok (.arr ((rows.map fun r => cntI (r.map fun x => x + 1 != 0)).map .int)) := by
  rw [npAdd_mat_int, bnd_ok, npAstypeBool_mat, bnd_ok]
  have := npSumAxis1_bools ((rows.map fun r => r.map (· + 1)).map fun r => r.map fun x => x != 0)
  simp only [List.map_map, Function.comp_def] at this ⊢
  exact this

/-- the rows that have an entry different from `-1`, as positions. -/
def liveRows (rows : List (List Int)) : List Nat :=
  (List.range rows.length).filter fun j => (rows.getD j []).any fun x => x + 1 != 0

theorem where_flags (rows : List (List Int)) (p : Int → Bool)
    (hp : ∀ r : List Int, p (cntI (r.map fun x => x + 1 != 0)) = r.any fun x => x + 1 != 0) :
    (bnd (npWhere (.arr (rows.map fun r => .bool (p (cntI (r.map fun x => x + 1 != 0))))))
        fun t => pyIndex t (.int 0)) = .ok (idxArrPV (liveRows rows)) := by
  rw [npWhere_map_bool (fun r : List Int => p (cntI (r.map fun x => x + 1 != 0))) rows []]
  simp only [hp]
  rfl

theorem liveRows_acc (a : Acc) : liveRows (a.toList.map Array.toList) = obtainVertices a := by
  unfold liveRows obtainVertices
  rw [List.length_map, Array.length_toList]
  apply List.filter_congr
  intro v hv
  have hlt : v < a.size := List.mem_range.mp hv
  simp only [List.getD_eq_getElem?_getD, List.getElem?_map, Array.getElem?_toList,
    Array.getD_eq_getD_getElem?, Array.getElem?_eq_getElem hlt, Option.map_some, Option.getD_some,
    Array.any_toList]

theorem mem_obtainVertices {a : Acc} {v : Nat} (h : v ∈ obtainVertices a) : v < a.size :=
  mem_obtainVertices_lt h

theorem nodup_obtainVertices (a : Acc) : (obtainVertices a).Nodup :=
  List.Nodup.sublist List.filter_sublist List.nodup_range

/-- `where(sum((accessor + 1).astype(bool), axis=1).astype(bool) == 1)[0].astype(int)`. -/
theorem vertices_expr (a : Acc) :
    (bnd (bnd (bnd (bnd (bnd (bnd (bnd (npAdd (accPV a) (.int 1)) fun t => npAstypeBool t)
        fun t => npSumAxis1 t) fun t => npAstypeBool t) fun t => npCmp pyEq t (.int 1))
        fun t => npWhere t) fun t => pyIndex t (.int 0)) fun t => npAstypeInt t) =
      .ok (idxArrPV (obtainVertices a)) := by
  rw [accPV_eq_mat, row_sums, bnd_ok, npAstypeBool_ints, bnd_ok, npCmp_pyEq_bools_one, bnd_ok, List.map_map]
  have h := where_flags (a.toList.map Array.toList) (fun c => c != 0)
    (fun r => by
      rw [Bool.eq_iff_iff]
      simp only [bne_iff_ne]
      rw [cntI_ne_zero_iff, List.any_map]; rfl)
  simp only [List.map_map, Function.comp_def] at h ⊢
  rw [h, bnd_ok, liveRows_acc, idxArrPV, npAstypeInt_nats]

/-- `where(sum((accessor + 1).astype(bool), axis=1).astype(int) > 0)[0]`. -/
theorem locations_expr (a : Acc) :
    (bnd (bnd (bnd (bnd (bnd (bnd (npAdd (accPV a) (.int 1)) fun t => npAstypeBool t)
        fun t => npSumAxis1 t) fun t => npAstypeInt t) fun t => npCmp pyGt t (.int 0))
        fun t => npWhere t) fun t => pyIndex t (.int 0)) =
      .ok (idxArrPV (obtainVertices a)) := by
  rw [accPV_eq_mat, row_sums, bnd_ok, npAstypeInt_ints, bnd_ok, npCmp_pyGt_ints_int, bnd_ok]
  have h := where_flags (a.toList.map Array.toList) (fun c => decide (0 < c))
    (fun r => by
      rw [Bool.eq_iff_iff]
      simp only [decide_eq_true_eq]
      rw [cntI_pos_iff, List.any_map]; rfl)
  simp only [List.map_map, Function.comp_def] at h ⊢
  rw [h, liveRows_acc]

theorem maskSelect_map {α} (ea : α → PV) (p : α → Bool) (xs : List α) :
    maskSelect (xs.map ea) (xs.map fun x => .bool (p x)) = .ok ((xs.filter p).map ea) := by
  induction xs with
  | nil => rfl
  | cons x xs ih =>
    simp only [List.map_cons, maskSelect, ih, truthy_bool, List.filter_cons]
    cases p x <;> rfl

theorem npToList_ints (l : List Int) : npToList (.arr (l.map .int)) = .ok (.list (l.map .int)) := by
  simp only [npToList, List.map_map]
  congr 2

/-- `row[row >= 0].tolist()`. -/
theorem row_live_tolist (r : List Int) :
    (bnd (bnd (npCmp pyGe (.arr (r.map .int)) (.int 0)) fun t => npMaskIndex (.arr (r.map .int)) t)
        fun t => npToList t) = .ok (.list ((r.filter fun x => decide (0 ≤ x)).map .int)) := by
  rw [npCmp_pyGe_ints_int, bnd_ok]
  simp only [npMaskIndex, maskSelect_map PV.int (fun x => decide ((0 : Int) ≤ x)) r, R_map_ok, bnd_ok,
    npToList_ints]

theorem liveEntries_eq {a : Acc} (ha : a.WF) {v : Int} (h0 : 0 ≤ v) (hv : v < a.size) :
    ((a.row v).toList.filter fun x => decide (0 ≤ x)).map PV.int =
      (a.liveEntries v).map fun (n : Nat) => PV.int (n : Int) := by
  have hrow : (a.row v).toList = (List.range 4).map fun j => a.ent v j := by
    rw [ha.row_toList h0 hv]; rfl
  rw [hrow, List.filter_map, List.map_map, Acc.liveEntries, Acc.live, List.map_map]
  apply List.map_congr_left
  intro j hj
  have hge : 0 ≤ a.ent v j := of_decide_eq_true (List.mem_filter.mp hj).2
  exact congrArg PV.int (Int.toNat_of_nonneg hge).symm

/-- the idiom `vertex = accessor[v]; vertex[vertex >= 0].tolist()`: the live entries of row `v`. -/
theorem acc_live_tolist {a : Acc} (ha : a.WF) {v : Nat} (hv : v < a.size) :
    (bnd (bnd (npCmp pyGe (rowPV (a.row (v : Int))) (.int 0)) fun t => npMaskIndex (rowPV (a.row (v : Int))) t)
        fun t => npToList t) = .ok (natsPV (a.liveEntries (v : Int))) := by
  rw [rowPV, row_live_tolist, liveEntries_eq ha (Int.natCast_nonneg v) (Int.ofNat_lt.mpr hv)]; rfl

theorem liveEntries_lt {a : Acc} (ha : a.WF) {v : Nat} (hv : v < a.size) {w : Nat}
    (hw : w ∈ a.liveEntries (v : Int)) : w < a.size := by
  obtain ⟨j, hj, rfl⟩ := List.mem_map.mp hw
  have := ha.ent_of_live (v := (v : Int)) (Int.natCast_nonneg v) (Int.ofNat_lt.mpr hv) hj
  exact (Int.toNat_lt this.1).mpr this.2

def Shape (n : Nat) (a : Acc) : Prop := a.size = n ∧ ∀ i, i < n → (a.getD i #[]).size = 4

theorem Shape_init (n : Nat) : Shape n (Array.replicate n (Array.replicate 4 (-1))) := by
  refine ⟨by simp, fun i hi => ?_⟩
  simp [Array.getD_eq_getD_getElem?, hi]

theorem size_getD_setCell {α : Type} (a : Array (Array α)) (v j : Nat) (x : α) {i : Nat} (hi : i < a.size) :
    ((a.setIfInBounds v ((a.getD v #[]).setIfInBounds j x)).getD i #[]).size = (a.getD i #[]).size := by
  rw [Array.getD_eq_getD_getElem?, Array.getElem?_setIfInBounds]
  by_cases hiv : v = i
  · subst hiv
    rw [if_pos rfl, if_pos hi, Option.getD_some, Array.size_setIfInBounds]
  · rw [if_neg hiv, ← Array.getD_eq_getD_getElem?]

theorem Shape.setEnt {n : Nat} {a : Acc} (h : Shape n a) (v j : Nat) (x : Int) : Shape n (a.setEnt v j x) :=
  ⟨(Array.size_setIfInBounds ..).trans h.1,
    fun i hi => (size_getD_setCell a v j x (h.1 ▸ hi)).trans (h.2 i hi)⟩

/-- row `v` of a table embedded cell by cell. -/
theorem getElem?_map_rows {α : Type} (f : α → PV) (a : Array (Array α)) {v : Nat} (hv : v < a.size) :
    (a.toList.map fun r => PV.arr (r.toList.map f))[v]? = some (.arr ((a.getD v #[]).toList.map f)) := by
  rw [List.getElem?_map, Array.getElem?_toList, Array.getD_eq_getD_getElem?, Array.getElem?_eq_getElem hv]
  rfl

theorem npSetItem2_accPV {a : Acc} {v j : Nat} (hv : v < a.size) (hj : j < (a.getD v #[]).size) (x : Int) :
    npSetItem2 (accPV a) (.int (v : Int)) (.int (j : Int)) (.int x) = .ok (accPV (a.setEnt v j x)) := by
  have hk : ((a.getD v #[]).toList.map fun (x : Int) => PV.int x)[j]? = some (.int ((a.getD v #[])[j]'hj)) := by
    rw [List.getElem?_map, Array.getElem?_toList, Array.getElem?_eq_getElem hj]
    rfl
  rw [accPV, GzTie.npSetItem2_nat (getElem?_map_rows _ a hv) hk]
  simp only [accPV, Acc.setEnt, Array.toList_setIfInBounds, List.map_set]

theorem accPV_init (n : Nat) :
    accPV (Array.replicate n (Array.replicate 4 (-1))) = .arr (List.replicate n GzTie.negRow) := by
  simp [accPV, GzTie.negRow]

/-- `-ones((n, 4))`. -/
theorem neg_ones_expr (n : Nat) :
    (bnd (npOnes (.tup [.int (n : Int), .int ((4 : Nat) : Int)])) fun t => npNeg t) =
      .ok (accPV (Array.replicate n (Array.replicate 4 (-1)))) := by
  rw [show PV.int ((4 : Nat) : Int) = PV.int 4 from rfl, GzTie.npOnes_nat_four, bnd_ok, npNeg,
    GzTie.npNegList_ones, accPV_init]; rfl

end Dsw.Tie.GzV
