import DswModel.Tie.SwVt
import DswModel.Tie.OpDiv
import DswModel.Tie.OpBits
import DswModel.Tie.SwEncodeNp
/-!
# Translation tie — `encode` (dsw/spiderweb.py)

`Dsw.Gen.encode` computes the model function
`Dsw.encode` — both modes, with and without a shuffle table, with and without a check, including
the error outcomes and running out of fuel at the same iteration — for every well-formed accessor
(`Acc.WF`: four entries per row, each `-1` or a row index), every start vertex of it, every table
the code can index (`TblOK`) and every 0/1 message (`need_path=False`; `verbose` has no influence).

The two `while` loops follow `encodeNormalLoop` / `encodeFastLoop` iteration by iteration (induction on
the shared fuel), generalised over the strand already emitted and, in fast mode, over the position
(`bits.drop location`).
-/
namespace Dsw.Tie
open Dsw Dsw.Py EncNp BitsTie
open DecodeTie (InR inR_natCast idxPV pyLen_idxPV used_spec)

namespace EncTie

theorem bit_to_number_arr (bits : List Nat) (fuel : Nat) (verbose : Bool) (hb : ∀ x ∈ bits, x ≤ 1)
    (hf : 3 ≤ fuel) :
    Gen.bit_to_number fuel (bitsPV bits) (.bool true) (.bool verbose) = .ok (dstr (bitToNumberStr bits)) := by
  have h : pyEnumerate (bitsPV bits) = .ok (.list (enumFrom 0 (bits.map fun (n : Nat) => .int (n : Int)))) := rfl
  simp only [Gen.bit_to_number, Gen.bit_to_number.body, truthy_bool, bnd_ok, if_true, h, pyIter_list]
  apply callResult_seq_of_norm (StrRel verbose (bitToNumberStr bits))
  · exact for1_loop fuel hf verbose bits hb [0] _ ⟨str_lit_zero, rfl, Digits_singleton.mpr (by omega)⟩
  · intro e' h
    simp only [Gen.bit_to_number.k1, h.1, callResult_ret]

theorem Digits_bitToNumberStr (bits : List Nat) (hb : ∀ x ∈ bits, x ≤ 1) : Digits (bitToNumberStr bits) := by
  unfold bitToNumberStr
  have : ∀ (st : Dec), Digits st →
      Digits (bits.foldl (fun n b => calculusAddition (calculusMultiplication n 2) b) st) := by
    induction bits with
    | nil => intro st h; exact h
    | cons b r ih =>
      intro st h
      have hb1 := hb b (by simp)
      exact ih (fun x hx => hb x (by simp [hx])) _
        (Digits_calculusAddition (Digits_calculusMultiplication h (by omega)) (by omega))
  exact this [0] (Digits_singleton.mpr (by omega))

/-- the part of the environment the loops read (the parameters, the current vertex, the strand emitted
so far, the mode-specific counters), as one record equation: after `rw [h]` every read of such a field
computes, and for an environment written out by `simp` it holds by `rfl`. -/
def St (a : Acc) (tbl : Option Tbl) (bits : List Nat) (vtLen : Nat) (verbose : Bool)
    (w : Nat) (pre : List Char) (qv lv : PV) (e : Gen.encode.Env) : Prop :=
  e = { e with accessor := accPV a, shuffles := tblPV tbl, need_path := .bool false, verbose := .bool verbose,
               nucleotides := .str ['A', 'C', 'G', 'T'], binary_message := bitsPV bits,
               vt_length := .int (vtLen : Int), vertex_index := .int (w : Int), dna_sequence := .str pre,
               quotient := qv, location := lv }

/-- what one iteration of either loop establishes: the next vertex is `a.ent w j`, nucleotide `j` was
emitted. -/
def StepPost (a : Acc) (tbl : Option Tbl) (bits : List Nat) (vtLen : Nat) (verbose : Bool) (w : Nat)
    (pre : List Char) (j : Nat) (qv lv : PV) (e' : Gen.encode.Env) : Prop :=
  ∃ w' : Nat, a.ent w j = (w' : Int) ∧ w' < a.size ∧
    St a tbl bits vtLen verbose w' (pre ++ [nucChar j]) qv lv e'

section
variable {a : Acc} {tbl : Option Tbl} {bits : List Nat} {vtLen : Nat} {verbose : Bool}

/-- the statement `if shuffles is not None: remainder = argsort(shuffles[v, used])[remainder]`.  Without
a table `digitToPos` is the identity, so both branches end in the state with `remainder = digitToPos …`
(`he`: assigning the old value changes nothing). -/
theorem shuffle_stmt {ε} (ht : TblOK tbl a) {w : Nat} (hw : w < a.size) {d : Nat}
    (hd : d < (a.live w).length) {S V U Rm : PV} {e : ε} {upd : PV → ε}
    (hS : S = tblPV tbl) (hV : V = .int (w : Int)) (hU : U = idxPV (a.live w)) (hR : Rm = .int (d : Int))
    (he : upd Rm = e) :
    ((bnd (.ok (!pyIsNone S)) fun c =>
        if c then
          bnd (bnd (bnd (npIndex2 S V U) fun t1 => npArgsort t1) fun t2 => pyIndex t2 Rm) fun t3 =>
          .ok (.norm (upd t3))
        else .ok (.norm e)) : R (Flow ε)) =
      .ok (.norm (upd (.int ((digitToPos tbl w (a.live w) d : Nat) : Int)))) := by
  subst hS hV hU hR
  cases tbl with
  | none => rw [← he]; rfl
  | some t =>
    have hv := inR_natCast hw
    simp only [pyIsNone_tblPV_some, Bool.not_false, bnd_ok, if_true,
      shuffles_digitToPos ht hv.1 hv.2 (fun j hj => live_lt_four a w hj) hd]

/-- `k1`: pick the column (normal mode). -/
theorem k1_spec (F : Nat) {w : Nat} {pre : List Char} {qv lv : PV} {e : Gen.encode.Env}
    (h : St a tbl bits vtLen verbose w pre qv lv e) {used : List Nat} (hu : e.used_indices = idxPV used)
    {p : Nat} (hr : e.remainder = .int (p : Int)) (hp : p < used.length) :
    ∃ e', Gen.encode.k1 F e = .ok (.norm e') ∧ St a tbl bits vtLen verbose w pre qv lv e' ∧
      e'.value = .int ((used.getD p 0 : Nat) : Int) := by
  rw [h]
  simp only [Gen.encode.k1, hu, hr, pyIndex_idxPV hp, bnd_ok, truthy_bool, Bool.false_eq_true, if_false]
  exact ⟨_, rfl, rfl, rfl⟩

/-- `k2`: emit the nucleotide and move on (normal mode). -/
theorem k2_spec (ha : a.WF) (F : Nat) {w : Nat} (hw : w < a.size) {pre : List Char} {qv lv : PV}
    {e : Gen.encode.Env}
    (h : St a tbl bits vtLen verbose w pre qv lv e) {j : Nat} (hval : e.value = .int (j : Int))
    (hj : j ∈ a.live w) :
    ∃ e', Gen.encode.k2 F e = .ok (.norm e') ∧ StepPost a tbl bits vtLen verbose w pre j qv lv e' := by
  obtain ⟨w', hent, hw'⟩ := ent_live a ha hw hj
  have h4 := live_lt_four a w hj
  rw [h]
  simp only [Gen.encode.k2, hval, pyIndex_ACGT h4, bnd_ok, ent_spec a ha hw h4, npAdd_str, truthy_bool, pyNe_def,
    ite_self, hent]
  exact ⟨_, rfl, w', hent, hw', rfl⟩

/-- one iteration of the normal-mode loop, by the number of arcs of the vertex. -/
theorem while1_body_spec (ha : a.WF) (ht : TblOK tbl a) (F : Nat) {w : Nat} (hw : w < a.size)
    {pre : List Char} {q : Dec} {lv : PV} {e : Gen.encode.Env}
    (h : St a tbl bits vtLen verbose w pre (dstr q) lv e) (hq : Digits q) :
    ∃ x, Gen.encode.while1_body F e = x ∧
      if (a.live w).length > 1 then
        ∃ e', x = .ok (.norm e') ∧
          StepPost a tbl bits vtLen verbose w pre
            (selectArc a tbl w (calculusDivision q (a.live w).length).2.toNat)
            (dstr (calculusDivision q (a.live w).length).1) lv e'
      else if (a.live w).length = 1 then
        ∃ e', x = .ok (.norm e') ∧ StepPost a tbl bits vtLen verbose w pre ((a.live w).getD 0 0) (dstr q) lv e'
      else x = .error .valueError := by
  rw [h]
  simp only [Gen.encode.while1_body, used_spec ha (inR_natCast hw), bnd_ok, pyLen_idxPV, pyGt_nat_one, pyEq_def,
    eqb_nat_lit_one]
  by_cases h1 : (a.live w).length > 1
  · have hn10 : (a.live w).length < 10 := by have := live_length_le a w; omega
    obtain ⟨hq', r, hr, hsnd⟩ := calculusDivision_digits hq (b := (a.live w).length) (by omega) hn10
    have hr10 : r < 10 := by omega
    have hdiv := tie_calculus_division q (a.live w).length F hq hn10
    rw [dstr_singleton] at hdiv
    simp only [h1, decide_true, if_true, pyStr_digit hn10, hdiv, bnd_ok, pyUnpack_two_tup, getD_cons_zero',
      getD_cons_one', hsnd, dstr_singleton, pyInt_digit hr10, Dec.toNat_single]
    refine ⟨_, rfl, ?_⟩
    apply seq_norm_exists (Q := fun e2 => St a tbl bits vtLen verbose w pre
        (dstr (calculusDivision q (a.live w).length).1) lv e2 ∧
        e2.value = .int ((selectArc a tbl w r : Nat) : Int))
    · apply seq_norm_exists (Q := fun e1 => St a tbl bits vtLen verbose w pre
          (dstr (calculusDivision q (a.live w).length).1) lv e1 ∧ e1.used_indices = idxPV (a.live w) ∧
          e1.remainder = .int ((digitToPos tbl w (a.live w) r : Nat) : Int))
      · exact ⟨_, shuffle_stmt ht hw (d := r) (by omega) rfl rfl rfl rfl rfl, rfl, rfl, rfl⟩
      · intro e1 ⟨hs1, hu1, hr1⟩
        exact k1_spec F hs1 hu1 hr1 (digitToPos_lt tbl w (a.live w) (by omega))
    · intro e2 ⟨hs2, hv2⟩
      exact k2_spec ha F hw hs2 hv2 (selectArc_mem a tbl w (by unfold Acc.outDeg; omega))
  · simp only [h1, decide_false, Bool.false_eq_true, if_false]
    by_cases h2 : (a.live w).length = 1
    · have hmem : (a.live w).getD 0 0 ∈ a.live w := by
        rw [getD_eq_getElem (by omega)]; exact List.getElem_mem _
      simp only [h2, decide_true, if_true, pyIndex_idxPV_zero (by omega : 0 < (a.live w).length), bnd_ok,
        truthy_bool, Bool.false_eq_true, if_false, seq_norm]
      exact ⟨_, rfl, k2_spec ha F hw (by rfl) rfl hmem⟩
    · simp only [h2, decide_false, Bool.false_eq_true, if_false, seq_error]
      exact ⟨_, rfl, rfl⟩
theorem while1_cond_spec (F : Nat) {w : Nat} {pre : List Char} {q : Dec} {lv : PV} {e : Gen.encode.Env}
    (h : St a tbl bits vtLen verbose w pre (dstr q) lv e) (hq : Digits q) :
    Gen.encode.while1_cond F e = .ok (!decide (q = [0])) := by
  have h0 : Digits [0] := Digits_singleton.mpr (by omega)
  rw [h]
  simp only [Gen.encode.while1_cond, pyNe_def, str_lit_zero, eqb_dstr hq h0]

/-- the state after either loop: the strand is the prefix plus the model's output. -/
def Done (a : Acc) (tbl : Option Tbl) (bits : List Nat) (vtLen : Nat) (verbose : Bool) (pre : List Char)
    (s : List Char) (e' : Gen.encode.Env) : Prop :=
  ∃ (w' : Nat) (qv' lv' : PV), St a tbl bits vtLen verbose w' (pre ++ s) qv' lv' e'

theorem Done.cons {pre : List Char} {c : Char} {s : List Char} {e' : Gen.encode.Env}
    (h : Done a tbl bits vtLen verbose (pre ++ [c]) s e') : Done a tbl bits vtLen verbose pre (c :: s) e' := by
  obtain ⟨w', qv', lv', h⟩ := h
  refine ⟨w', qv', lv', ?_⟩
  simpa using h

theorem while1_loop (ha : a.WF) (ht : TblOK tbl a) (F : Nat) (lv : PV) :
    ∀ (f w : Nat) (q : Dec) (pre : List Char) (e : Gen.encode.Env), w < a.size →
      St a tbl bits vtLen verbose w pre (dstr q) lv e → Digits q →
      Repair.Sim (Done a tbl bits vtLen verbose pre) (encodeNormalLoop a tbl f w q)
        (whileLoop (Gen.encode.while1_cond F) (Gen.encode.while1_body F) f e) := by
  intro f
  induction f with
  | zero => intro w q pre e _ _ _; exact rfl
  | succ f ih =>
    intro w q pre e hw h hq
    rw [encodeNormalLoop]
    by_cases hz : q = [0]
    · have hc : Gen.encode.while1_cond F e = .ok false := by
        rw [while1_cond_spec F h hq]; simp [hz]
      rw [if_pos hz, whileLoop_false hc]
      exact ⟨e, rfl, w, _, _, by simpa using h⟩
    · have hc : Gen.encode.while1_cond F e = .ok true := by
        rw [while1_cond_spec F h hq]; simp [hz]
      rw [if_neg hz]
      obtain ⟨x, hb, hx⟩ := while1_body_spec ha ht F hw h hq
      by_cases h1 : (a.live w).length > 1
      · simp only [h1, if_true] at hx ⊢
        obtain ⟨e1, rfl, w', hent, hw', hs1⟩ := hx
        rw [whileLoop_true_norm hc hb, hent]
        have hq' := (calculusDivision_digits hq (b := (a.live w).length) (by omega)
          (by have := live_length_le a w; omega)).1
        exact (ih w' _ _ e1 hw' hs1 hq').fmap _ (fun s e' hd => hd.cons)
      · simp only [h1, if_false] at hx ⊢
        by_cases h2 : (a.live w).length = 1
        · simp only [h2, if_true] at hx ⊢
          obtain ⟨e1, rfl, w', hent, hw', hs1⟩ := hx
          rw [whileLoop_true_norm hc hb, hent]
          exact (ih w' _ _ e1 hw' hs1 hq).fmap _ (fun s e' hd => hd.cons)
        · simp only [h2, if_false] at hx ⊢
          rw [whileLoop_true_error hc (hb.trans hx)]
          exact rfl

-- `k3`: `value = used_indices[remainder]; location += 2`, the end of the `radix == 4` branch
theorem k3_spec (F : Nat) {w : Nat} {pre : List Char} {qv : PV} {loc : Nat} {e : Gen.encode.Env}
    (h : St a tbl bits vtLen verbose w pre qv (.int (loc : Int)) e) {used : List Nat}
    (hu : e.used_indices = idxPV used) {p : Nat} (hr : e.remainder = .int (p : Int)) (hp : p < used.length) :
    ∃ e', Gen.encode.k3 F e = .ok (.norm e') ∧
      St a tbl bits vtLen verbose w pre qv (.int ((loc + 2 : Nat) : Int)) e' ∧
      e'.value = .int ((used.getD p 0 : Nat) : Int) := by
  have hc : (loc : Int) + 2 = ((loc + 2 : Nat) : Int) := by push_cast; rfl
  rw [h]
  simp only [Gen.encode.k3, hu, hr, pyIndex_idxPV hp, bnd_ok, npAdd_int, hc]
  exact ⟨_, rfl, rfl, rfl⟩

-- `k5`: `value = used_indices[remainder]; location += 1`, the end of the `radix == 2` branch
theorem k5_spec (F : Nat) {w : Nat} {pre : List Char} {qv : PV} {loc : Nat} {e : Gen.encode.Env}
    (h : St a tbl bits vtLen verbose w pre qv (.int (loc : Int)) e) {used : List Nat}
    (hu : e.used_indices = idxPV used) {p : Nat} (hr : e.remainder = .int (p : Int)) (hp : p < used.length) :
    ∃ e', Gen.encode.k5 F e = .ok (.norm e') ∧
      St a tbl bits vtLen verbose w pre qv (.int ((loc + 1 : Nat) : Int)) e' ∧
      e'.value = .int ((used.getD p 0 : Nat) : Int) := by
  have hc : (loc : Int) + 1 = ((loc + 1 : Nat) : Int) := by push_cast; rfl
  rw [h]
  simp only [Gen.encode.k5, hu, hr, pyIndex_idxPV hp, bnd_ok, npAdd_int, hc]
  exact ⟨_, rfl, rfl, rfl⟩

-- `k4`: in the `radix == 4` branch, from `if shuffles is not None:` to `location += 2` (ends in `k3`)
theorem k4_spec (ht : TblOK tbl a) (F : Nat) {w : Nat} (hw : w < a.size) {pre : List Char} {qv : PV}
    {loc : Nat} {e : Gen.encode.Env}
    (h : St a tbl bits vtLen verbose w pre qv (.int (loc : Int)) e)
    (hu : e.used_indices = idxPV (a.live w)) {d : Nat} (hr : e.remainder = .int (d : Int))
    (hd : d < (a.live w).length) :
    ∃ e', Gen.encode.k4 F e = .ok (.norm e') ∧
      St a tbl bits vtLen verbose w pre qv (.int ((loc + 2 : Nat) : Int)) e' ∧
      e'.value = .int ((selectArc a tbl w d : Nat) : Int) := by
  rw [h]
  simp only [Gen.encode.k4]
  apply seq_norm_exists (Q := fun e1 => St a tbl bits vtLen verbose w pre qv (.int (loc : Int)) e1 ∧
      e1.used_indices = idxPV (a.live w) ∧ e1.remainder = .int ((digitToPos tbl w (a.live w) d : Nat) : Int))
  · exact ⟨_, shuffle_stmt ht hw hd rfl rfl hu hr rfl, rfl, hu, rfl⟩
  · intro e1 ⟨hs1, hu1, hr1⟩
    exact k3_spec F hs1 hu1 hr1 (digitToPos_lt tbl w (a.live w) hd)

/-- `k7`: emit the nucleotide and move on (fast mode). -/
theorem k7_spec (ha : a.WF) (F : Nat) {w : Nat} (hw : w < a.size) {pre : List Char} {qv lv : PV}
    {e : Gen.encode.Env}
    (h : St a tbl bits vtLen verbose w pre qv lv e) {j : Nat} (hval : e.value = .int (j : Int))
    (hj : j ∈ a.live w) :
    ∃ e', Gen.encode.k7 F e = .ok (.norm e') ∧ StepPost a tbl bits vtLen verbose w pre j qv lv e' := by
  obtain ⟨w', hent, hw'⟩ := ent_live a ha hw hj
  have h4 := live_lt_four a w hj
  rw [h]
  simp only [Gen.encode.k7, hval, pyIndex_ACGT h4, bnd_ok, ent_spec a ha hw h4, npAdd_str, truthy_bool,
    Bool.false_eq_true, if_false, seq_norm, Gen.encode.k6, ite_self, hent]
  exact ⟨_, rfl, w', hent, hw', rfl⟩

theorem while2_cond_spec (F : Nat) {w : Nat} {pre : List Char} {qv : PV} {loc : Nat} {e : Gen.encode.Env}
    (h : St a tbl bits vtLen verbose w pre qv (.int (loc : Int)) e) :
    Gen.encode.while2_cond F e = .ok (decide (loc < bits.length)) := by
  rw [h]
  simp only [Gen.encode.while2_cond, pyLen_bitsPV, bnd_ok, pyLt_nat]

theorem getD_le_one {bits : List Nat} (hb : ∀ x ∈ bits, x ≤ 1) (i : Nat) : bits.getD i 0 ≤ 1 := by
  by_cases h : i < bits.length
  · rw [getD_eq_getElem h _]; exact hb _ (List.getElem_mem h)
  · simp [List.getD_eq_getElem?_getD, List.getElem?_eq_none (by omega : bits.length ≤ i)]

/-- one iteration of the fast loop, by the number of arcs of the vertex (three arcs or none: the code
raises). -/
theorem while2_body_spec (ha : a.WF) (ht : TblOK tbl a) (hb : ∀ x ∈ bits, x ≤ 1) (F : Nat) {w : Nat}
    (hw : w < a.size) {pre : List Char} {qv : PV} {loc : Nat} {e : Gen.encode.Env}
    (h : St a tbl bits vtLen verbose w pre qv (.int (loc : Int)) e) (hloc : loc < bits.length) :
    ∃ x, Gen.encode.while2_body F e = x ∧
      if (a.live w).length = 4 then
        ∃ e', x = .ok (.norm e') ∧ StepPost a tbl bits vtLen verbose w pre
          (selectArc a tbl w (bits.getD loc 0 * 2 + bits.getD (loc + 1) 0)) qv (.int ((loc + 2 : Nat) : Int)) e'
      else if (a.live w).length = 2 then
        ∃ e', x = .ok (.norm e') ∧ StepPost a tbl bits vtLen verbose w pre
          (selectArc a tbl w (bits.getD loc 0)) qv (.int ((loc + 1 : Nat) : Int)) e'
      else if (a.live w).length = 1 then
        ∃ e', x = .ok (.norm e') ∧
          StepPost a tbl bits vtLen verbose w pre ((a.live w).getD 0 0) qv (.int (loc : Int)) e'
      else x = .error .valueError := by
  have h0 := getD_le_one hb loc
  rw [h]
  simp only [Gen.encode.while2_body, used_spec ha (inR_natCast hw), bnd_ok, pyLen_idxPV, pyEq_def, eqb_nat_lit_four,
    eqb_nat_lit_two, eqb_nat_lit_one, eqb_nat_lit_three]
  by_cases h4 : (a.live w).length = 4
  · have hc1 : (loc : Int) + 1 = ((loc + 1 : Nat) : Int) := by push_cast; rfl
    have h1 := getD_le_one hb (loc + 1)
    simp only [h4, decide_true, if_true, pyIndex_bitsPV hloc, bnd_ok, npMul_int, npAdd_int, hc1, pyLen_bitsPV,
      pyLt_nat]
    refine ⟨_, rfl, ?_⟩
    apply seq_norm_exists (Q := fun e2 => St a tbl bits vtLen verbose w pre qv (.int ((loc + 2 : Nat) : Int)) e2 ∧
        e2.value = .int ((selectArc a tbl w (bits.getD loc 0 * 2 + bits.getD (loc + 1) 0) : Nat) : Int))
    · by_cases hn : loc + 1 < bits.length
      · simp only [hn, decide_true, if_true, pyIndex_bitsPV hn, bnd_ok, npAdd_int, seq_norm]
        exact k4_spec ht F hw (by rfl) rfl (by push_cast; rfl) (by omega)
      · have hz : bits.getD (loc + 1) 0 = 0 := by
          simp [List.getD_eq_getElem?_getD, List.getElem?_eq_none (by omega : bits.length ≤ loc + 1)]
        simp only [hn, decide_false, Bool.false_eq_true, if_false, seq_norm, hz, Nat.add_zero]
        exact k4_spec ht F hw (by rfl) rfl (by push_cast; rfl) (by omega)
    · intro e2 ⟨hs2, hv2⟩
      exact k7_spec ha F hw hs2 hv2 (selectArc_mem a tbl w (by unfold Acc.outDeg; omega))
  · simp only [h4, decide_false, Bool.false_eq_true, if_false]
    by_cases h2 : (a.live w).length = 2
    · simp only [h2, decide_true, if_true, pyIndex_bitsPV hloc, bnd_ok]
      refine ⟨_, rfl, ?_⟩
      apply seq_norm_exists (Q := fun e2 => St a tbl bits vtLen verbose w pre qv (.int ((loc + 1 : Nat) : Int)) e2 ∧
          e2.value = .int ((selectArc a tbl w (bits.getD loc 0) : Nat) : Int))
      · apply seq_norm_exists (Q := fun e1 => St a tbl bits vtLen verbose w pre qv (.int (loc : Int)) e1 ∧
            e1.used_indices = idxPV (a.live w) ∧
            e1.remainder = .int ((digitToPos tbl w (a.live w) (bits.getD loc 0) : Nat) : Int))
        · exact ⟨_, shuffle_stmt ht hw (d := bits.getD loc 0) (by omega) rfl rfl rfl rfl rfl, rfl, rfl, rfl⟩
        · intro e1 ⟨hs1, hu1, hr1⟩
          exact k5_spec F hs1 hu1 hr1 (digitToPos_lt tbl w (a.live w) (by omega))
      · intro e2 ⟨hs2, hv2⟩
        exact k7_spec ha F hw hs2 hv2 (selectArc_mem a tbl w (by unfold Acc.outDeg; omega))
    · simp only [h2, decide_false, Bool.false_eq_true, if_false]
      by_cases h1 : (a.live w).length = 1
      · have hmem : (a.live w).getD 0 0 ∈ a.live w := by
          rw [getD_eq_getElem (by omega)]; exact List.getElem_mem _
        simp only [h1, decide_true, if_true, pyIndex_idxPV_zero (by omega : 0 < (a.live w).length), bnd_ok,
          seq_norm]
        exact ⟨_, rfl, k7_spec ha F hw (by rfl) rfl hmem⟩
      · simp only [h1, decide_false, Bool.false_eq_true, if_false, ite_self, seq_error]
        exact ⟨_, rfl, rfl⟩
/-- the model loop on a suffix of the message, in terms of positions. -/
theorem encodeFastLoop_drop (a : Acc) (tbl : Option Tbl) (bits : List Nat) (f : Nat) (v : Int) {loc : Nat}
    (hloc : loc < bits.length) :
    encodeFastLoop a tbl (f + 1) v (bits.drop loc) =
      if (a.live v).length = 4 then
        (encodeFastLoop a tbl f
          (a.ent v (selectArc a tbl v (bits.getD loc 0 * 2 + bits.getD (loc + 1) 0))) (bits.drop (loc + 2))).map
          (nucChar (selectArc a tbl v (bits.getD loc 0 * 2 + bits.getD (loc + 1) 0)) :: ·)
      else if (a.live v).length = 2 then
        (encodeFastLoop a tbl f (a.ent v (selectArc a tbl v (bits.getD loc 0))) (bits.drop (loc + 1))).map
          (nucChar (selectArc a tbl v (bits.getD loc 0)) :: ·)
      else if (a.live v).length = 1 then
        (encodeFastLoop a tbl f (a.ent v ((a.live v).getD 0 0)) (bits.drop loc)).map
          (nucChar ((a.live v).getD 0 0) :: ·)
      else .error .valueError := by
  have h0 : bits.getD loc 0 = bits[loc] := getD_eq_getElem hloc _
  have h1 : bits.getD (loc + 1) 0 = (bits.drop (loc + 1)).headD 0 := by
    simp [List.getD_eq_getElem?_getD, List.headD_eq_head?_getD, List.head?_drop]
  have h2 : (bits.drop (loc + 1)).drop 1 = bits.drop (loc + 2) := by simp [List.drop_drop]
  rw [h0, h1, ← h2]
  conv => lhs; rw [List.drop_eq_getElem_cons hloc, encodeFastLoop]
  conv => rhs; rw [List.drop_eq_getElem_cons hloc]

theorem while2_loop (ha : a.WF) (ht : TblOK tbl a) (hb : ∀ x ∈ bits, x ≤ 1) (F : Nat) (qv : PV) :
    ∀ (f w loc : Nat) (pre : List Char) (e : Gen.encode.Env), w < a.size →
      St a tbl bits vtLen verbose w pre qv (.int (loc : Int)) e →
      Repair.Sim (Done a tbl bits vtLen verbose pre) (encodeFastLoop a tbl f w (bits.drop loc))
        (whileLoop (Gen.encode.while2_cond F) (Gen.encode.while2_body F) f e) := by
  intro f
  induction f with
  | zero => intro w loc pre e _ _; exact rfl
  | succ f ih =>
    intro w loc pre e hw h
    by_cases hloc : loc < bits.length
    · have hc : Gen.encode.while2_cond F e = .ok true := by
        rw [while2_cond_spec F h]; simp [hloc]
      rw [encodeFastLoop_drop a tbl bits f w hloc]
      obtain ⟨x, hbd, hx⟩ := while2_body_spec ha ht hb F hw h hloc
      by_cases h4 : (a.live w).length = 4
      · rw [if_pos h4] at hx ⊢
        obtain ⟨e1, rfl, w', hent, hw', hs1⟩ := hx
        rw [whileLoop_true_norm hc hbd, hent]
        exact (ih w' _ _ e1 hw' hs1).fmap _ (fun s e' hd => hd.cons)
      · rw [if_neg h4] at hx ⊢
        by_cases h2 : (a.live w).length = 2
        · rw [if_pos h2] at hx ⊢
          obtain ⟨e1, rfl, w', hent, hw', hs1⟩ := hx
          rw [whileLoop_true_norm hc hbd, hent]
          exact (ih w' _ _ e1 hw' hs1).fmap _ (fun s e' hd => hd.cons)
        · rw [if_neg h2] at hx ⊢
          by_cases h1 : (a.live w).length = 1
          · rw [if_pos h1] at hx ⊢
            obtain ⟨e1, rfl, w', hent, hw', hs1⟩ := hx
            rw [whileLoop_true_norm hc hbd, hent]
            exact (ih w' _ _ e1 hw' hs1).fmap _ (fun s e' hd => hd.cons)
          · rw [if_neg h1] at hx ⊢
            rw [whileLoop_true_error hc (hbd.trans hx)]
            exact rfl
    · have hc : Gen.encode.while2_cond F e = .ok false := by
        rw [while2_cond_spec F h]; simp [hloc]
      rw [List.drop_eq_nil_of_le (by omega), whileLoop_false hc]
      have : encodeFastLoop a tbl (f + 1) w [] = .ok [] := by rw [encodeFastLoop]
      rw [this]
      exact ⟨e, rfl, w, _, _, by simpa using h⟩

/-- what `encode` does with the strand. -/
def tail (vtLen : Nat) (s : List Char) : R (List Char × Option (List Char)) :=
  if vtLen > 0 then (setVt s vtLen).bind fun c => pure (s, some c) else pure (s, Option.none)

theorem k9_spec (F : Nat) (hf : 2 * vtLen + 2 ≤ F) {s : List Char} {e : Gen.encode.Env}
    (h : Done a tbl bits vtLen verbose [] s e) :
    callResult (Gen.encode.k9 F e) = (tail vtLen s).map encResultPV := by
  obtain ⟨w', qv', lv', h⟩ := h
  rw [h]
  simp only [Gen.encode.k9, truthy_bool, Bool.false_eq_true, if_false, bnd_ok, seq_norm, Gen.encode.k8,
    pyGt_nat_zero, List.nil_append, tail]
  by_cases hv : 0 < vtLen
  · have hvt : Gen.set_vt F (.str s) (.int (vtLen : Int)) = _ := tie_set_vt s vtLen F hv hf
    simp only [hv, decide_true, if_true, hvt]
    cases setVt s vtLen with
    | error err => rfl
    | ok c => rfl
  · simp only [hv, decide_false, Bool.false_eq_true, if_false]
    rfl

theorem tail_spec (F : Nat) (hf : 2 * vtLen + 2 ≤ F) {r : R (List Char)} {m : R (Flow Gen.encode.Env)}
    (h : Repair.Sim (Done a tbl bits vtLen verbose []) r m) :
    callResult (seq m (Gen.encode.k9 F)) = (r.bind (tail vtLen)).map encResultPV := by
  cases r with
  | error err => have : m = .error err := h; rw [this]; rfl
  | ok s =>
    obtain ⟨e', rfl, hd⟩ := h
    exact k9_spec F hf hd

theorem encode_eq (a : Acc) (tbl : Option Tbl) (v : Int) (bits : List Nat) (fast : Bool) (vtLen fuel : Nat) :
    Dsw.encode a tbl v bits fast vtLen fuel =
      (if fast then encodeFastLoop a tbl fuel v bits
        else encodeNormalLoop a tbl fuel v (bitToNumberStr bits)).bind (tail vtLen) := by
  unfold Dsw.encode tail
  cases fast <;> rfl

end
end EncTie

open EncTie

theorem tie_encode (a : Acc) (tbl : Option Tbl) (v : Nat) (bits : List Nat) (fast : Bool)
    (vtLen fuel : Nat) (verbose : Bool)
    (ha : a.WF) (hv : v < a.size) (ht : TblOK tbl a) (hb : ∀ x ∈ bits, x ≤ 1) (hf : 2 * vtLen + 3 ≤ fuel) :
    Gen.encode fuel (bitsPV bits) (accPV a) (.int (v : Int)) (.bool fast) (.int (vtLen : Int)) (tblPV tbl)
        (.bool false) (.bool verbose) =
      (Dsw.encode a tbl v bits fast vtLen fuel).map encResultPV := by
  rw [encode_eq]
  cases fast with
  | false =>
    simp only [Gen.encode, Gen.encode.body, truthy_bool, bnd_ok, Bool.not_false, if_true,
      bit_to_number_arr bits fuel verbose hb (by omega), pyLen_dstr, Bool.false_eq_true, if_false]
    exact tail_spec fuel (by omega)
      (while1_loop ha ht fuel _ fuel v _ [] _ hv (by rfl) (Digits_bitToNumberStr bits hb))
  | true =>
    simp only [Gen.encode, Gen.encode.body, truthy_bool, bnd_ok, Bool.not_true, Bool.false_eq_true, if_false,
      if_true]
    exact tail_spec fuel (by omega)
      (while2_loop ha ht hb fuel _ fuel v 0 [] _ hv (by rfl))

end Dsw.Tie
