import DswModel.Tie.BfDefs
import DswModel.Tie.PyLemmas
import DswModel.Tie.BfLib
/-!
# DswModel.Tie.BfValid — `dsw/biofilter.py` (`LocalBioFilter`): generated code = model

`Gen.LocalBioFilter.__init__` / `Gen.LocalBioFilter.valid`
compute `Dsw.FilterCfg.accepted` / `Dsw.FilterCfg.valid`, the hand-written model the property theorems C02 / C11 / C12
are about. The double-precision products of the GC rule are part of BOTH sides: the generated code multiplies `.rat`
values with `pyMul` / `pySub` (round to nearest double, `Model/Float.lean`), the model's integer thresholds are derived
from the same bounds by `floatGcRule`.

`valid` is four `all`-style loops in a row (`return False` on the first offending item); each continuation `k8 … k1`
returns the conjunction of the parts of `validObserved` that are still to be checked.
-/
namespace Dsw.Tie
open Dsw Dsw.Py Dsw.Gen

namespace BfTie

/-! ## the model, cut into the four parts the code checks one after the other -/

def runPart (run : Option Nat) (obs : List Char) : Bool :=
  match run with
  | none => true
  | some r => "ACGT".toList.all fun ch => !isInfix (List.replicate (1 + r) ch) obs

def motifPart (motifs : Option (List (List Char))) (obs : List Char) : Bool :=
  match motifs with
  | none => true
  | some ms => ms.all fun m => !isInfix m obs && !isInfix (revComp m) obs

def gcWin (g : GcRule) (w : List Char) : Bool := !((gcCount w : Int) > g.gcHi) && !((gcCount w : Int) < g.gcLo)

def gcPart (k : Nat) (og : Option GcRule) (obs : List Char) : Bool :=
  match og with
  | none => true
  | some g =>
    if obs.length ≥ k then (windows k obs).all (gcWin g)
    else !((gcCount obs : Int) > g.gcHi) && !((atCount obs : Int) > g.atHi)

theorem validObserved_eq (c : FilterCfg) (obs : List Char) :
    validObserved c obs =
      (obs.all (fun ch => (nucIdx ch).isSome) && (runPart c.run obs && (motifPart c.motifs obs && gcPart c.k c.gc obs))) := by
  simp only [validObserved, runPart, motifPart, gcPart, Bool.and_assoc]
  rfl

/-- how the model's thresholds relate to the bounds the object holds. -/
def GcTie (k : Nat) (gc : Option (Dbl × Dbl)) (og : Option GcRule) : Prop :=
  match gc with
  | none => og = none
  | some (lo, hi) => ∃ g, og = some g ∧ 0 < lo.den ∧ 0 < hi.den ∧ floatGcRule lo hi k = some g

abbrev VEnv := Gen.LocalBioFilter.valid.Env

/-- `self` and `observed_dna_sequence` are what they were. -/
def VInv (obj : PV) (obs : List Char) (e : VEnv) : Prop :=
  e.«py_self» = obj ∧ e.observed_dna_sequence = .str obs

theorem gcCount_cast (w : List Char) : ((gcCount w : Nat) : Int) = (w.count 'C' : Int) + (w.count 'G' : Int) := by
  simp [gcCount]
theorem atCount_cast (w : List Char) : ((atCount w : Nat) : Int) = (w.count 'A' : Int) + (w.count 'T' : Int) := by
  simp [atCount]

section Valid
variable {fuel k : Nat} {run : Option Nat} {gc : Option (Dbl × Dbl)} {motifs : Option (List (List Char))}
  {obs : List Char}

/-! ### loop 1: every character is a nucleotide -/

theorem for1_body_spec (ch : Char) (e : VEnv) (hI : VInv (bfObj k run gc motifs) obs e) :
    if (nucIdx ch).isSome = true then
      ∃ e', LocalBioFilter.valid.for1_body fuel (.str [ch]) e = .ok (.norm e') ∧ VInv (bfObj k run gc motifs) obs e'
    else LocalBioFilter.valid.for1_body fuel (.str [ch]) e = .ok (.ret (.bool false)) := by
  simp only [LocalBioFilter.valid.for1_body, pyIn_ACGT, bnd_ok]
  cases (nucIdx ch).isSome with
  | true => exact ⟨_, rfl, hI⟩
  | false => rfl

/-! ### loop 2: homopolymer runs -/

theorem for2_body_spec (r : Nat) (ch : Char) (e : VEnv) (hI : VInv (bfObj k (some r) gc motifs) obs e) :
    if (!isInfix (List.replicate (1 + r) ch) obs) = true then
      ∃ e', LocalBioFilter.valid.for2_body fuel (.str [ch]) e = .ok (.norm e') ∧
        VInv (bfObj k (some r) gc motifs) obs e'
    else LocalBioFilter.valid.for2_body fuel (.str [ch]) e = .ok (.ret (.bool false)) := by
  have hcast : (1 + (r : Int)) = ((1 + r : Nat) : Int) := (Int.natCast_add 1 r).symm
  simp only [LocalBioFilter.valid.for2_body, hI.1, hI.2, getAttr_max_homopolymer_runs, optNatPV, bnd_ok, pyAdd_int,
    pyMul_str_int, hcast, replicateList_natCast_singleton, pyIn_str_str]
  cases isInfix (List.replicate (1 + r) ch) obs with
  | true => rfl
  | false => exact ⟨_, rfl, rfl, rfl⟩

/-! ### loop 3: motifs and their reverse complements -/

/-- `k1` is the reverse-complement half of the loop body. -/
theorem for3_body_spec (m : List Char) (hm : ∀ ch ∈ m, MotifChar ch) (e : VEnv)
    (hI : VInv (bfObj k run gc motifs) obs e) :
    if (!isInfix m obs && !isInfix (revComp m) obs) = true then
      ∃ e', LocalBioFilter.valid.for3_body fuel (.str m) e = .ok (.norm e') ∧ VInv (bfObj k run gc motifs) obs e'
    else LocalBioFilter.valid.for3_body fuel (.str m) e = .ok (.ret (.bool false)) := by
  simp only [LocalBioFilter.valid.for3_body, hI.2, pyIn_str_str, bnd_ok, seq_guard_ret, LocalBioFilter.valid.k1,
    pyReplace_single, map_rcChar, pyReverse_str, pyUpper_rc hm]
  cases isInfix m obs with
  | true => rfl
  | false =>
    cases isInfix (revComp m) obs with
    | true => rfl
    | false => exact ⟨_, rfl, hI.1, rfl⟩

/-! ### loop 4 and the short-string branch: the GC rule -/

theorem k4_spec (e : VEnv) : LocalBioFilter.valid.k4 fuel e = .ok (.ret (.bool true)) := rfl

variable {lo hi : Dbl} {g : GcRule}

/-- the window loop; `k2` is the lower bound inside it. -/
theorem for4_body_spec (hlo : 0 < lo.den) (hhi : 0 < hi.den) (hg : floatGcRule lo hi k = some g) (i : Nat) (e : VEnv)
    (hI : VInv (bfObj k run (some (lo, hi)) motifs) obs e) :
    if gcWin g ((obs.drop i).take k) = true then
      ∃ e', LocalBioFilter.valid.for4_body fuel (.int (i : Int)) e = .ok (.norm e') ∧
        VInv (bfObj k run (some (lo, hi)) motifs) obs e'
    else LocalBioFilter.valid.for4_body fuel (.int (i : Int)) e = .ok (.ret (.bool false)) := by
  have hcast : ((i : Int) + (k : Int)) = ((i + k : Nat) : Int) := (Int.natCast_add i k).symm
  have hsub : i + k - i = k := Nat.add_sub_cancel_left i k
  simp only [LocalBioFilter.valid.for4_body, hI.1, hI.2, getAttr_observed_length, bnd_ok, pyAdd_int, hcast,
    pySliceV_str_nat, hsub, pyCount_single, getAttr_gc_range, gcPV, pyIndex_pair_one, gc_hi_cmp hhi hg, seq_guard_ret,
    LocalBioFilter.valid.k2, pyIndex_pair_zero, gc_lo_cmp hlo hg, gcWin, ← gcCount_cast]
  cases decide ((gcCount ((obs.drop i).take k) : Int) > g.gcHi) with
  | true => rfl
  | false =>
    cases decide ((gcCount ((obs.drop i).take k) : Int) < g.gcLo) with
    | true => rfl
    | false => exact ⟨_, rfl, rfl, rfl⟩

/-- `k3` (the AT count of a string shorter than the window), then `return True`. -/
theorem k3_k4_spec (hlo : 0 < lo.den) (hg : floatGcRule lo hi k = some g) (e : VEnv)
    (hI : VInv (bfObj k run (some (lo, hi)) motifs) obs e) :
    seq (LocalBioFilter.valid.k3 fuel e) (LocalBioFilter.valid.k4 fuel) =
      .ok (.ret (.bool (!decide ((atCount obs : Int) > g.atHi)))) := by
  simp only [LocalBioFilter.valid.k3, hI.1, hI.2, pyCount_single, bnd_ok, pyAdd_int, getAttr_observed_length,
    getAttr_gc_range, gcPV, pyIndex_pair_zero, at_hi_cmp hlo hg, ← atCount_cast, seq_guard_ret, k4_spec]
  cases decide ((atCount obs : Int) > g.atHi) <;> rfl

theorem k5_spec (og : Option GcRule) (hgc : GcTie k gc og) (e : VEnv) (hI : VInv (bfObj k run gc motifs) obs e) :
    LocalBioFilter.valid.k5 fuel e = .ok (.ret (.bool (gcPart k og obs))) := by
  match gc, hgc with
  | none, hgc =>
    have hog : og = none := hgc
    subst hog
    simp only [LocalBioFilter.valid.k5, hI.1, getAttr_gc_range, gcPV, bnd_ok, pyIsNone_none, Bool.not_true,
      Bool.false_eq_true, if_false, seq_norm, k4_spec, gcPart]
  | some (lo, hi), hgc =>
    obtain ⟨g, rfl, hlo, hhi, hg⟩ := hgc
    simp only [LocalBioFilter.valid.k5, hI.1, hI.2, getAttr_gc_range, gcPV, bnd_ok, pyIsNone_list, Bool.not_false,
      if_true, pyLen_str, getAttr_observed_length, pyGe_int, Int.ofNat_le, gcPart, ge_iff_le]
    by_cases hk : k ≤ obs.length
    · have hcast : ((obs.length : Int) - (k : Int) + 1) = ((obs.length + 1 - k : Nat) : Int) := by omega
      simp only [hk, decide_true, if_true, bnd_ok, pySub_int, pyAdd_int, hcast, pyRange1_nat, pyIter_list, windows,
        List.all_map]
      exact (seq_forLoop_all (VInv (bfObj k run (some (lo, hi)) motifs) obs) (fun (i : Nat) => PV.int (i : Int))
        (gcWin g ∘ fun i => (obs.drop i).take k) (fun i _ => for4_body_spec hlo hhi hg i) hI
        (fun e' _ => k4_spec e')).trans (by rw [Bool.and_true])
    · simp only [hk, decide_false, Bool.false_eq_true, if_false, pyCount_single, bnd_ok, pyAdd_int, pyIndex_pair_one,
        gc_hi_cmp hhi hg, ← gcCount_cast, seq_ite, seq_ret]
      rw [seq_norm, k3_k4_spec hlo hg _ (by exact ⟨rfl, rfl⟩)]
      cases decide ((gcCount obs : Int) > g.gcHi) <;> rfl

variable {og : Option GcRule}

theorem k6_spec (hgc : GcTie k gc og) (hm : ∀ ms, motifs = some ms → ∀ m ∈ ms, ∀ ch ∈ m, MotifChar ch) (e : VEnv)
    (hI : VInv (bfObj k run gc motifs) obs e) :
    LocalBioFilter.valid.k6 fuel e = .ok (.ret (.bool (motifPart motifs obs && gcPart k og obs))) := by
  match motifs, hm, hI with
  | none, _, hI =>
    simp only [LocalBioFilter.valid.k6, hI.1, getAttr_undesired_motifs, motifsPV, bnd_ok, pyIsNone_none, Bool.not_true,
      Bool.false_eq_true, if_false, seq_norm, motifPart, Bool.true_and]
    exact k5_spec og hgc e hI
  | some ms, hm, hI =>
    simp only [LocalBioFilter.valid.k6, hI.1, getAttr_undesired_motifs, motifsPV, bnd_ok, pyIsNone_list, Bool.not_false,
      if_true, pyIter_list, motifPart]
    exact seq_forLoop_all (VInv (bfObj k run gc (some ms)) obs) PV.str
      (fun m => !isInfix m obs && !isInfix (revComp m) obs)
      (fun m hmem => for3_body_spec m (hm ms rfl m hmem)) hI (k5_spec og hgc)

theorem k7_spec (hgc : GcTie k gc og) (hm : ∀ ms, motifs = some ms → ∀ m ∈ ms, ∀ ch ∈ m, MotifChar ch) (e : VEnv)
    (hI : VInv (bfObj k run gc motifs) obs e) :
    LocalBioFilter.valid.k7 fuel e =
      .ok (.ret (.bool (runPart run obs && (motifPart motifs obs && gcPart k og obs)))) := by
  match run, hI with
  | none, hI =>
    simp only [LocalBioFilter.valid.k7, hI.1, getAttr_max_homopolymer_runs, optNatPV, bnd_ok, pyIsNone_none,
      Bool.not_true, Bool.false_eq_true, if_false, seq_norm, runPart, Bool.true_and]
    exact k6_spec hgc hm e hI
  | some r, hI =>
    simp only [LocalBioFilter.valid.k7, hI.1, getAttr_max_homopolymer_runs, optNatPV, bnd_ok, pyIsNone_int,
      Bool.not_false, if_true, pyIter_str, runPart]
    exact seq_forLoop_all (VInv (bfObj k (some r) gc motifs) obs) (fun c => PV.str [c])
      (fun ch => !isInfix (List.replicate (1 + r) ch) obs) (as := ['A', 'C', 'G', 'T'])
      (fun ch _ => for2_body_spec r ch) hI (k6_spec hgc hm)

theorem k8_spec (hgc : GcTie k gc og) (hm : ∀ ms, motifs = some ms → ∀ m ∈ ms, ∀ ch ∈ m, MotifChar ch) (e : VEnv)
    (hI : VInv (bfObj k run gc motifs) obs e) :
    LocalBioFilter.valid.k8 fuel e =
      .ok (.ret (.bool (obs.all (fun ch => (nucIdx ch).isSome) &&
        (runPart run obs && (motifPart motifs obs && gcPart k og obs))))) := by
  simp only [LocalBioFilter.valid.k8, hI.2, pyIter_str, bnd_ok]
  exact seq_forLoop_all (VInv (bfObj k run gc motifs) obs) (fun c => PV.str [c]) (fun ch => (nucIdx ch).isSome)
    (fun ch _ => for1_body_spec ch) hI (k7_spec hgc hm)

end Valid

abbrev IEnv := Gen.LocalBioFilter.__init__.Env

/-- the object after `super().__init__`. -/
def obj0 : PV := .dict [.str "screen_name".toList] [.str "Local".toList]

def IInv (k : Nat) (run : Option Nat) (gc : Option (Dbl × Dbl)) (motifs : Option (List (List Char))) (e : IEnv) : Prop :=
  e.«py_self» = obj0 ∧ e.observed_length = .int k ∧ e.max_homopolymer_runs = optNatPV run ∧ e.gc_range = gcPV gc ∧
    e.undesired_motifs = motifsPV motifs

theorem super_init (fuel : Nat) : DefaultBioFilter.__init__ fuel (.dict [] []) (.str ['L', 'o', 'c', 'a', 'l']) = .ok obj0 := rfl

theorem setAttr1 (a v : PV) :
    pySetAttr (.dict [.str "screen_name".toList] [a]) "observed_length" v =
      .ok (.dict [.str "screen_name".toList, .str "observed_length".toList] [a, v]) := by
  rw [pySetAttr_dict]
  simp only [findIdxEq_attr_cons, String.reduceEq, if_false]
  rfl
theorem setAttr2 (a b v : PV) :
    pySetAttr (.dict [.str "screen_name".toList, .str "observed_length".toList] [a, b]) "max_homopolymer_runs" v =
      .ok (.dict [.str "screen_name".toList, .str "observed_length".toList, .str "max_homopolymer_runs".toList]
        [a, b, v]) := by
  rw [pySetAttr_dict]
  simp only [findIdxEq_attr_cons, String.reduceEq, if_false]
  rfl
theorem setAttr3 (a b c v : PV) :
    pySetAttr (.dict [.str "screen_name".toList, .str "observed_length".toList, .str "max_homopolymer_runs".toList]
        [a, b, c]) "gc_range" v =
      .ok (.dict [.str "screen_name".toList, .str "observed_length".toList, .str "max_homopolymer_runs".toList,
        .str "gc_range".toList] [a, b, c, v]) := by
  rw [pySetAttr_dict]
  simp only [findIdxEq_attr_cons, String.reduceEq, if_false]
  rfl
theorem setAttr4 (a b c d v : PV) :
    pySetAttr (.dict [.str "screen_name".toList, .str "observed_length".toList, .str "max_homopolymer_runs".toList,
        .str "gc_range".toList] [a, b, c, d]) "undesired_motifs" v =
      .ok (.dict [.str "screen_name".toList, .str "observed_length".toList, .str "max_homopolymer_runs".toList,
        .str "gc_range".toList, .str "undesired_motifs".toList] [a, b, c, d, v]) := by
  rw [pySetAttr_dict]
  simp only [findIdxEq_attr_cons, String.reduceEq, if_false]
  rfl

/-- the constructor's check of the motif lengths. -/
def motifsOk (k : Nat) (motifs : Option (List (List Char))) : Bool :=
  match motifs with
  | none => true
  | some ms => ms.all fun m => !decide (m.length > k)

section Init
variable {fuel k : Nat} {run : Option Nat} {gc : Option (Dbl × Dbl)} {motifs : Option (List (List Char))}

theorem init_k1_spec (e : IEnv) (hI : IInv k run gc motifs e) :
    initResult (LocalBioFilter.__init__.k1 fuel e) (·.«py_self») = .ok (bfObj k run gc motifs) := by
  obtain ⟨h1, h2, h3, h4, h5⟩ := hI
  -- with `bnd_ok` as an implicit definitional step the kernel compares `bnd (.ok a) f` with `f a` argument by
  -- argument, and evaluates the next assignment to see that it differs from `.ok a`
  simp -implicitDefEqProofs only [LocalBioFilter.__init__.k1, h1, h2, h3, h4, h5, obj0, setAttr1, setAttr2, setAttr3,
    setAttr4, bnd_ok]
  rfl

theorem init_for1_body_spec (i : Nat) (m : List Char) (e : IEnv) (hI : IInv k run gc motifs e) :
    if (!decide (m.length > k)) = true then
      ∃ e', LocalBioFilter.__init__.for1_body fuel (.tup [.int (i : Int), .str m]) e = .ok (.norm e') ∧
        IInv k run gc motifs e'
    else LocalBioFilter.__init__.for1_body fuel (.tup [.int (i : Int), .str m]) e = .error .valueError := by
  simp only [LocalBioFilter.__init__.for1_body, pyUnpack_two_tup, bnd_ok, getD_cons_zero', getD_cons_one', pyLen_str,
    hI.2.1, pyGt_int, Int.ofNat_lt, gt_iff_lt]
  by_cases h : k < m.length
  · simp [h]
  · simp only [h, decide_false, Bool.not_false, if_true, Bool.false_eq_true, if_false]
    exact ⟨_, rfl, hI.1, rfl, hI.2.2⟩

theorem init_k2_spec (e : IEnv) (hI : IInv k run gc motifs e) :
    initResult (LocalBioFilter.__init__.k2 fuel e) (·.«py_self») =
      if motifsOk k motifs = true then .ok (bfObj k run gc motifs) else .error .valueError := by
  unfold motifsOk
  match motifs, hI with
  | none, hI =>
    simp only [LocalBioFilter.__init__.k2, hI.2.2.2.2, motifsPV, pyIsNone_none, Bool.not_true, bnd_ok, Bool.false_eq_true,
      if_false, seq_norm, if_true]
    exact init_k1_spec e hI
  | some ms, hI =>
    simp only [LocalBioFilter.__init__.k2, hI.2.2.2.2, motifsPV, pyIsNone_list, Bool.not_false, bnd_ok, if_true,
      pyEnumerate_list, pyIter_list]
    have key := forLoop_all_err_enum (body := LocalBioFilter.__init__.for1_body fuel) (IInv k run gc (some ms)) PV.str
      (fun m => !decide (m.length > k)) .valueError (as := ms) 0
      (fun i m _ => init_for1_body_spec i m) hI
    by_cases hall : (ms.all fun m => !decide (m.length > k)) = true
    · rw [if_pos hall] at key ⊢
      obtain ⟨e1, hl, h1⟩ := key
      rw [hl, seq_norm]
      exact init_k1_spec e1 h1
    · rw [if_neg hall] at key ⊢
      rw [key]
      rfl

end Init

end BfTie

open BfTie

/-- the constructor: accepted configurations give the attribute object, every other one `ValueError`. -/
theorem tie_LocalBioFilter_init (fuel k : Nat) (run : Option Nat) (gc : Option (Dbl × Dbl))
    (motifs : Option (List (List Char))) :
    LocalBioFilter.__init__ fuel (.dict [] []) (.int k) (optNatPV run) (gcPV gc) (motifsPV motifs) =
      if bfAccepted k run motifs then .ok (bfObj k run gc motifs) else .error .valueError := by
  simp only [LocalBioFilter.__init__, LocalBioFilter.__init__.body, super_init, bnd_ok, bfAccepted, FilterCfg.accepted]
  match run with
  | none =>
    simp only [optNatPV, pyIsNone_none, Bool.not_true, Bool.false_eq_true, if_false, seq_norm, Bool.true_and]
    exact init_k2_spec _ (by exact ⟨rfl, rfl, rfl, rfl, rfl⟩)
  | some r =>
    simp only [optNatPV, pyIsNone_int, Bool.not_false, if_true, pyLt_int, Int.ofNat_lt]
    by_cases h : k < r
    · simp [h, initResult]
    · simp only [h, decide_false, bnd_ok, Bool.false_eq_true, if_false, seq_norm, Bool.not_false, Bool.true_and]
      exact init_k2_spec _ (by exact ⟨rfl, rfl, rfl, rfl, rfl⟩)

theorem gcTie_of_bfCfg {k : Nat} {run : Option Nat} {gc : Option (Dbl × Dbl)} {motifs : Option (List (List Char))}
    {c : FilterCfg} (hc : bfCfg k run gc motifs = some c)
    (hgc : ∀ lo hi, gc = some (lo, hi) → 0 < lo.den ∧ 0 < hi.den) :
    c.k = k ∧ c.run = run ∧ c.motifs = motifs ∧ GcTie k gc c.gc := by
  match gc, hc, hgc with
  | none, hc, _ =>
    simp only [bfCfg, Option.some.injEq] at hc
    subst hc
    exact ⟨rfl, rfl, rfl, rfl⟩
  | some (lo, hi), hc, hgc =>
    simp only [bfCfg, Option.map_eq_some_iff] at hc
    obtain ⟨g, hg, rfl⟩ := hc
    exact ⟨rfl, rfl, rfl, g, rfl, (hgc lo hi rfl).1, (hgc lo hi rfl).2, hg⟩

/-- `valid`: for every filter object the constructor can build (any window, run limit, motif list over ASCII characters
without lower-case letters, GC bounds given as doubles whose products with the window are finite), every string (any
characters) and both modes, the generated code returns the model's verdict. -/
theorem tie_LocalBioFilter_valid (fuel k : Nat) (run : Option Nat) (gc : Option (Dbl × Dbl))
    (motifs : Option (List (List Char))) (c : FilterCfg) (s : List Char) (onlyLast : Bool)
    (hc : bfCfg k run gc motifs = some c)
    (hgc : ∀ lo hi, gc = some (lo, hi) → 0 < lo.den ∧ 0 < hi.den)
    (hm : ∀ ms, motifs = some ms → ∀ m ∈ ms, ∀ ch ∈ m, MotifChar ch) :
    LocalBioFilter.valid fuel (bfObj k run gc motifs) (.str s) (.bool onlyLast) = .ok (.bool (c.valid s onlyLast)) := by
  obtain ⟨hk, hrun, hmot, htie⟩ := gcTie_of_bfCfg hc hgc
  simp only [LocalBioFilter.valid, LocalBioFilter.valid.body, truthy_bool, bnd_ok, FilterCfg.valid, validObserved_eq, hk,
    hrun, hmot]
  cases onlyLast with
  | true =>
    simp only [if_true, getAttr_observed_length, bnd_ok, pyNeg_int, pySliceV, boundOr_int, boundOr_none, seq_norm]
    rw [k8_spec htie hm _ ⟨rfl, rfl⟩]
    rfl
  | false =>
    simp only [Bool.false_eq_true, if_false, seq_norm]
    rw [k8_spec htie hm _ ⟨rfl, rfl⟩]
    rfl

/-- constructor followed by a call (what `find_vertices` sees for each k-mer). -/
theorem tie_LocalBioFilter (fuel k : Nat) (run : Option Nat) (gc : Option (Dbl × Dbl))
    (motifs : Option (List (List Char))) (c : FilterCfg) (s : List Char) (onlyLast : Bool)
    (hc : bfCfg k run gc motifs = some c) (ha : c.accepted = true)
    (hgc : ∀ lo hi, gc = some (lo, hi) → 0 < lo.den ∧ 0 < hi.den)
    (hm : ∀ ms, motifs = some ms → ∀ m ∈ ms, ∀ ch ∈ m, MotifChar ch) :
    (LocalBioFilter.__init__ fuel (.dict [] []) (.int k) (optNatPV run) (gcPV gc) (motifsPV motifs)).bind
      (fun obj => LocalBioFilter.valid fuel obj (.str s) (.bool onlyLast)) = .ok (.bool (c.valid s onlyLast)) := by
  obtain ⟨hk, hrun, hmot, _⟩ := gcTie_of_bfCfg hc hgc
  have hacc : bfAccepted k run motifs = true := by
    rw [← ha]; simp only [bfAccepted, FilterCfg.accepted, hk, hrun, hmot]
  rw [tie_LocalBioFilter_init, hacc, if_pos rfl]
  exact tie_LocalBioFilter_valid fuel k run gc motifs c s onlyLast hc hgc hm

/-- the abstract base class: `valid` always raises (`NotImplementedError` is `PyErr.other`). -/
theorem tie_DefaultBioFilter_valid (fuel : Nat) (obj x : PV) : DefaultBioFilter.valid fuel obj x = .error .other := by
  rfl

end Dsw.Tie
