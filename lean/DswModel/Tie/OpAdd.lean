import DswModel.Tie.OpLemmas
/-!
# Translation tie — `calculus_addition`

On its contract (a string of decimal digits and a one-digit operand) the generated definition computes the
model function `Dsw.calculusAddition`.

The column loop (`for1`, over `range(n-1, -1, -1)`) is tied to the model's `foldr addStep` by
`forLoop_range_down`, with the invariant `result = zeros(k) ++ [carry] ++ digits` (`AddInv`), `(carry, digits)`
being the fold over the columns `k … n-1` (`addSt`).  The inner `while sum_value > 0` loop (`while2`) runs
exactly two iterations (the column sum is in `10 … 19`), hence the fuel bound `3`.
-/
namespace Dsw.Tie
open Dsw Dsw.Py

namespace AddTie

/-- `list(number)`: a Python list of one-character strings. -/
def charsPV (s : Dec) : PV := .list (s.map fun d => .str [digitChar d])

theorem pyList_dstr' (s : Dec) : pyList (dstr s) = .ok (charsPV s) := pyList_dstr s
theorem pyLen_charsPV (s : Dec) : pyLen (charsPV s) = .ok (.int s.length) := by
  rw [charsPV, pyLen_list, List.length_map]
theorem pyIndex_charsPV {s : Dec} {i : Nat} (h : i < s.length) :
    pyIndex (charsPV s) (.int i) = .ok (.str [digitChar s[i]]) := by
  rw [charsPV, pyIndex_list_nat (by rw [List.length_map]; exact h), List.getElem_map]

/-- `[0 for _ in range(m)]`. -/
theorem pyMap_const_zero (m : Nat) :
    pyMap (fun _ => .ok (.int 0)) (.list ((List.range m).map fun (i : Nat) => PV.int (i : Int))) =
      .ok (natsPV (List.replicate m 0)) := by
  rw [pyMap_list_map (g := fun _ => PV.int 0) (by intros; rfl)]
  simp [natsPV, List.map_const']

theorem set_set_result (k c v w : Nat) (ds : List Nat) :
    ((List.replicate (k + 1) 0 ++ c :: ds).set (k + 1) v).set k w = List.replicate k 0 ++ w :: v :: ds := by
  rw [set_mid (Q := List.replicate (k + 1) 0) List.length_replicate.symm, replicate_succ_append,
    set_mid (Q := List.replicate k 0) List.length_replicate.symm]

/-- the model state after the columns `k … n-1`. -/
def addSt (l : List (Nat × Nat)) (k : Nat) : Nat × List Nat := (l.drop k).foldr addStep (0, [])

theorem addSt_of_length_le {l : List (Nat × Nat)} {k : Nat} (h : l.length ≤ k) : addSt l k = (0, []) := by
  rw [addSt, List.drop_eq_nil_of_le h]; rfl

theorem addSt_zero (l : List (Nat × Nat)) : addSt l 0 = l.foldr addStep (0, []) := rfl

theorem addSt_bound {s bs : Dec} (hs : Digits s) (hbs : Digits bs) (k : Nat) :
    (addSt (s.zip bs) k).1 ≤ 1 ∧ Digits (addSt (s.zip bs) k).2 := by
  obtain ⟨_, h2, h1, _⟩ :=
    addStep_foldr_spec ((s.zip bs).drop k) fun p hp => zip_digits hs hbs p (List.mem_of_mem_drop hp)
  exact ⟨h1, h2⟩

theorem div_ten_of_two_digits {v : Nat} (h1 : 10 ≤ v) (h2 : v < 20) : v / 10 = 1 :=
  Nat.div_eq_of_lt_le (k := 1) (n := 10) h1 h2

theorem while2_body_spec (fuel : Nat) (e : Gen.calculus_addition.Env) (k f v : Nat) (L : List Nat)
    (hidx : e.index = .int (k : Int)) (hflag : e.flag = .int (f : Int))
    (hsum : e.sum_value = .int (v : Int)) (hres : e.result = natsPV L)
    (hf : f ≤ k + 1) (hL : k + 1 - f < L.length) :
    ∃ e', Gen.calculus_addition.while2_body fuel e = .ok (.norm e') ∧
      e'.number = e.number ∧ e'.base = e.base ∧ e'.index = .int (k : Int) ∧
      e'.flag = .int ((f + 1 : Nat) : Int) ∧ e'.sum_value = .int ((v / 10 : Nat) : Int) ∧
      e'.result = natsPV (L.set (k + 1 - f) (v % 10)) := by
  have hi : (((k + 1 : Nat) : Int) - (f : Int)) = ((k + 1 - f : Nat) : Int) := (Int.ofNat_sub hf).symm
  simp only [Gen.calculus_addition.while2_body, hidx, hflag, hsum, hres, pyMod_nat_ten, pyAdd_nat_one, pySub_int,
    hi, pySetItem_natsPV hL, pyFloorDiv_nat_ten, bnd_ok]
  exact ⟨_, rfl, rfl, rfl, rfl, rfl, rfl, rfl⟩

theorem while2_cond_spec (fuel : Nat) (e : Gen.calculus_addition.Env) (v : Nat)
    (hsum : e.sum_value = .int (v : Int)) :
    Gen.calculus_addition.while2_cond fuel e = .ok (decide (0 < v)) := by
  simp only [Gen.calculus_addition.while2_cond, hsum, pyGt_nat_zero]

/-- the column sum is in `10 … 19`: exactly two iterations, the digit and the carry `1`.  (`N`, `B`, `R`
are there so that `exact` can read the environment off the goal.) -/
theorem while2_loop (fuel : Nat) (hfuel : 3 ≤ fuel) (e : Gen.calculus_addition.Env) (k v : Nat) (L : List Nat)
    (N B : PV) (R : List Nat) (hnum : e.number = N) (hbase : e.base = B)
    (hidx : e.index = .int (k : Int)) (hflag : e.flag = .int 0)
    (hsum : e.sum_value = .int (v : Int)) (hres : e.result = natsPV L)
    (hv1 : 10 ≤ v) (hv2 : v < 20) (hL : k + 1 < L.length) (hR : (L.set (k + 1) (v % 10)).set k 1 = R) :
    ∃ e', whileLoop (Gen.calculus_addition.while2_cond fuel) (Gen.calculus_addition.while2_body fuel) fuel e =
        .ok (.norm e') ∧
      e'.number = N ∧ e'.base = B ∧ e'.result = natsPV R := by
  obtain ⟨g, rfl⟩ := Nat.exists_eq_add_of_le' hfuel
  have hv : v / 10 = 1 := div_ten_of_two_digits hv1 hv2
  obtain ⟨e1, hb1, hn1, hbs1, hi1, hf1, hs1, hr1⟩ :=
    while2_body_spec (g + 3) e k 0 v L hidx hflag hsum hres (Nat.zero_le _) hL
  rw [hv] at hs1
  obtain ⟨e2, hb2, hn2, hbs2, _, _, hs2, hr2⟩ :=
    while2_body_spec (g + 3) e1 k 1 1 _ hi1 hf1 hs1 hr1 (Nat.le_add_left 1 k)
      (by rw [List.length_set]; exact Nat.lt_of_succ_lt hL)
  have hc1 : Gen.calculus_addition.while2_cond (g + 3) e = .ok true := by
    rw [while2_cond_spec _ e v hsum, decide_eq_true (Nat.lt_of_lt_of_le (by decide) hv1)]
  have hc2 : Gen.calculus_addition.while2_cond (g + 3) e1 = .ok true := by
    rw [while2_cond_spec _ e1 1 hs1]; rfl
  have hc3 : Gen.calculus_addition.while2_cond (g + 3) e2 = .ok false := by
    rw [while2_cond_spec _ e2 _ hs2]; rfl
  refine ⟨e2, ?_, hn2.trans (hn1.trans hnum), hbs2.trans (hbs1.trans hbase), hr2.trans (congrArg natsPV hR)⟩
  rw [whileLoop_true_norm hc1 hb1, whileLoop_true_norm hc2 hb2, whileLoop_false hc3]

/-- invariant before the column `k - 1` (columns `k … n-1` done). -/
def AddInv (s bs : Dec) (k : Nat) (e : Gen.calculus_addition.Env) : Prop :=
  e.number = charsPV s ∧ e.base = charsPV bs ∧
    e.result = natsPV (List.replicate k 0 ++ (addSt (s.zip bs) k).1 :: (addSt (s.zip bs) k).2)

theorem for1_body_spec (fuel : Nat) (hfuel : 3 ≤ fuel) (s bs : Dec) (hs : Digits s) (hbs : Digits bs)
    (hlen : s.length ≤ bs.length) (k : Nat) (hk : k < s.length) (e : Gen.calculus_addition.Env)
    (h : AddInv s bs (k + 1) e) :
    ∃ e', Gen.calculus_addition.for1_body fuel (.int (k : Int)) e = .ok (.norm e') ∧ AddInv s bs k e' := by
  obtain ⟨hnum, hbase, hres⟩ := h
  have hk' : k < bs.length := Nat.lt_of_lt_of_le hk hlen
  have hkz : k < (s.zip bs).length := by rw [List.length_zip]; exact Nat.lt_min.mpr ⟨hk, hk'⟩
  have hstep : addSt (s.zip bs) k = addStep (s[k], bs[k]) (addSt (s.zip bs) (k + 1)) := by
    rw [addSt, foldr_drop_step _ _ hkz, List.getElem_zip]; rfl
  obtain ⟨hc, _⟩ := addSt_bound hs hbs (k + 1)
  generalize addSt (s.zip bs) (k + 1) = st at hres hstep hc
  obtain ⟨c, ds⟩ := st
  have hv : s[k] + bs[k] + c < 20 := by
    have hx := hs.getElem k hk
    have hy := hbs.getElem k hk'
    have hc' : c ≤ 1 := hc
    omega
  have hL : k + 1 < (List.replicate (k + 1) 0 ++ c :: ds).length := by
    rw [List.length_append, List.length_replicate]; exact Nat.lt_add_of_pos_right (Nat.succ_pos _)
  simp only [Gen.calculus_addition.for1_body, hnum, hbase, hres, pyIndex_charsPV hk, pyIndex_charsPV hk',
    pyInt_digit (hs.getElem k hk), pyInt_digit (hbs.getElem k hk'), bnd_ok, pyAdd_nat, pyAdd_nat_one,
    pyIndex_natsPV_mid List.length_replicate.symm, pyInt_int, pyLt_nat_ten]
  simp only [AddInv, hstep, addStep]
  generalize s[k] + bs[k] + c = v at hv
  by_cases hlt : v < 10
  · simp only [hlt, decide_true, if_true, pySetItem_natsPV_mid List.length_replicate.symm, bnd_ok]
    refine ⟨_, rfl, rfl, rfl, ?_⟩
    rw [replicate_succ_append, Nat.div_eq_of_lt hlt, Nat.mod_eq_of_lt hlt]
  · simp only [hlt, decide_false, Bool.false_eq_true, if_false]
    exact while2_loop fuel hfuel _ k v (List.replicate (k + 1) 0 ++ c :: ds) _ _ _ rfl rfl rfl rfl rfl rfl
      (Nat.le_of_not_lt hlt) hv hL
      (by rw [set_set_result, div_ten_of_two_digits (Nat.le_of_not_lt hlt) hv])

/-- `k1`: join the digits, drop one leading zero. -/
theorem k1_spec (fuel : Nat) (e : Gen.calculus_addition.Env) (c : Nat) (ds : List Nat) (hc : c < 10)
    (hds : Digits ds) (hres : e.result = natsPV (c :: ds)) :
    Gen.calculus_addition.k1 fuel e =
      .ok (.ret (dstr (if (c :: ds).head? = some 0 then (c :: ds).tail else c :: ds))) := by
  have hd : Digits (c :: ds) := Digits_cons.mpr ⟨hc, hds⟩
  simp only [Gen.calculus_addition.k1, hres, join_map_str_natsPV hd, bnd_ok, pyIndex_dstr_cons_zero, pyNe_def,
    eqb_digit_lit_zero hc, pySliceV_dstr_from_one]
  cases c with
  | zero => rfl
  | succ n => rfl

end AddTie

open AddTie in
theorem tie_calculus_addition (s : Dec) (b fuel : Nat) (hs : Digits s) (hb : b < 10) (hf : 3 ≤ fuel) :
    Gen.calculus_addition fuel (dstr s) (dstr [b]) = .ok (dstr (calculusAddition s b)) := by
  have hbd : Digits [b] := Digits_singleton.mpr hb
  have hbs : Digits (List.replicate (s.length - 1) 0 ++ [b]) :=
    Digits_append.mpr ⟨Digits_replicate (by decide), hbd⟩
  have hlen : s.length ≤ (List.replicate (s.length - 1) 0 ++ [b]).length := by
    rw [List.length_append, List.length_replicate, List.length_singleton]; omega
  simp only [Gen.calculus_addition, Gen.calculus_addition.body, pyList_dstr', pyLen_dstr, pyZfill_dstr hbd, bnd_ok,
    List.length_singleton, pyLen_charsPV, pyAdd_nat_one, pyRange1_nat, pyMap_const_zero, pySub_int,
    pyRange3_down, pyIter_list]
  apply callResult_seq_of_norm (AddInv s (List.replicate (s.length - 1) 0 ++ [b]) 0)
  · refine forLoop_range_down (AddInv s _) s.length
      (fun k hk e h => for1_body_spec fuel hf s _ hs hbs hlen k hk e h) ⟨rfl, rfl, ?_⟩
    rw [addSt_of_length_le (by rw [List.length_zip]; exact Nat.min_le_left _ _)]
    exact congrArg natsPV List.replicate_succ'
  · intro e1 ⟨_, _, hres⟩
    obtain ⟨hc, hds⟩ := addSt_bound hs hbs 0
    rw [k1_spec fuel e1 _ _ (Nat.lt_of_le_of_lt hc (by decide)) hds (by exact hres)]
    rfl

end Dsw.Tie
