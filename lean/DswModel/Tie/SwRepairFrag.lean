import DswModel.Tie.SwRepairLib
/-!
# Translation tie — `repair_dna`: the fragment collection

`for index, (chuck_sequence, index_marker) in enumerate(zip(...))` (model `fragFold` / `fragStep`), its look-back
loop `for recall, vertex_index in enumerate(index_marker[::-1])` (model `collectFragments` / `collectStep`) and the
innermost `for _, fragment in record` (model `addFragments`).
-/
namespace Dsw.Tie.Repair
open Dsw Dsw.Py Dsw.Tie

/-- a finished fragment set: `list(repaired_fragment_set[index])`. -/
def donePV (fs : List (List Char)) : PV := .list (fs.map .str)

/-- a look-back window as the slice of `index_queue` the code stored. -/
def markerPV (m : List Int) : PV := .arr (m.map .int)

/-- the environment inside the loops over one detection: `A` holds the finished sets, `B` the untouched ones;
`inner` is the state of `collectFragments`, `base` the look-ups counted before this detection. -/
def InnerRel (P : Params) (K : PV × PV × PV) (A B : List PV) (chunk : List Char) (base : Nat)
    (inner : List (List Char) × Nat) (e : Env) : Prop :=
  Const P e ∧ Keep K e ∧
    e = { e with index := .int (A.length : Int), chuck_sequence := .str chunk,
                 repaired_fragment_set := .list (A ++ .set (inner.1.map .str) :: B),
                 visited_times := .int ((base + inner.2 : Nat) : Int) }

/-- one record: the set update of `collectFragments`. -/
def addFragment (dna : List Char) (set : List (List Char)) (info : RepairInfo) : List (List Char) :=
  if set.contains dna then set else if set.contains info.fragment then set else set ++ [info.fragment]

theorem addFragments_eq (dna : List Char) (set : List (List Char)) (infos : List RepairInfo) :
    addFragments dna set infos = infos.foldl (addFragment dna) set := rfl

theorem for4_spec (fuel : Nat) {P : Params} {K : PV × PV × PV} {A B : List PV} {chunk : List Char} {base cnt : Nat}
    (info : RepairInfo) (set : List (List Char)) (e : Env) (h : InnerRel P K A B chunk base (set, cnt) e) :
    ∃ e', Gen.repair_dna.for4_body fuel (infoPV info) e = .ok (.norm e') ∧
      InnerRel P K A B chunk base (addFragment P.dna set info, cnt) e' := by
  obtain ⟨hc, hk, h⟩ := h
  rw [hc, hk, h]
  unfold addFragment
  simp only [Gen.repair_dna.for4_body, infoPV, pyUnpack_two_tup, bnd_ok, getD_cons_zero', getD_cons_one',
    pyIndex_list_mid, pyIn_set_strs]
  cases set.contains P.dna with
  | true => exact ⟨_, rfl, rfl, rfl, rfl⟩
  | false =>
    simp only [Bool.not_false, if_true, pySetAdd_strs, pySetItem_list_mid, Bool.false_eq_true, if_false, bnd_ok]
    exact ⟨_, rfl, rfl, rfl, rfl⟩

theorem for4_loop (fuel : Nat) {P : Params} {K : PV × PV × PV} {A B : List PV} {chunk : List Char} {base cnt : Nat}
    (infos : List RepairInfo) (set : List (List Char)) (e : Env) (h : InnerRel P K A B chunk base (set, cnt) e) :
    ∃ e', forLoop (Gen.repair_dna.for4_body fuel) (infos.map infoPV) e = .ok (.norm e') ∧
      InnerRel P K A B chunk base (addFragments P.dna set infos, cnt) e' := by
  rw [addFragments_eq]
  exact forLoop_rel_map (fun set e => InnerRel P K A B chunk base (set, cnt) e) (addFragment P.dna) infoPV
    (fun info _ set e hr => for4_spec fuel info set e hr) h

theorem for3_spec (fuel : Nat) {P : Params} (ha : P.a.WF) {K : PV × PV × PV} {A B : List PV} {chunk : List Char}
    {base : Nat} (j : Nat) (p : Int) (hj : j < P.k) (hp : -(P.a.size : Int) ≤ p ∧ p < P.a.size)
    (inner : List (List Char) × Nat) (e : Env) (h : InnerRel P K A B chunk base inner e) :
    Sim (InnerRel P K A B chunk base) (collectStep P.a P.k P.dna chunk P.hasIndel inner (p, j))
      (Gen.repair_dna.for3_body fuel (.tup [.int (j : Int), .int p]) e) := by
  obtain ⟨hc, hk, h⟩ := h
  have hocc : ((P.k : Int) - (j : Int) - 1) = ((P.k - j - 1 : Nat) : Int) := by omega
  unfold collectStep
  rw [hc, hk, h]
  simp only [Gen.repair_dna.for3_body, pyUnpack_two_tup, bnd_ok, getD_cons_zero', getD_cons_one', npSub_int,
    hocc, path_matching_spec fuel ha chunk hp]
  cases hpm : pathMatching P.a chunk p (P.k - j - 1) P.hasIndel with
  | error err => exact Sim.error rfl
  | ok r =>
    simp only [R_map_ok, bnd_ok, pmResultPV, pyUnpack_two_tup, getD_cons_zero', getD_cons_one', npAdd_nat,
      pyIter_list, Nat.add_assoc]
    have hA : ∀ e0, InnerRel P K A B chunk base (inner.1, inner.2 + r.2) e0 →
        Sim (InnerRel P K A B chunk base) (.ok (addFragments P.dna inner.1 r.1, inner.2 + r.2))
          (forLoop (Gen.repair_dna.for4_body fuel) (r.1.map infoPV) e0) := fun e0 h0 => by
      obtain ⟨e', he', hr'⟩ := for4_loop fuel r.1 inner.1 e0 h0
      exact Sim.ok he' hr'
    exact hA _ ⟨rfl, rfl, rfl⟩

theorem for3_loop (fuel : Nat) {P : Params} (ha : P.a.WF) {K : PV × PV × PV} {A B : List PV} {chunk : List Char}
    {base : Nat} (marker : List Int) (hml : marker.length ≤ P.k)
    (hm : ∀ x ∈ marker, -(P.a.size : Int) ≤ x ∧ x < P.a.size) (e : Env)
    (h : InnerRel P K A B chunk base ([], 0) e) :
    Sim (InnerRel P K A B chunk base) (collectFragments P.a P.k P.dna chunk marker P.hasIndel)
      (forLoop (Gen.repair_dna.for3_body fuel) (enumFrom 0 (marker.map PV.int).reverse) e) := by
  rw [← List.map_reverse, ← itemsFrom_enum, collectFragments_eq, ← foldIdxM_zipIdx]
  exact forLoop_sim (fun _ => InnerRel P K A B chunk base)
    (fun j s p => collectStep P.a P.k P.dna chunk P.hasIndel s (p, j))
    (fun i a => PV.tup [.int (i : Int), .int a]) marker.reverse 0 ([], 0) e
    (fun j p inner e' hp _ hj hr =>
      for3_spec fuel ha j p (by simp only [List.length_reverse] at hj; omega) (hm p (List.mem_reverse.mp hp))
        inner e' hr) h

theorem Sim.map {ε σ τ : Type} {Rel₁ : σ → ε → Prop} {Rel₂ : τ → ε → Prop} {m : R σ} {r : R (Flow ε)} {f : σ → τ}
    (h : Sim Rel₁ m r) (hf : ∀ s e, Rel₁ s e → Rel₂ (f s) e) : Sim Rel₂ (m.bind fun s => .ok (f s)) r := by
  cases m with
  | error err => exact h
  | ok s =>
    obtain ⟨e', he', hr'⟩ := h
    exact ⟨e', he', hf s e' hr'⟩

/-- `repaired_fragment_set[index] = list(repaired_fragment_set[index])`. -/
theorem k1_spec (fuel : Nat) {P : Params} {K : PV × PV × PV} {A B : List PV} {chunk : List Char} {base : Nat}
    (r : List (List Char) × Nat) (e : Env) (h : InnerRel P K A B chunk base r e) :
    ∃ e', Gen.repair_dna.k1 fuel e = .ok (.norm e') ∧ Const P e' ∧ Keep K e' ∧
      e' = { e' with repaired_fragment_set := .list (A ++ donePV r.1 :: B),
                     visited_times := .int ((base + r.2 : Nat) : Int) } := by
  obtain ⟨hc, hk, h⟩ := h
  rw [hc, hk, h]
  simp only [Gen.repair_dna.k1, pyIndex_list_mid, pyList_set, bnd_ok, pySetItem_list_mid]
  exact ⟨_, rfl, rfl, rfl, rfl⟩

theorem for2_tail (fuel : Nat) {P : Params} (ha : P.a.WF) {K : PV × PV × PV} {A B : List PV} {chunk : List Char}
    {base : Nat} (marker : List Int) (hml : marker.length ≤ P.k)
    (hm : ∀ x ∈ marker, -(P.a.size : Int) ≤ x ∧ x < P.a.size) (e : Env)
    (h : InnerRel P K A B chunk base ([], 0) e) :
    Sim (fun (r : List (List Char) × Nat) e' => Const P e' ∧ Keep K e' ∧
          e' = { e' with repaired_fragment_set := .list (A ++ donePV r.1 :: B),
                         visited_times := .int ((base + r.2 : Nat) : Int) })
      (collectFragments P.a P.k P.dna chunk marker P.hasIndel)
      (seq (forLoop (Gen.repair_dna.for3_body fuel) (enumFrom 0 (marker.map PV.int).reverse) e)
        (Gen.repair_dna.k1 fuel)) := by
  have h3 := for3_loop fuel ha marker hml hm e h
  cases hcf : collectFragments P.a P.k P.dna chunk marker P.hasIndel with
  | error err =>
    rw [hcf] at h3
    rw [show forLoop _ _ e = .error err from h3]
    exact Sim.error rfl
  | ok r =>
    rw [hcf] at h3
    obtain ⟨e1, he1, hr1⟩ := h3
    rw [he1, seq_norm]
    obtain ⟨e2, he2, hr2⟩ := k1_spec fuel r e1 hr1
    exact Sim.ok he2 hr2

/-- the environment between two detections: the first `i` sets are finished lists, the others still empty sets. -/
def OuterRel (P : Params) (K : PV × PV × PV) (n i : Nat) (acc : List (List (List Char)) × Nat) (e : Env) : Prop :=
  Const P e ∧ Keep K e ∧ acc.1.length = i ∧
    e = { e with repaired_fragment_set := .list (acc.1.map donePV ++ List.replicate (n - i) (.set [])),
                 visited_times := .int (acc.2 : Int) }

/-- a detection as the loop sees it: `(chuck_sequence, index_marker)`. -/
def cmPV (cm : List Char × List Int) : PV := .tup [.str cm.1, markerPV cm.2]

theorem for2_spec (fuel : Nat) {P : Params} (ha : P.a.WF) {K : PV × PV × PV} {n i : Nat} (hi : i < n)
    (cm : List Char × List Int) (hml : cm.2.length ≤ P.k) (hm : ∀ x ∈ cm.2, -(P.a.size : Int) ≤ x ∧ x < P.a.size)
    (acc : List (List (List Char)) × Nat) (e : Env) (h : OuterRel P K n i acc e) :
    Sim (OuterRel P K n (i + 1)) (fragStep P.a P.k P.dna P.hasIndel acc cm)
      (Gen.repair_dna.for2_body fuel (.tup [.int (i : Int), cmPV cm]) e) := by
  obtain ⟨hc, hk, hlen, h⟩ := h
  subst hlen
  have hrep : List.replicate (n - acc.1.length) (PV.set []) =
      .set [] :: List.replicate (n - acc.1.length - 1) (.set []) := by
    obtain ⟨m, hm⟩ := Nat.exists_eq_add_one_of_ne_zero (Nat.sub_ne_zero_of_lt hi)
    rw [hm, List.replicate_succ]; rfl
  rw [hrep] at h
  have hA : ∀ e0, InnerRel P K (acc.1.map donePV) (List.replicate (n - acc.1.length - 1) (.set [])) cm.1 acc.2
        ([], 0) e0 →
      Sim (OuterRel P K n (acc.1.length + 1)) (fragStep P.a P.k P.dna P.hasIndel acc cm)
        (seq (forLoop (Gen.repair_dna.for3_body fuel) (enumFrom 0 (cm.2.map PV.int).reverse) e0)
          (Gen.repair_dna.k1 fuel)) := fun e0 h0 => by
    unfold fragStep
    refine Sim.map (for2_tail fuel ha cm.2 hml hm e0 h0) ?_
    rintro r e' ⟨h1, h2, h3⟩
    refine ⟨h1, h2, by simp, ?_⟩
    simp only [List.map_append, List.map_cons, List.map_nil, List.append_assoc, List.singleton_append]
    exact h3
  rw [hc, hk, h]
  simp only [Gen.repair_dna.for2_body, cmPV, markerPV, pyUnpack_two_tup, bnd_ok, getD_cons_zero', getD_cons_one',
    pyReverse_arr, pyEnumerate_arr, pyIter_list]
  exact hA _ ⟨rfl, rfl, by rw [List.length_map]; rfl⟩

theorem for2_loop (fuel : Nat) {P : Params} (ha : P.a.WF) {K : PV × PV × PV} (cms : List (List Char × List Int))
    (hcm : ∀ cm ∈ cms, cm.2.length ≤ P.k ∧ ∀ x ∈ cm.2, -(P.a.size : Int) ≤ x ∧ x < P.a.size)
    (v0 : Nat) (e : Env) (h : OuterRel P K cms.length 0 ([], v0) e) :
    Sim (OuterRel P K cms.length cms.length) (cms.foldlM (fragStep P.a P.k P.dna P.hasIndel) ([], v0))
      (forLoop (Gen.repair_dna.for2_body fuel) (enumFrom 0 (cms.map cmPV)) e) := by
  rw [← itemsFrom_enum, ← foldIdxM_const _ 0]
  have := forLoop_sim (OuterRel P K cms.length) (fun _ => fragStep P.a P.k P.dna P.hasIndel)
    (fun i cm => PV.tup [.int (i : Int), cmPV cm]) cms 0 ([], v0) e
    (fun i cm acc e' hmem _ hi hr =>
      for2_spec fuel ha (by omega) cm (hcm cm hmem).1 (hcm cm hmem).2 acc e' hr) h
  rw [Nat.zero_add] at this
  exact this

end Dsw.Tie.Repair
