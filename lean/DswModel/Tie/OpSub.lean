import DswModel.Tie.OpLemmas
/-!
# Translation tie — `calculus_subtraction`

On its contract (a non-empty string of decimal digits and a one-digit operand not larger than the number) the
generated definition computes the model function `Dsw.calculusSubtraction`.

The number is `P ++ [last]`.  With a one-digit operand the outer loop (`for1`) runs once.  If `last < b` the
prefix is `A ++ (d+1) :: replicate z 0` (there is a non-zero digit because `b ≤ toNat s`); the borrow loop
(`while2`, induction on `z`) turns the zeros into nines, `k1` decrements `d+1`.  The copy loop (`for3`,
`forLoop_range_down`) prepends the prefix to the residue, and the search loop (`for4`, `forLoop_stripZeros`)
strips the leading zeros.
-/
namespace Dsw.Tie
open Dsw Dsw.Py

namespace SubTie

theorem borrow_replicate (z d : Nat) (r : List Nat) :
    borrow (List.replicate z 0 ++ (d + 1) :: r) = List.replicate z 9 ++ d :: r := by
  induction z with
  | zero => rfl
  | succ z ih => rw [List.replicate_succ, List.cons_append, borrow, ih]; rfl

theorem reverse_shape (A : List Nat) (x z v : Nat) :
    (A ++ x :: List.replicate z v).reverse = List.replicate z v ++ x :: A.reverse := by
  rw [List.reverse_append, List.reverse_cons, List.reverse_replicate, List.append_assoc, List.singleton_append]

theorem calculusSubtraction_snoc (P : Dec) (last b : Nat) :
    calculusSubtraction (P ++ [last]) b =
      stripZeros (if last ≥ b then P ++ [last - b] else (borrow P.reverse).reverse ++ [10 + last - b]) := by
  rw [calculusSubtraction, List.reverse_append, List.reverse_singleton, List.singleton_append]
  simp only [List.reverse_reverse]
  split <;> rfl

/-- a prefix with positive value ends in a non-zero digit followed by zeros. -/
theorem prefix_shape (P : Dec) (h : 0 < Dec.toNat P) :
    ∃ A d z, P = A ++ (d + 1) :: List.replicate z 0 := by
  have key : P = List.replicate P.length 0 ∨ ∃ A d z, P = A ++ (d + 1) :: List.replicate z 0 := by
    clear h
    induction P with
    | nil => exact Or.inl rfl
    | cons x P ih =>
      rcases ih with h0 | ⟨A, d, z, hP⟩
      · cases x with
        | zero => exact Or.inl (congrArg (0 :: ·) h0)
        | succ d => exact Or.inr ⟨[], d, P.length, congrArg ((d + 1) :: ·) h0⟩
      · exact Or.inr ⟨x :: A, d, z, congrArg (x :: ·) hP⟩
  rcases key with h0 | hs
  · rw [h0, Dec.toNat_replicate_zero] at h
    exact absurd h (Nat.lt_irrefl 0)
  · exact hs

/-- the list `A ++ (d+1) :: 0…0 ++ T` seen from its last zero. -/
theorem borrow_shape (A : List Nat) (x z v : Nat) (T : List Nat) :
    A ++ x :: (List.replicate (z + 1) v ++ T) = (A ++ x :: List.replicate z v) ++ v :: T := by
  rw [replicate_succ_append, List.append_assoc, List.cons_append]

theorem borrow_length (A : List Nat) (x z v : Nat) :
    A.length + (z + 1) = (A ++ x :: List.replicate z v).length := by
  rw [List.length_append, List.length_cons, List.length_replicate]

theorem while2_spec (fuel0 : Nat) (A : List Nat) (d : Nat) (z : Nat) :
    ∀ (T : List Nat) (fuel : Nat) (e : Gen.calculus_subtraction.Env), z < fuel →
      e.number = natsPV (A ++ (d + 1) :: (List.replicate z 0 ++ T)) →
      e.flag_a = .int ((A.length + z + 1 : Nat) : Int) →
      ∃ e', whileLoop (Gen.calculus_subtraction.while2_cond fuel0) (Gen.calculus_subtraction.while2_body fuel0)
          fuel e = .ok (.norm e') ∧
        e'.number = natsPV (A ++ (d + 1) :: (List.replicate z 9 ++ T)) ∧
        e'.flag_a = .int ((A.length + 1 : Nat) : Int) ∧ e'.residue = e.residue ∧ e'.index = e.index := by
  induction z with
  | zero =>
    intro T fuel e hfuel hnum hfa
    obtain ⟨f, rfl⟩ := Nat.exists_eq_add_one.mpr hfuel
    have hd : (((d + 1 : Nat) : Int) == 0) = false := by
      simp only [beq_eq_false_iff_ne, ne_eq]; omega
    refine ⟨e, whileLoop_false ?_ f, hnum, hfa, rfl, rfl⟩
    simp only [Gen.calculus_subtraction.while2_cond, hnum, hfa, pySub_succ_one, bnd_ok,
      pyIndex_natsPV_mid rfl, pyEq_def, eqb_int, hd]
  | succ z ih =>
    intro T fuel e hfuel hnum hfa
    obtain ⟨f, rfl⟩ := Nat.exists_eq_add_one.mpr (Nat.zero_lt_of_lt hfuel)
    rw [borrow_shape] at hnum
    have hcond : Gen.calculus_subtraction.while2_cond fuel0 e = .ok true := by
      simp only [Gen.calculus_subtraction.while2_cond, hnum, hfa, pySub_succ_one, bnd_ok,
        pyIndex_natsPV_mid (borrow_length A (d + 1) z 0), pyEq_def, eqb_int]
      rfl
    have hbody : ∃ e1, Gen.calculus_subtraction.while2_body fuel0 e = .ok (.norm e1) ∧
        e1.number = natsPV (A ++ (d + 1) :: (List.replicate z 0 ++ 9 :: T)) ∧
        e1.flag_a = .int ((A.length + z + 1 : Nat) : Int) ∧ e1.residue = e.residue ∧ e1.index = e.index := by
      have h9 : (PV.int 9) = .int ((9 : Nat) : Int) := rfl
      simp only [Gen.calculus_subtraction.while2_body, hnum, hfa, pySub_succ_one, bnd_ok, h9,
        pySetItem_natsPV_mid (borrow_length A (d + 1) z 0)]
      refine ⟨_, rfl, ?_, rfl, rfl, rfl⟩
      rw [List.append_assoc, List.cons_append]
    obtain ⟨e1, hb, hn1, hfa1, hres1, hidx1⟩ := hbody
    obtain ⟨e2, hw, hn2, hfa2, hres2, hidx2⟩ := ih (9 :: T) f e1 (Nat.lt_of_succ_lt_succ hfuel) hn1 hfa1
    refine ⟨e2, ?_, ?_, hfa2, hres2.trans hres1, hidx2.trans hidx1⟩
    · rw [whileLoop_true_norm hcond hb, hw]
    · rw [hn2, replicate_succ_append]

/-- `k1`: `number[flag_a - 1] -= 1` on the first non-zero digit. -/
theorem k1_spec (fuel0 : Nat) (A : List Nat) (d : Nat) (T : List Nat) (e : Gen.calculus_subtraction.Env)
    (hnum : e.number = natsPV (A ++ (d + 1) :: T)) (hfa : e.flag_a = .int ((A.length + 1 : Nat) : Int)) :
    ∃ e', Gen.calculus_subtraction.k1 fuel0 e = .ok (.norm e') ∧ e'.number = natsPV (A ++ d :: T) ∧
      e'.residue = e.residue ∧ e'.index = e.index := by
  simp only [Gen.calculus_subtraction.k1, hnum, hfa, pySub_succ_one, bnd_ok,
    pyIndex_natsPV_mid rfl, pySetItem_natsPV_mid rfl]
  exact ⟨_, rfl, rfl, rfl, rfl⟩

/-- `for flag in range(m - 1, -1, -1): residue = str(number[flag]) + residue`, before the iteration on
`k - 1`: the residue holds the digits from `k` on. -/
def CopyInv (P : Dec) (x r : Nat) (k : Nat) (e : Gen.calculus_subtraction.Env) : Prop :=
  e.number = natsPV (P ++ [x]) ∧ e.residue = dstr (P.drop k ++ [r])

theorem for3_body_spec (fuel0 : Nat) (P : Dec) (hP : Digits P) (x r : Nat) (k : Nat) (hk : k < P.length)
    (e : Gen.calculus_subtraction.Env) (h : CopyInv P x r (k + 1) e) :
    ∃ e', Gen.calculus_subtraction.for3_body fuel0 (.int (k : Int)) e = .ok (.norm e') ∧ CopyInv P x r k e' := by
  obtain ⟨hnum, hres⟩ := h
  have hlt : k < (P ++ [x]).length := by rw [List.length_append]; exact Nat.lt_add_right _ hk
  simp only [Gen.calculus_subtraction.for3_body, hnum, hres, pyIndex_natsPV hlt, List.getElem_append_left hk,
    bnd_ok, pyStr_digit (hP.getElem k hk), ← dstr_singleton, pyAdd_dstr]
  refine ⟨_, rfl, rfl, ?_⟩
  rw [List.drop_eq_getElem_cons hk]; rfl

/-- `k2`: prepend the digits left of the last one to the residue (`index = 0`). -/
theorem k2_spec (fuel0 : Nat) (P : Dec) (hP : Digits P) (x r : Nat) (e : Gen.calculus_subtraction.Env)
    (hnum : e.number = natsPV (P ++ [x])) (hres : e.residue = dstr [r]) (hidx : e.index = .int 0) :
    ∃ e', Gen.calculus_subtraction.k2 fuel0 e = .ok (.norm e') ∧ e'.residue = dstr (P ++ [r]) := by
  have hc : (((P ++ [x]).length : Nat) : Int) - 1 - 0 - 1 = (P.length : Int) - 1 := by
    rw [List.length_append, List.length_singleton, Int.natCast_succ, Int.add_sub_cancel, Int.sub_zero]
  simp only [Gen.calculus_subtraction.k2, hnum, hidx, pyLen_natsPV, pySub_int, bnd_ok, hc, pyRange3_down,
    pyIter_list]
  obtain ⟨e', hl, _, hr⟩ := forLoop_range_down (CopyInv P x r) P.length
    (fun k hk e h => for3_body_spec fuel0 P hP x r k hk e h) (e := e)
    ⟨hnum, by rw [hres, List.drop_length]; rfl⟩
  exact ⟨e', hl, hr⟩

theorem for4_body_spec (fuel0 : Nat) (q : Dec) (hq : Digits q) (i : Nat) (hi : i < q.length)
    (e : Gen.calculus_subtraction.Env) (hres : e.residue = dstr q) :
    (q[i] = 0 → ∃ e', Gen.calculus_subtraction.for4_body fuel0 (.int (i : Int)) e = .ok (.norm e') ∧
        e'.residue = dstr q) ∧
      (q[i] ≠ 0 → Gen.calculus_subtraction.for4_body fuel0 (.int (i : Int)) e = .ok (.ret (dstr (q.drop i)))) := by
  simp only [Gen.calculus_subtraction.for4_body, hres, pyIndex_dstr hi, bnd_ok, pyNe_def,
    eqb_digit_lit_zero (hq.getElem i hi)]
  constructor
  · intro hd
    simp only [hd, decide_true, Bool.not_true, Bool.false_eq_true, if_false]
    exact ⟨_, rfl, rfl⟩
  · intro hd
    simp only [hd, decide_false, Bool.not_false, if_true, pySliceV_dstr_from, bnd_ok]

/-- `k4`: strip the zeros of the residue, `"0"` if there is nothing else. -/
theorem k4_spec (fuel0 : Nat) (q : Dec) (hq : Digits q) (e : Gen.calculus_subtraction.Env)
    (hres : e.residue = dstr q) :
    Gen.calculus_subtraction.k4 fuel0 e = .ok (.ret (dstr (stripZeros q))) := by
  simp only [Gen.calculus_subtraction.k4, hres, pyLen_dstr, bnd_ok, pyRange1_nat, pyIter_list]
  apply seq_eq_of_norm_or_ret _ _ (forLoop_stripZeros q (fun e => e.residue = dstr q) dstr
    (fun i hi e he => for4_body_spec fuel0 q hq i hi e he) (by exact hres))
  · intro e2 hz
    rw [Gen.calculus_subtraction.k3, hz.2, str_lit_zero]
  · intro v hv
    rw [hv]

theorem base_idx (b : Nat) : pyIndex (natsPV [b]) (.int 0) = .ok (.int (b : Int)) :=
  pyIndex_natsPV_mid (Q := []) rfl b []

/-- `len(number) - 1 - index` for `index = 0`. -/
theorem last_idx (P : List Nat) (x : Nat) : (((P ++ [x]).length : Nat) : Int) - 1 - 0 = (P.length : Int) := by
  rw [List.length_append, List.length_singleton, Int.natCast_succ, Int.add_sub_cancel, Int.sub_zero]

/-- `len(base) - 1 - index` for a one-digit `base`. -/
theorem base_last_idx (b : Nat) : ((([b] : List Nat).length : Nat) : Int) - 1 - 0 = 0 := rfl

theorem borrow_digit {last b : Nat} (hb : b < 10) (hlt : last < b) :
    10 + last - b < 10 ∧ (10 : Int) + (last : Int) - (b : Int) = ((10 + last - b : Nat) : Int) :=
  ⟨by omega, (Int.ofNat_sub (Nat.le_trans (Nat.le_of_lt hb) (Nat.le_add_right 10 last))).symm⟩

/-- the single iteration of the outer loop (`index = 0`): the residue is the model's result before the zeros
are stripped.  With a borrow the prefix has a non-zero digit, `A ++ (d+1) :: 0…0`. -/
theorem for1_body_spec (fuel : Nat) (P : Dec) (hP : Digits P) (last b : Nat) (hl : last < 10) (hb : b < 10)
    (hpos : last < b → 0 < Dec.toNat P) (hfuel : P.length < fuel)
    (e : Gen.calculus_subtraction.Env) (hnum : e.number = natsPV (P ++ [last])) (hbase : e.base = natsPV [b])
    (hres : e.residue = dstr []) :
    ∃ e', Gen.calculus_subtraction.for1_body fuel (.int 0) e = .ok (.norm e') ∧
      e'.residue = dstr (if last ≥ b then P ++ [last - b] else (borrow P.reverse).reverse ++ [10 + last - b]) := by
  simp only [Gen.calculus_subtraction.for1_body, hnum, hbase, hres, pyLen_natsPV, pySub_int, bnd_ok, last_idx,
    base_last_idx, pyIndex_natsPV_mid rfl, base_idx, pyInt_int, pyGe_int, Int.ofNat_le, ge_iff_le]
  by_cases hge : b ≤ last
  · have hsub : (last : Int) - (b : Int) = ((last - b : Nat) : Int) := (Int.ofNat_sub hge).symm
    simp only [hge, decide_true, if_true, bnd_ok, hsub,
      pyStr_digit (Nat.lt_of_le_of_lt (Nat.sub_le last b) hl),
      ← dstr_singleton, pyAdd_dstr, List.append_nil]
    apply seq_norm_exists (Q := fun e1 => e1.number = natsPV (P ++ [last]) ∧ e1.residue = dstr [last - b] ∧
      e1.index = .int 0) ⟨_, rfl, rfl, rfl, rfl⟩
    intro e1 ⟨h1, h2, h3⟩
    exact k2_spec fuel P hP last (last - b) e1 h1 h2 h3
  · obtain ⟨hr10, hsub⟩ := borrow_digit hb (Nat.lt_of_not_le hge)
    simp only [hge, decide_false, Bool.false_eq_true, if_false, pyAdd_int, pySub_int, bnd_ok, hsub, pyStr_digit hr10,
      ← dstr_singleton, pyAdd_dstr, List.append_nil]
    obtain ⟨A, d, z, rfl⟩ := prefix_shape P (hpos (Nat.lt_of_not_le hge))
    obtain ⟨hA, hdz⟩ := Digits_append.mp hP
    have hP' : Digits (A ++ d :: List.replicate z 9) :=
      Digits_append.mpr ⟨hA, Digits_cons.mpr ⟨Nat.lt_of_succ_lt (Digits_cons.mp hdz).1, Digits_replicate (by decide)⟩⟩
    rw [reverse_shape, borrow_replicate, ← reverse_shape, List.reverse_reverse, ← borrow_length A (d + 1) z 0]
    have hz : z < fuel := by rw [← borrow_length A (d + 1) z 0] at hfuel; omega
    apply seq_norm_exists (Q := fun e1 => e1.number = natsPV ((A ++ d :: List.replicate z 9) ++ [last]) ∧
      e1.residue = dstr [10 + last - b] ∧ e1.index = .int 0)
    · apply seq_norm_exists (Q := fun e1 => e1.number = natsPV (A ++ (d + 1) :: (List.replicate z 9 ++ [last])) ∧
        e1.flag_a = .int ((A.length + 1 : Nat) : Int) ∧ e1.residue = dstr [10 + last - b] ∧ e1.index = .int 0)
      · exact while2_spec fuel A d z [last] fuel _ hz
          (by rw [List.append_assoc, List.cons_append]) (by rfl)
      · intro e1 ⟨h1, h2, h3, h4⟩
        obtain ⟨e2, hk, hn2, hr2, hi2⟩ := k1_spec fuel A d _ e1 h1 h2
        refine ⟨e2, hk, ?_, hr2.trans h3, hi2.trans h4⟩
        rw [hn2, List.append_assoc, List.cons_append]
    · intro e1 ⟨h1, h2, h3⟩
      exact k2_spec fuel _ hP' last _ e1 h1 h2 h3

end SubTie

open SubTie in
theorem tie_calculus_subtraction (s : Dec) (b fuel : Nat) (hs : Digits s) (hb : b < 10) (hne : s ≠ [])
    (hle : b ≤ s.toNat) (hf : s.length + 1 ≤ fuel) :
    Gen.calculus_subtraction fuel (dstr s) (dstr [b]) = .ok (dstr (calculusSubtraction s b)) := by
  obtain ⟨P, last, rfl⟩ : ∃ P last, s = P ++ [last] :=
    ⟨s.dropLast, s.getLast hne, (List.dropLast_concat_getLast hne).symm⟩
  obtain ⟨hP, hl⟩ := Digits_append.mp hs
  rw [Digits_singleton] at hl
  have hpos : last < b → 0 < Dec.toNat P := fun hlt => by
    rw [Dec.toNat_append_single] at hle; omega
  have hfuel : P.length < fuel := by
    rw [List.length_append, List.length_singleton] at hf; omega
  have hq : Digits (if last ≥ b then P ++ [last - b] else (borrow P.reverse).reverse ++ [10 + last - b]) := by
    split
    · exact Digits_append.mpr ⟨hP, Digits_singleton.mpr (Nat.lt_of_le_of_lt (Nat.sub_le last b) hl)⟩
    · rename_i hge
      have hlt : last < b := Nat.lt_of_not_le hge
      have hbor := (borrow_spec P.reverse hP.reverse (by rw [List.reverse_reverse]; exact hpos hlt)).1
      exact Digits_append.mpr ⟨Digits.reverse hbor, Digits_singleton.mpr (borrow_digit hb hlt).1⟩
  have hbd : Digits [b] := Digits_singleton.mpr hb
  have hr1 : (List.range ([b] : List Nat).length).map (fun (i : Nat) => PV.int (i : Int)) = [.int 0] := rfl
  rw [calculusSubtraction_snoc]
  simp only [Gen.calculus_subtraction, Gen.calculus_subtraction.body, pyMap_pyInt_dstr hs, pyMap_pyInt_dstr hbd,
    bnd_ok, pyLen_natsPV, pyRange1_nat, hr1, pyIter_list]
  apply callResult_seq_of_norm (fun e1 => e1.residue = dstr _)
  · -- the outer loop runs once; stated for any `E` so that the environment is read off the goal
    have H : ∀ E : Gen.calculus_subtraction.Env, E.number = natsPV (P ++ [last]) → E.base = natsPV [b] →
        E.residue = dstr [] → ∃ e', forLoop (Gen.calculus_subtraction.for1_body fuel) [.int 0] E = .ok (.norm e') ∧
          e'.residue = dstr (if last ≥ b then P ++ [last - b] else (borrow P.reverse).reverse ++ [10 + last - b]) := by
      intro E a1 a2 a3
      obtain ⟨e', hb1, hr⟩ := for1_body_spec fuel P hP last b hl hb hpos hfuel E a1 a2 a3
      exact ⟨e', by rw [forLoop_cons_norm hb1, forLoop_nil], hr⟩
    exact H _ (by rfl) (by rfl) (by rfl)
  · intro e1 he1
    rw [k4_spec fuel _ hq e1 he1]; rfl

end Dsw.Tie
