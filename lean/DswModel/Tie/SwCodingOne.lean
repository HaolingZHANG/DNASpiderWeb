import DswModel.Tie.SwCodingArcs
import DswModel.Tie.SwCodingConv
/-!
# Translation tie — `connect_coding_graph`: the threshold-1 phase
(backward closure from the branching vertices, removal of the useless vertices with the predecessor cascade)
-/
namespace Dsw.Tie.Ccg
open Dsw Dsw.Py Dsw.Tie Dsw.Trim Dsw.TrimOne

theorem toList_eq_range_map {α} (a : Array α) (d : α) : a.toList = (List.range a.size).map fun v => a.getD v d := by
  apply List.ext_getElem
  · rw [Array.length_toList, List.length_map, List.length_range]
  · intro i h1 h2
    rw [List.getElem_map, List.getElem_range, Array.getElem_toList, Array.getD_eq_getD_getElem?,
      Array.getElem?_eq_getElem (Array.length_toList ▸ h1), Option.getD_some]

theorem cnt_map {α} (p : α → Bool) (l : List α) : cnt (l.map p) = (l.filter p).length := by
  rw [cnt, List.filter_map, List.length_map]; rfl

theorem deg_eq_cnt {a : Acc} (ha : a.WF) {v : Nat} (hv : v < a.size) :
    a.deg v = cnt ((a.getD v #[]).toList.map fun x => decide (0 ≤ x)) := by
  rw [← row_natCast hv, ha.row_toList (v := (v : Int)) (by omega) (by omega), cnt_map, Acc.deg, live_eq_filter_row]
  exact length_filter_range_getD [a.ent v 0, a.ent v 1, a.ent v 2, a.ent v 3] 0 fun x => decide (0 ≤ x)

/-- `accessor >= 0` on the two-dimensional accessor. -/
theorem npCmp_ge_mat (rows : List (List Int)) :
    npCmp pyGe (GzV.mat rows) (.int 0) =
      .ok (.arr ((rows.map fun r => r.map fun x => decide (0 ≤ x)).map fun r => .arr (r.map .bool))) := by
  rw [GzV.mat, npCmp, arrBroadcast_map_int
    (g := fun r : List Int => PV.arr ((r.map fun x => decide (0 ≤ x)).map PV.bool))]
  · simp [List.map_map, Function.comp_def]
  · intro r
    show arrBroadcast (liftCmp pyGe) (.arr (r.map .int)) (.int 0) = _
    rw [arrBroadcast_map_int (g := fun x : Int => PV.bool (decide (0 ≤ x)))]
    · simp [List.map_map, Function.comp_def]
    · intro x; rfl

/-- `useful` before the first round of the backward closure: the mask of the vertices with more than one arc. -/
def u0 (a : Acc) : Array Bool := (Array.range a.size).map fun v => decide (a.deg v > 1)

theorem u0_size (a : Acc) : (u0 a).size = a.size := by rw [u0, Array.size_map, Array.size_range]

theorem useful0_expr {a : Acc} (ha : a.WF) :
    (bnd (bnd (npCmp pyGe (accPV a) (.int 0)) fun t => npSumAxis1 t) fun t => npCmp pyGt t (.int 1)) =
      .ok (bmask false (u0 a).toList) := by
  rw [GzV.accPV_eq_mat, npCmp_ge_mat, bnd_ok, GzV.npSumAxis1_bools, bnd_ok, npCmp_pyGt_ints_int, bmask_false]
  congr 2
  simp only [u0, Array.toList_map, Array.toList_range, List.map_map]
  rw [toList_eq_range_map a #[], List.map_map]
  apply List.map_congr_left
  intro v hv
  have hv' : v < a.size := List.mem_range.mp hv
  simp only [Function.comp, cntI_eq_cnt, deg_eq_cnt ha hv']
  have hd : ∀ n : Nat, decide ((1 : Int) < (n : Int)) = decide (n > 1) := fun n => decide_eq_decide.mpr (by omega)
  rw [hd]

def pairPV (p : Nat × Nat) : PV := .tup [.int (p.1 : Int), .int (p.2 : Int)]
def pairsPV (ps : List (Nat × Nat)) : PV := .list (ps.map pairPV)

/-- `accessor[u] = -1` fills the row. -/
theorem pySetItem_accPV_row {a : Acc} {u : Nat} (hu : u < a.size) (hrow : (a.getD u #[]).size = 4) :
    pySetItem (accPV a) (.int (u : Int)) (.int (-1)) = .ok (accPV (a.setIfInBounds u (Array.replicate 4 (-1)))) := by
  have hu' : u < (a.toList.map fun r => PV.arr (r.toList.map fun (x : Int) => PV.int x)).length := by
    rw [List.length_map, Array.length_toList]; exact hu
  have hg : (a.toList.map fun r => PV.arr (r.toList.map fun (x : Int) => PV.int x)).getD u .none =
      .arr ((a.getD u #[]).toList.map fun (x : Int) => PV.int x) := by
    rw [List.getD_eq_getElem?_getD, List.getElem?_map, Array.getElem?_toList, Array.getD_eq_getD_getElem?,
      Array.getElem?_eq_getElem hu]
    rfl
  simp only [pySetItem, accPV, asInt?_int, normIndex_natCast hu', hg, Array.toList_setIfInBounds, List.map_set]
  congr 3
  rw [List.map_const', List.length_map, Array.length_toList, hrow]
  rfl

theorem live_entries_expr {a : Acc} (ha : a.WF) {v : Nat} (hv : v < a.size) :
    (bnd (npCmp pyGe (rowPV (a.row (v : Int))) (.int 0)) fun t => npMaskIndex (rowPV (a.row (v : Int))) t) =
      .ok (idxArrPV (a.liveEntries (v : Int))) := by
  rw [rowPV, npCmp_pyGe_ints_int, bnd_ok]
  simp only [npMaskIndex, GzV.maskSelect_map PV.int (fun x => decide ((0 : Int) ≤ x)) _, R_map_ok,
    GzV.liveEntries_eq ha (v := (v : Int)) (by omega) (by omega), idxArrPV]

/-! ### the backward closure (`while True` … `break` on `useful`) -/

/-- invariant of `for vertex_index in vertices:`: `useful` is the mask `u` of the round, `expanded` the mask `ex` being built. -/
def UIn (k : Nat) (a : Acc) (vs : List Nat) (u ex : Array Bool) (e : CEnv) : Prop :=
  e = { e with observed_length := .int (k : Int), accessor := accPV a, vertices := idxArrPV vs,
               useful := bmask false u.toList, expanded := bmask false ex.toList } ∧ ex.size = a.size

theorem for7_spec (k fuel : Nat) {a : Acc} (ha : a.WF) (vs : List Nat) (u : Array Bool) (hu : u.size = a.size)
    (v : Nat) (hv : v < a.size) (ex : Array Bool) (e : CEnv) (h : UIn k a vs u ex e) :
    ∃ e', Gen.connect_coding_graph.for7_body fuel (.int (v : Int)) e = .ok (.norm e') ∧
      UIn k a vs u (ustep a u ex v) e' := by
  obtain ⟨he, h6⟩ := h
  rw [he]
  have hvu : v < u.toList.length := by rw [Array.length_toList, hu]; exact hv
  have hvex : v < ex.toList.length := by rw [Array.length_toList, h6]; exact hv
  simp only [Gen.connect_coding_graph.for7_body, pyIndex_bmask false hvu, bnd_ok, truthy_cellPV, getD_toList]
  by_cases huv : u.getD v false = true
  · have hst : ustep a u ex v = ex := by unfold ustep; rw [if_pos huv]
    simp only [huv, Bool.not_true, Bool.false_eq_true, if_false, hst]
    exact ⟨_, rfl, rfl, h6⟩
  · have huv' : u.getD v false = false := by simpa using huv
    have hst : ustep a u ex v = ex.setIfInBounds v ((a.liveEntries (v : Int)).any fun w => u.getD w false) := by
      unfold ustep; rw [if_neg huv]
    have hws : ∀ w ∈ a.liveEntries (v : Int), w < u.toList.length := by
      intro w hw
      rw [Array.length_toList, hu]
      exact GzV.liveEntries_lt ha hv hw
    have hb : decide ((0 : Int) < ((cnt ((a.liveEntries (v : Int)).map fun w => u.toList.getD w false) : Nat) : Int)) =
        (a.liveEntries (v : Int)).any fun w => u.getD w false := by
      rw [Bool.eq_iff_iff]
      simp only [decide_eq_true_eq, Int.natCast_pos, cnt_pos_iff_any, List.any_map, getD_toList]
      rfl
    simp only [huv', Bool.not_false, if_true, pyIndex_accPV_nat hv, bnd_ok, live_entries_expr ha hv,
      pyIndex_bmask_arr false hws, npSum_bmask, npCmp_int_int, pyGt_int, R_map_ok, hb, pySetItem_bmask hvex,
      hst, ← toList_setIfInBounds]
    exact ⟨_, rfl, rfl, by rw [Array.size_setIfInBounds]; exact h6⟩

/-- invariant of the inner `while True:`: `useful` is the mask `u` (one cell per row), accessor and `vertices` are fixed. -/
def USt (k : Nat) (a : Acc) (vs : List Nat) (u : Array Bool) (e : CEnv) : Prop :=
  e = { e with observed_length := .int (k : Int), accessor := accPV a, vertices := idxArrPV vs,
               useful := bmask false u.toList } ∧ u.size = a.size

theorem while6_body_spec (k fuel : Nat) {a : Acc} (ha : a.WF) (vs : List Nat) (hvs : ∀ v ∈ vs, v < a.size)
    (u : Array Bool) (e : CEnv) (h : USt k a vs u e) :
    if Mask.count (usefulStep a vs u) = Mask.count u then
      ∃ e', Gen.connect_coding_graph.while6_body fuel e = .ok (.brk e') ∧ USt k a vs u e'
    else ∃ e', Gen.connect_coding_graph.while6_body fuel e = .ok (.norm e') ∧ USt k a vs (usefulStep a vs u) e' := by
  obtain ⟨he, h5⟩ := h
  have hloop : ∃ e1, (bnd (pyIter ({ e with expanded := e.useful } : CEnv).vertices) fun items =>
      forLoop (Gen.connect_coding_graph.for7_body fuel) items { e with expanded := e.useful }) = .ok (.norm e1) ∧
      UIn k a vs u (usefulStep a vs u) e1 := by
    rw [he]
    simp only [idxArrPV, pyIter_arr, bnd_ok]
    rw [usefulStep_eq]
    exact forLoop_rel_map (UIn k a vs u) (ustep a u) (fun (n : Nat) => PV.int (n : Int))
      (fun v hv st e he => for7_spec k fuel ha vs u h5 v (hvs v hv) st e he) ⟨rfl, h5⟩
  obtain ⟨e1, hl, g, _⟩ := hloop
  simp only [Gen.connect_coding_graph.while6_body]
  rw [hl, seq_norm, g]
  simp only [Gen.connect_coding_graph.k8, npSum_bmask, bnd_ok, pyEq_def, eqb_int, ← count_eq_cnt]
  by_cases hc : Mask.count (usefulStep a vs u) = Mask.count u
  · have hc' : (((Mask.count (usefulStep a vs u) : Nat) : Int) == ((Mask.count u : Nat) : Int)) = true := by
      rw [hc]; simp
    rw [if_pos hc]
    simp only [hc', if_true, seq_brk]
    exact ⟨_, rfl, rfl, h5⟩
  · have hc' : (((Mask.count (usefulStep a vs u) : Nat) : Int) == ((Mask.count u : Nat) : Int)) = false := by
      simp only [beq_eq_false_iff_ne, ne_eq]; omega
    rw [if_neg hc]
    simp only [hc', Bool.false_eq_true, if_false, seq_norm, Gen.connect_coding_graph.k7]
    exact ⟨_, rfl, rfl, by rw [usefulStep_size]; exact h5⟩

theorem while6_spec (k fuel : Nat) {a : Acc} (ha : a.WF) (vs : List Nat) (hvs : ∀ v ∈ vs, v < a.size) :
    ∀ (f : Nat) (u : Array Bool) (W : Nat) (e : CEnv), u.size < f + Mask.count u → f ≤ W → USt k a vs u e →
      ∃ e', whileLoop (Gen.connect_coding_graph.while6_cond fuel) (Gen.connect_coding_graph.while6_body fuel) W e =
          .ok (.norm e') ∧ USt k a vs (usefulLoop a vs f u) e' := by
  intro f
  induction f with
  | zero =>
    intro u W e h _ _
    have := Mask.count_le_size u
    omega
  | succ f ih =>
    intro u W e hm hW hst
    obtain ⟨W', rfl⟩ : ∃ W', W = W' + 1 := ⟨W - 1, by omega⟩
    have hb := while6_body_spec k fuel ha vs hvs u e hst
    rw [usefulLoop_succ]
    by_cases hc : Mask.count (usefulStep a vs u) = Mask.count u
    · rw [if_pos hc] at hb
      obtain ⟨e1, hb1, g⟩ := hb
      rw [if_pos hc]
      exact ⟨e1, whileLoop_true_brk (cond := Gen.connect_coding_graph.while6_cond fuel) (e := e) rfl hb1 W', g⟩
    · rw [if_neg hc] at hb
      obtain ⟨e1, hb1, g⟩ := hb
      rw [if_neg hc, whileLoop_true_norm (cond := Gen.connect_coding_graph.while6_cond fuel) (e := e) rfl hb1 W']
      have hle := usefulStep_le a vs u
      have hsz := usefulStep_size a vs u
      have hcl := Mask.count_le_of_le hsz.symm hle
      exact ih _ W' e1 (by rw [hsz]; omega) (by omega) g

/-! ### the predecessor cascade (`while len(pairs) > 0`) -/

/-- invariant of `for former_index, latter_index in pairs:`: the accessor so far (still `WFdB`) and `new_pairs`. -/
def CIn (k : Nat) (st : Acc × List (Nat × Nat)) (e : CEnv) : Prop :=
  e = { e with observed_length := .int (k : Int), accessor := accPV st.1, new_pairs := pairsPV st.2 } ∧ WFdB k st.1

theorem formers_pairs (fuel : Nat) {k : Nat} (hk : 1 ≤ k) (f : Nat) :
    (bnd (Gen.obtain_formers fuel (.int (f : Int)) (.int (k : Int))) fun t =>
        pyMap (fun it_i => .ok (.tup [it_i, .int (f : Int)])) t) =
      .ok (pairsPV ((obtainFormers k f).map fun i => (i, f))) := by
  rw [tie_obtain_formers k f fuel hk, bnd_ok, natsPV_def,
    pyMap_list_map (f := fun it_i => .ok (.tup [it_i, .int (f : Int)])) (emb := fun n : Nat => PV.int (n : Int))
      (g := fun i : Nat => PV.tup [.int (i : Int), .int (f : Int)]) (fun _ _ => rfl)]
  simp [pairsPV, pairPV, List.map_map, Function.comp_def]

/-- `current < previous and current == 0` on the two lengths. -/
theorem lost_last_arc (cur prev : Nat) :
    (decide ((cur : Int) < (prev : Int)) && ((cur : Int) == 0)) = decide (prev > cur ∧ cur = 0) := by
  rw [Bool.eq_iff_iff, Bool.and_eq_true, decide_eq_true_eq, decide_eq_true_eq, beq_iff_eq]
  omega

theorem for10_spec (k fuel : Nat) (hk : 1 ≤ k) (p : Nat × Nat) (hp : p.1 < 4 ^ k) (st : Acc × List (Nat × Nat))
    (e : CEnv) (h : CIn k st e) :
    ∃ e', Gen.connect_coding_graph.for10_body fuel (pairPV p) e = .ok (.norm e') ∧ CIn k (cstep k st p) e' := by
  obtain ⟨he, h3⟩ := h
  rw [he]
  have ha := h3.wf
  have hsz : st.1.size = 4 ^ k := h3.1
  have hv : p.1 < st.1.size := by rw [hsz]; exact hp
  have hj : p.2 % 4 < (st.1.getD p.1 #[]).size := by rw [(h3.2 p.1 hp).1]; exact Nat.mod_lt _ (by decide)
  have h3' : WFdB k (st.1.setEnt p.1 (p.2 % 4) (-1)) := wfdb_setEnt k _ _ _ _ h3 (Or.inl rfl)
  have ha' := h3'.wf
  have hv' : p.1 < (st.1.setEnt p.1 (p.2 % 4) (-1)).size := by rw [h3'.1]; exact hp
  have hprev := where_row_ge_zero ha (Int.natCast_nonneg p.1) (Int.ofNat_lt.mpr hv)
  have hcur := where_row_ge_zero ha' (Int.natCast_nonneg p.1) (Int.ofNat_lt.mpr hv')
  have hset := GzV.npSetItem2_accPV hv hj (-1)
  have hlen : ∀ b : Acc, ((List.map (fun (j : Nat) => PV.int (j : Int)) (b.live (p.1 : Int))).length : Int) =
      ((b.deg p.1 : Nat) : Int) := by
    intro b; rw [List.length_map]; rfl
  simp only [Gen.connect_coding_graph.for10_body, pairPV, pyUnpack_two_tup, bnd_ok, List.getD_cons_zero,
    List.getD_cons_succ, hprev, pyLen_arr, hlen, pyMod_nat_four, hset, hcur, pyGt_int, pyEq_def, eqb_int,
    GzV.ite_ok_and, lost_last_arc]
  unfold cstep
  simp only
  by_cases hcond : st.1.deg p.1 > (st.1.setEnt p.1 (p.2 % 4) (-1)).deg p.1 ∧
      (st.1.setEnt p.1 (p.2 % 4) (-1)).deg p.1 = 0
  · have hd := decide_eq_true hcond
    rw [if_pos hcond]
    simp only [hd, if_true, formers_pairs fuel hk, pairsPV, npAdd_list, bnd_ok, ← List.map_append]
    exact ⟨_, rfl, rfl, h3'⟩
  · have hd := decide_eq_false hcond
    rw [if_neg hcond]
    simp only [hd, Bool.false_eq_true, if_false]
    exact ⟨_, rfl, rfl, h3'⟩

/-- invariant of `while len(pairs) > 0:`: the accessor so far (still `WFdB`) and the arcs `pairs` left to delete. -/
def CSt (k : Nat) (pairs : List (Nat × Nat)) (a : Acc) (e : CEnv) : Prop :=
  e = { e with observed_length := .int (k : Int), accessor := accPV a, pairs := pairsPV pairs } ∧ WFdB k a

theorem while9_cond_spec (fuel k : Nat) (pairs : List (Nat × Nat)) (a : Acc) (e : CEnv) (h : CSt k pairs a e) :
    Gen.connect_coding_graph.while9_cond fuel e = .ok (!pairs.isEmpty) := by
  rw [h.1]
  simp only [Gen.connect_coding_graph.while9_cond, pairsPV, pyLen_list, bnd_ok, pyGt_int, List.length_map]
  cases pairs <;> simp

theorem while9_body_spec (k fuel : Nat) (hk : 1 ≤ k) (pairs : List (Nat × Nat)) (hp : PairsOK k pairs) (a : Acc)
    (e : CEnv) (h : CSt k pairs a e) :
    ∃ e', Gen.connect_coding_graph.while9_body fuel e = .ok (.norm e') ∧
      CSt k (pairs.foldl (cstep k) (a, [])).2 (pairs.foldl (cstep k) (a, [])).1 e' := by
  obtain ⟨he, h3⟩ := h
  rw [he]
  simp only [Gen.connect_coding_graph.while9_body, pairsPV, pyIter_list, bnd_ok]
  refine seq_norm_exists (Q := CIn k (pairs.foldl (cstep k) (a, []))) ?_ ?_
  · exact forLoop_rel_map (CIn k) (cstep k) pairPV (fun p hpm st e he => for10_spec k fuel hk p (hp p hpm) st e he)
      ⟨rfl, h3⟩
  · rintro e1 ⟨g, gw⟩
    rw [g]
    exact ⟨_, rfl, rfl, gw⟩

theorem while9_spec (k fuel : Nat) (hk : 1 ≤ k) :
    ∀ (f : Nat) (pairs : List (Nat × Nat)) (a : Acc) (W : Nat) (e : CEnv), PairsOK k pairs →
      (pairs ≠ [] → liveCount k a < f) → f + 1 ≤ W → CSt k pairs a e →
      ∃ e', whileLoop (Gen.connect_coding_graph.while9_cond fuel) (Gen.connect_coding_graph.while9_body fuel) W e =
          .ok (.norm e') ∧
        e' = { e' with observed_length := .int (k : Int), accessor := accPV (cascade k f pairs a) } := by
  intro f
  induction f with
  | zero =>
    intro pairs a W e _ hm hW hst
    obtain ⟨W', rfl⟩ : ∃ W', W = W' + 1 := ⟨W - 1, by omega⟩
    have : pairs = [] := by
      apply Classical.byContradiction
      intro hne; have := hm hne; omega
    subst this
    exact ⟨e, whileLoop_false (while9_cond_spec fuel k [] a e hst) W', by rw [hst.1]; rfl⟩
  | succ f ih =>
    intro pairs a W e hp hm hW hst
    obtain ⟨W', rfl⟩ : ∃ W', W = W' + 1 := ⟨W - 1, by omega⟩
    rw [cascade_succ]
    cases pairs with
    | nil => exact ⟨e, whileLoop_false (while9_cond_spec fuel k [] a e hst) W', by rw [hst.1]; rfl⟩
    | cons p ps =>
      simp only [List.isEmpty_cons, Bool.false_eq_true, if_false]
      obtain ⟨e1, hb, g⟩ := while9_body_spec k fuel hk (p :: ps) hp a e hst
      obtain ⟨c1, _, c3, c4⟩ := cfold_facts hk (p :: ps) (a, []) hst.2 hp (PairsOK_nil k)
      have hlt := hm (by simp)
      rw [whileLoop_true_norm (while9_cond_spec fuel k (p :: ps) a e hst) hb W']
      refine ih _ _ W' e1 c3 ?_ (by omega) g
      intro hne
      rcases c4 with c4 | c4
      · exact absurd c4 hne
      · exact Nat.lt_of_lt_of_le c4 (Nat.le_of_lt_succ hlt)

/-- invariant of the outer `while True:` and of `for useless_vertex in useless_vertices:`: the accessor is `a`, `WFdB`. -/
def RSt (k : Nat) (a : Acc) (e : CEnv) : Prop :=
  e = { e with observed_length := .int (k : Int), accessor := accPV a } ∧ WFdB k a

theorem for8_spec (k fuel : Nat) (hk : 1 ≤ k) (hf : 4 ^ k + 2 ≤ fuel) (u : Nat) (hu : u < 4 ^ k) (a : Acc) (e : CEnv)
    (h : RSt k a e) :
    ∃ e', Gen.connect_coding_graph.for8_body fuel (.int (u : Int)) e = .ok (.norm e') ∧
      RSt k (removeVertex k a u) e' := by
  obtain ⟨he, h3⟩ := h
  rw [he]
  have hus : u < a.size := by rw [h3.1]; exact hu
  obtain ⟨c1, _, _⟩ := clearRow_facts h3 hu
  simp only [Gen.connect_coding_graph.for8_body, pySetItem_accPV_row hus (h3.2 u hu).1, bnd_ok, formers_pairs fuel hk]
  have hlc := liveCount_le k (a.setIfInBounds u (Array.replicate 4 (-1)))
  refine post_mono _ _ ?_ (fun e1 g => ⟨g, wfdb_removeVertex k a u h3⟩)
  exact while9_spec k fuel hk (a.size + 1) _ _ fuel _ (PairsOK_formers hk hu)
    (fun _ => by rw [h3.1]; omega) (by rw [h3.1]; omega) ⟨rfl, c1⟩

def uselessOf (a : Acc) : List Nat := (obtainVertices a).filter fun v => !(usefulOf a).getD v false

-- `k10`: from `useless_vertices = [...]` to the end of the outer loop's body (`break` when there is none)
theorem k10_spec (k fuel : Nat) (hf : 4 ^ k + 2 ≤ fuel) (a : Acc) (hw : WFdB k a) (hk : 1 ≤ k ∨ uselessOf a = [])
    (e : CEnv) (h : USt k a (obtainVertices a) (usefulOf a) e) :
    if (uselessOf a).isEmpty then
      ∃ e', Gen.connect_coding_graph.k10 fuel e = .ok (.brk e') ∧ e'.vertices = idxArrPV (obtainVertices a) ∧
        e'.accessor = accPV a
    else ∃ e', Gen.connect_coding_graph.k10 fuel e = .ok (.norm e') ∧
      RSt k ((uselessOf a).foldl (removeVertex k) a) e' := by
  obtain ⟨he, h5⟩ := h
  rw [he]
  have hflt : pyFilter (fun it_vertex_index =>
        bnd (bnd (pyIndex (bmask false (usefulOf a).toList) it_vertex_index) fun tmp57 => .ok (PV.truthy tmp57))
          fun c => .ok (!c))
      (idxArrPV (obtainVertices a)) = .ok (.list ((uselessOf a).map fun (n : Nat) => PV.int (n : Int))) := by
    rw [idxArrPV, pyFilter_arr, filterM'_map (g := fun v => !(usefulOf a).getD v false)]
    · rfl
    · intro v hv
      have hvu : v < (usefulOf a).toList.length := by
        rw [Array.length_toList, h5]; exact GzV.mem_obtainVertices hv
      rw [pyIndex_bmask false hvu]
      simp only [bnd_ok, truthy_cellPV, getD_toList]
  simp only [Gen.connect_coding_graph.k10, hflt, bnd_ok,
    pyMap_list_map (f := fun it_vertex_index => .ok it_vertex_index) (emb := fun n : Nat => PV.int (n : Int))
      (g := fun n : Nat => PV.int (n : Int)) (fun _ _ => rfl), pyLen_list, List.length_map, pyGt_int, pyIter_list]
  by_cases hul : (uselessOf a).isEmpty = true
  · rw [if_pos hul]
    have hnil : uselessOf a = [] := List.isEmpty_iff.mp hul
    simp only [hnil, List.length_nil, Int.natCast_zero, Int.lt_irrefl, decide_false, Bool.false_eq_true, if_false]
    exact ⟨_, rfl, rfl, rfl⟩
  · rw [if_neg hul]
    have hne : uselessOf a ≠ [] := fun hh => hul (by rw [hh]; rfl)
    have hk' : 1 ≤ k := by
      rcases hk with hk | hk
      · exact hk
      · exact absurd hk hne
    have hpos : (0 : Int) < ((uselessOf a).length : Int) := by
      have := List.length_pos_iff.mpr hne
      omega
    simp only [hpos, decide_true, if_true]
    refine forLoop_rel_map (RSt k) (removeVertex k) (fun (n : Nat) => PV.int (n : Int))
      (fun u hu st e he => for8_spec k fuel hk' hf u ?_ st e he) ⟨rfl, hw⟩
    have := GzV.mem_obtainVertices (List.mem_filter.mp hu).1
    rwa [hw.1] at this

-- `while5_body`: one pass of `while True:` under `if threshold == 1:`, from `vertices = obtain_vertices(accessor)`
theorem iter_spec (k fuel : Nat) (hf : 4 ^ k + 2 ≤ fuel) (a : Acc) (hk : 1 ≤ k ∨ uselessOf a = []) (e : CEnv)
    (h : RSt k a e) :
    if (obtainVertices a).isEmpty then Gen.connect_coding_graph.while5_body fuel e = .error .valueError
    else if (uselessOf a).isEmpty then
      ∃ e', Gen.connect_coding_graph.while5_body fuel e = .ok (.brk e') ∧
        e'.vertices = idxArrPV (obtainVertices a) ∧ e'.accessor = accPV a
    else ∃ e', Gen.connect_coding_graph.while5_body fuel e = .ok (.norm e') ∧
      RSt k ((uselessOf a).foldl (removeVertex k) a) e' := by
  obtain ⟨he, h3⟩ := h
  rw [he]
  have ha := h3.wf
  simp only [Gen.connect_coding_graph.while5_body, GzV.obtain_vertices_tie, bnd_ok, idxArrPV, pyLen_arr,
    List.length_map, pyEq_def, eqb_int]
  by_cases hvs : (obtainVertices a).isEmpty = true
  · rw [if_pos hvs]
    have hnil : obtainVertices a = [] := List.isEmpty_iff.mp hvs
    simp [hnil]
  · rw [if_neg hvs]
    have hne : obtainVertices a ≠ [] := fun hh => hvs (by rw [hh]; rfl)
    have hlen : (((obtainVertices a).length : Int) == 0) = false := by
      have := List.length_pos_iff.mpr hne
      simp only [beq_eq_false_iff_ne, ne_eq]; omega
    simp only [hlen, Bool.false_eq_true, if_false, seq_norm, Gen.connect_coding_graph.k11, useful0_expr ha, bnd_ok]
    refine seq_pred (USt k a (obtainVertices a) (usefulOf a))
      (fun r => if (uselessOf a).isEmpty then
          ∃ e', r = .ok (.brk e') ∧ e'.vertices = idxArrPV (obtainVertices a) ∧ e'.accessor = accPV a
        else ∃ e', r = .ok (.norm e') ∧ RSt k ((uselessOf a).foldl (removeVertex k) a) e') ?_
      (fun e1 g => k10_spec k fuel hf a h3 hk e1 g)
    exact while6_spec k fuel ha (obtainVertices a) (fun v hv => GzV.mem_obtainVertices hv) (a.size + 1)
      (u0 a) fuel _ (by rw [u0_size]; omega) (by rw [h3.1]; omega)
      ⟨rfl, u0_size a⟩

theorem thresholdOneLoop_succ' (k f : Nat) (a : Acc) :
    thresholdOneLoop k (f + 1) a =
      if (obtainVertices a).isEmpty then .error .valueError else
      if (uselessOf a).isEmpty then .ok (obtainVertices a, a)
      else thresholdOneLoop k f ((uselessOf a).foldl (removeVertex k) a) := thresholdOneLoop_succ k f a

theorem while5_spec (k fuel : Nat) (hf : 4 ^ k + 2 ≤ fuel) :
    ∀ (f : Nat) (a : Acc) (W : Nat) (e : CEnv), (1 ≤ k ∨ uselessOf a = []) → liveCount k a < f → f ≤ W → RSt k a e →
      (∀ vs r, thresholdOneLoop k f a = .ok (vs, r) →
        ∃ e', whileLoop (Gen.connect_coding_graph.while5_cond fuel) (Gen.connect_coding_graph.while5_body fuel) W e =
          .ok (.norm e') ∧ e'.vertices = idxArrPV vs ∧ e'.accessor = accPV r) ∧
      (∀ err, thresholdOneLoop k f a = .error err →
        whileLoop (Gen.connect_coding_graph.while5_cond fuel) (Gen.connect_coding_graph.while5_body fuel) W e =
          .error err) := by
  intro f
  induction f with
  | zero => intro a W e _ h _ _; omega
  | succ f ih =>
    intro a W e hk hm hW hst
    obtain ⟨W', rfl⟩ : ∃ W', W = W' + 1 := ⟨W - 1, by omega⟩
    have hb := iter_spec k fuel hf a hk e hst
    rw [thresholdOneLoop_succ']
    by_cases hvs : (obtainVertices a).isEmpty = true
    · rw [if_pos hvs] at hb
      rw [if_pos hvs]
      refine ⟨fun vs r h => (by cases h), fun err h => ?_⟩
      cases h
      exact whileLoop_true_error (cond := Gen.connect_coding_graph.while5_cond fuel) (e := e) rfl hb W'
    · rw [if_neg hvs] at hb
      rw [if_neg hvs]
      by_cases hul : (uselessOf a).isEmpty = true
      · rw [if_pos hul] at hb
        rw [if_pos hul]
        obtain ⟨e1, hb1, g1, g2⟩ := hb
        refine ⟨fun vs r h => ?_, fun err h => (by cases h)⟩
        cases h
        exact ⟨e1, whileLoop_true_brk (cond := Gen.connect_coding_graph.while5_cond fuel) (e := e) rfl hb1 W', g1, g2⟩
      · rw [if_neg hul] at hb
        rw [if_neg hul]
        obtain ⟨e1, hb1, g⟩ := hb
        rw [whileLoop_true_norm (cond := Gen.connect_coding_graph.while5_cond fuel) (e := e) rfl hb1 W']
        have hw := hst.2
        -- a round that removes something happens only for `k ≥ 1`
        have hk : 1 ≤ k := hk.resolve_right fun h => hul (by rw [h]; rfl)
        have hlt : liveCount k ((uselessOf a).foldl (removeVertex k) a) < liveCount k a := by
          cases hus : uselessOf a with
          | nil => rw [hus] at hul; exact absurd rfl hul
          | cons u us =>
            have hall : ∀ x ∈ u :: us, x < 4 ^ k ∧ 0 < a.deg x := by
              intro x hx
              rw [← hus] at hx
              exact (mem_vs hw x).1 (List.mem_filter.mp hx).1
            exact removeAll_liveCount_lt hk u us a hw (fun x hx => (hall x hx).1) (hall u (by simp)).2
        exact ih _ W' e1 (Or.inl hk) (by omega) (by omega) g

end Dsw.Tie.Ccg
