import DswModel.Tie.OpAdd
import DswModel.Tie.OpSub
import DswModel.Tie.OpMul
import DswModel.Tie.OpDiv
import DswModel.Tie.OpBits
import DswModel.Tie.OpDna
import DswModel.Props.C15
import DswModel.Props.C16
/-!
# C15 and C16 stated about the generated definitions

`Props/C15.lean` and `Props/C16.lean` prove the two properties about the hand-written model, the `Tie/Op*.lean`
files that every definition generated from `dsw/operation.py` computes the model function on its contract.
Here the two are composed: every theorem speaks about `Gen.*` only, i.e. about what the Python source
computes as translated.

Conventions: `dstr s` is the Python `str` of the digit list `s`, `natsPV m` the Python list of
ints, `cstr d` the Python `str` of the characters `d`; `dstr (Dec.ofNat n)` is `str(n)`
(`pyStr_nat_eq_dstr_ofNat`).  Every generated function takes a `fuel : Nat` bounding its `while`
loops; each theorem gives an explicit bound that suffices.
-/
namespace Dsw.Tie
open Dsw Dsw.Py

theorem Digits_of_canonical {s : Dec} (hs : s.Canonical) : Digits s := hs.digits

theorem digitChar_eq_nat_digitChar {d : Nat} (h : d < 10) : digitChar d = Nat.digitChar d := by
  revert d; decide

/-- `dstr (Dec.ofNat n)` is the string `str(n)` of the Python embedding. -/
theorem dstr_ofNat (n : Nat) : dstr (Dec.ofNat n) = .str (natDigits n) := by
  induction n using Nat.strongRecOn with
  | _ n ih =>
    by_cases h : n < 10
    · rw [Dec.ofNat_lt n h, natDigits_digit h]; rfl
    · have h10 : 10 ≤ n := by omega
      have hi := ih (n / 10) (by omega)
      rw [dstr_def] at hi ⊢
      injection hi with hi
      rw [Dec.ofNat_ge n h10, List.map_append, hi]
      simp only [natDigits, List.map_cons, List.map_nil]
      rw [Nat.toDigits_of_base_le (by omega) h10,
        digitChar_eq_nat_digitChar (Nat.mod_lt n (by omega))]

theorem pyStr_nat_eq_dstr_ofNat (n : Nat) : pyStr (.int (n : Int)) = .ok (dstr (Dec.ofNat n)) := by
  rw [pyStr_nat, dstr_ofNat]

theorem pyInt_dstr_canonical {s : Dec} (hs : s.Canonical) : pyInt (dstr s) = .ok (.int (s.toNat : Int)) :=
  pyInt_dstr hs.digits hs.ne_nil

theorem eq_ofNat_of_canonical {t : Dec} {n : Nat} (ht : t.Canonical) (hv : t.toNat = n) :
    t = Dec.ofNat n := by
  obtain ⟨h1, h2⟩ := C15_ofNat n
  exact C15_canonical_unique t _ ht h1 (by rw [hv, h2])

theorem valB_succ_le (base : Nat) (m : List Nat) (hm : ∀ d ∈ m, d < base) (n0 : Nat) :
    valB base m n0 + 1 ≤ base ^ m.length * (n0 + 1) := by
  induction m generalizing n0 with
  | nil => simp [valB]
  | cons d m ih =>
    have hd := hm d (by simp)
    have h := ih (fun q hq => hm q (by simp [hq])) (n0 * base + d)
    simp only [valB, List.foldl_cons, List.length_cons] at h ⊢
    refine Nat.le_trans h ?_
    rw [Nat.pow_succ, Nat.mul_assoc]
    apply Nat.mul_le_mul_left
    rw [Nat.mul_add, Nat.mul_comm base n0]
    omega

theorem valB_lt (base : Nat) (m : List Nat) (hm : ∀ d ∈ m, d < base) :
    valB base m 0 < base ^ m.length := by
  have := valB_succ_le base m hm 0
  omega

theorem log2_le_of_lt {n k : Nat} (h : n < 2 ^ k) : Nat.log2 n ≤ k := by
  by_cases hn : n = 0
  · subst hn; exact Nat.zero_le _
  · exact Nat.le_of_lt ((Nat.log2_lt hn).mpr h)

/-! The theorems below give the fuel `4 * L + 6` for numbers below `B ^ L`, `B` being 2 or 4; these three
lemmas turn it into what the ties of the two `while` loops and of `calculus_addition` ask for. -/

theorem strFuel {s : Dec} (hs : s.Canonical) (B : Nat) {L fuel : Nat} (hB : B ≤ 10) (h : s.toNat < B ^ L)
    (hf : 4 * L + 6 ≤ fuel) : digitsFuel s + 1 ≤ fuel :=
  Nat.le_trans (digitsFuel_le hs (Nat.lt_of_lt_of_le h (Nat.pow_le_pow_left hB L))) hf

theorem intFuel {n : Nat} (B : Nat) {L fuel : Nat} (hB : B ≤ 4) (h : n < B ^ L) (hf : 4 * L + 6 ≤ fuel) :
    Nat.log2 n + 2 ≤ fuel := by
  have h4 : n < 2 ^ (2 * L) := by
    rw [Nat.pow_mul]; exact Nat.lt_of_lt_of_le h (Nat.pow_le_pow_left hB L)
  have h6 : 2 * L + 2 ≤ 4 * L + 6 := by omega
  exact Nat.le_trans (Nat.add_le_add_right (log2_le_of_lt h4) 2) (Nat.le_trans h6 hf)

theorem three_le_fuel {L fuel : Nat} (hf : 4 * L + 6 ≤ fuel) : 3 ≤ fuel :=
  Nat.le_trans (Nat.le_add_left 3 (4 * L + 3)) hf

theorem gen_dna_to_number_str {d : List Char} {s : Dec} {fuel : Nat} (h : dnaToNumberStr d = .ok s)
    (hf : 3 ≤ fuel) : Gen.dna_to_number fuel (cstr d) (.bool true) = .ok (dstr s) := by
  rw [tie_dna_to_number_str d fuel hf, h]; rfl

theorem gen_dna_to_number_int {d : List Char} {n : Nat} (fuel : Nat) (h : dnaToNumberInt d = .ok n) :
    Gen.dna_to_number fuel (cstr d) (.bool false) = .ok (.int (n : Int)) := by
  rw [tie_dna_to_number_int d fuel, h]; rfl

theorem isBits_le_one {m : List Nat} (hm : IsBits m) : ∀ x ∈ m, x ≤ 1 :=
  fun x hx => Nat.le_of_lt_succ (hm x hx)

/-- `calculus_addition(s, b)` returns `str(int(s) + b)`: the result is canonical and has the exact
value (the statement of `C15_add`, about the generated code). -/
theorem gen_C15_add (s : Dec) (b fuel : Nat) (hs : s.Canonical) (hb : b < 10) (hf : 3 ≤ fuel) :
    ∃ t : Dec, Gen.calculus_addition fuel (dstr s) (dstr [b]) = .ok (dstr t) ∧
      t.Canonical ∧ t.toNat = s.toNat + b := by
  obtain ⟨h1, h2⟩ := C15_add s b hs hb
  exact ⟨_, tie_calculus_addition s b fuel hs.digits hb hf, h1, h2⟩

/-- the same with the result named: the canonical rendering of the exact sum. -/
theorem gen_C15_add_ofNat (s : Dec) (b fuel : Nat) (hs : s.Canonical) (hb : b < 10) (hf : 3 ≤ fuel) :
    Gen.calculus_addition fuel (dstr s) (dstr [b]) = .ok (dstr (Dec.ofNat (s.toNat + b))) := by
  obtain ⟨t, h, hc, hv⟩ := gen_C15_add s b fuel hs hb hf
  rw [h, eq_ofNat_of_canonical hc hv]

/-- … and entirely inside the Python embedding: `calculus_addition(s, b) == str(int(s) + int(b))`. -/
theorem gen_C15_add_py (s : Dec) (b fuel : Nat) (hs : s.Canonical) (hb : b < 10) (hf : 3 ≤ fuel) :
    Gen.calculus_addition fuel (dstr s) (dstr [b]) =
      bnd (pyInt (dstr s)) fun x => bnd (pyInt (dstr [b])) fun y => bnd (pyAdd x y) pyStr := by
  have hc : ((s.toNat : Int) + (b : Int)) = ((s.toNat + b : Nat) : Int) := by push_cast; rfl
  rw [gen_C15_add_ofNat s b fuel hs hb hf, pyInt_dstr_canonical hs, dstr_singleton, pyInt_digit hb]
  simp only [bnd_ok, pyAdd_int, hc, pyStr_nat_eq_dstr_ofNat]

example : Gen.calculus_addition 3 (.str ['9', '9', '9']) (.str ['2']) = .ok (.str ['1', '0', '0', '1']) :=
  gen_C15_add_ofNat [9, 9, 9] 2 3 (by decide) (by decide) (by decide)
/-- a carry chain through fifty nines. -/
example : Gen.calculus_addition 3 (dstr (List.replicate 50 9)) (dstr [2]) =
    .ok (dstr (Dec.ofNat (Dec.toNat (List.replicate 50 9) + 2))) :=
  gen_C15_add_ofNat (List.replicate 50 9) 2 3 (by decide) (by decide) (by decide)
example : Gen.calculus_addition 3 (dstr [9, 9, 9]) (dstr [2]) =
    bnd (pyInt (dstr [9, 9, 9])) fun x => bnd (pyInt (dstr [2])) fun y => bnd (pyAdd x y) pyStr :=
  gen_C15_add_py [9, 9, 9] 2 3 (by decide) (by decide) (by decide)

theorem gen_C15_mul (s : Dec) (b fuel : Nat) (hs : s.Canonical) (hb : b < 10) (hf : 2 ≤ fuel) :
    ∃ t : Dec, Gen.calculus_multiplication fuel (dstr s) (dstr [b]) = .ok (dstr t) ∧
      t.Canonical ∧ t.toNat = s.toNat * b := by
  obtain ⟨h1, h2⟩ := C15_mul s b hs hb
  exact ⟨_, tie_calculus_multiplication s b fuel hs.digits hb hf, h1, h2⟩

theorem gen_C15_mul_ofNat (s : Dec) (b fuel : Nat) (hs : s.Canonical) (hb : b < 10) (hf : 2 ≤ fuel) :
    Gen.calculus_multiplication fuel (dstr s) (dstr [b]) = .ok (dstr (Dec.ofNat (s.toNat * b))) := by
  obtain ⟨t, h, hc, hv⟩ := gen_C15_mul s b fuel hs hb hf
  rw [h, eq_ofNat_of_canonical hc hv]

example : Gen.calculus_multiplication 2 (.str ['9', '9', '9']) (.str ['7']) = .ok (.str ['6', '9', '9', '3']) :=
  gen_C15_mul_ofNat [9, 9, 9] 7 2 (by decide) (by decide) (by decide)

/-- `calculus_division(s, b)` for `1 ≤ b ≤ 9` returns `(str(int(s) // b), str(int(s) % b))`; any
fuel will do (the function has no `while` loop). -/
theorem gen_C15_div (s : Dec) (b fuel : Nat) (hs : s.Canonical) (hb : b < 10) (hb1 : 1 ≤ b) :
    ∃ q r : Dec, Gen.calculus_division fuel (dstr s) (dstr [b]) = .ok (.tup [dstr q, dstr r]) ∧
      q.Canonical ∧ q.toNat = s.toNat / b ∧ r.Canonical ∧ r.toNat = s.toNat % b := by
  obtain ⟨h1, h2, h3, h4⟩ := C15_div s b hs hb hb1
  exact ⟨_, _, tie_calculus_division s b fuel hs.digits hb, h1, h2, h3, h4⟩

theorem gen_C15_div_ofNat (s : Dec) (b fuel : Nat) (hs : s.Canonical) (hb : b < 10) (hb1 : 1 ≤ b) :
    Gen.calculus_division fuel (dstr s) (dstr [b]) =
      .ok (.tup [dstr (Dec.ofNat (s.toNat / b)), dstr (Dec.ofNat (s.toNat % b))]) := by
  obtain ⟨q, r, h, hq, hqv, hr, hrv⟩ := gen_C15_div s b fuel hs hb hb1
  rw [h, eq_ofNat_of_canonical hq hqv, eq_ofNat_of_canonical hr hrv]

/-- the documented special case: division by `"0"` returns `("0", "0")` (no exception). -/
theorem gen_C15_div_zero (s : Dec) (fuel : Nat) (hs : Digits s) :
    Gen.calculus_division fuel (dstr s) (dstr [0]) = .ok (.tup [dstr [0], dstr [0]]) := by
  rw [tie_calculus_division s 0 fuel hs (by decide), (C15_special s).2.2.2]

example : Gen.calculus_division 0 (.str ['1', '0', '0', '0']) (.str ['7']) =
    .ok (.tup [.str ['1', '4', '2'], .str ['6']]) :=
  gen_C15_div_ofNat [1, 0, 0, 0] 7 0 (by decide) (by decide) (by decide)
example : Gen.calculus_division 0 (.str ['1', '0', '0', '0']) (.str ['0']) = .ok (.tup [.str ['0'], .str ['0']]) :=
  gen_C15_div_zero [1, 0, 0, 0] 0 (by decide)

/-- `calculus_subtraction(s, b)` returns `str(int(s) - b)` whenever the result is not negative. -/
theorem gen_C15_sub (s : Dec) (b fuel : Nat) (hs : s.Canonical) (hb : b < 10) (h : b ≤ s.toNat)
    (hf : s.length + 1 ≤ fuel) :
    ∃ t : Dec, Gen.calculus_subtraction fuel (dstr s) (dstr [b]) = .ok (dstr t) ∧
      t.Canonical ∧ t.toNat = s.toNat - b := by
  obtain ⟨h1, h2⟩ := C15_sub s b hs hb h
  exact ⟨_, tie_calculus_subtraction s b fuel hs.digits hb hs.ne_nil h hf, h1, h2⟩

theorem gen_C15_sub_ofNat (s : Dec) (b fuel : Nat) (hs : s.Canonical) (hb : b < 10) (h : b ≤ s.toNat)
    (hf : s.length + 1 ≤ fuel) :
    Gen.calculus_subtraction fuel (dstr s) (dstr [b]) = .ok (dstr (Dec.ofNat (s.toNat - b))) := by
  obtain ⟨t, h, hc, hv⟩ := gen_C15_sub s b fuel hs hb h hf
  rw [h, eq_ofNat_of_canonical hc hv]

example : Gen.calculus_subtraction 5 (.str ['1', '0', '0', '1']) (.str ['2']) = .ok (.str ['9', '9', '9']) :=
  gen_C15_sub_ofNat [1, 0, 0, 1] 2 5 (by decide) (by decide) (by decide) (by decide)

/-- the documented special cases (`C15_special`): division by one, multiplication by zero and by one
return the operand / `"0"` themselves, division by zero returns `("0", "0")`. -/
theorem gen_C15_special (s : Dec) (fuel : Nat) (hs : Digits s) (hf : 2 ≤ fuel) :
    Gen.calculus_division fuel (dstr s) (dstr [1]) = .ok (.tup [dstr s, dstr [0]]) ∧
    Gen.calculus_multiplication fuel (dstr s) (dstr [0]) = .ok (dstr [0]) ∧
    Gen.calculus_multiplication fuel (dstr s) (dstr [1]) = .ok (dstr s) ∧
    Gen.calculus_division fuel (dstr s) (dstr [0]) = .ok (.tup [dstr [0], dstr [0]]) := by
  obtain ⟨h1, h2, h3, h4⟩ := C15_special s
  refine ⟨?_, ?_, ?_, ?_⟩
  · rw [tie_calculus_division s 1 fuel hs (by decide), h1]
  · rw [tie_calculus_multiplication s 0 fuel hs (by decide) hf, h2]
  · rw [tie_calculus_multiplication s 1 fuel hs (by decide) hf, h3]
  · rw [tie_calculus_division s 0 fuel hs (by decide), h4]

example : Gen.calculus_multiplication 2 (.str ['0', '4', '2']) (.str ['1']) = .ok (.str ['0', '4', '2']) :=
  (gen_C15_special [0, 4, 2] 2 (by decide) (by decide)).2.2.1

/-- the full statement of C15 about the generated definitions. -/
def gen_C15_statement : Prop :=
  ∀ (s : Dec) (b fuel : Nat), s.Canonical → b < 10 → s.length + 2 ≤ fuel →
    Gen.calculus_addition fuel (dstr s) (dstr [b]) = .ok (dstr (Dec.ofNat (s.toNat + b))) ∧
    Gen.calculus_multiplication fuel (dstr s) (dstr [b]) = .ok (dstr (Dec.ofNat (s.toNat * b))) ∧
    (1 ≤ b → Gen.calculus_division fuel (dstr s) (dstr [b]) =
      .ok (.tup [dstr (Dec.ofNat (s.toNat / b)), dstr (Dec.ofNat (s.toNat % b))])) ∧
    (b ≤ s.toNat →
      Gen.calculus_subtraction fuel (dstr s) (dstr [b]) = .ok (dstr (Dec.ofNat (s.toNat - b))))

theorem gen_C15_holds : gen_C15_statement := by
  intro s b fuel hs hb hf
  exact ⟨gen_C15_add_ofNat s b fuel hs hb (Nat.le_trans (Nat.add_le_add_right hs.length_pos 2) hf),
    gen_C15_mul_ofNat s b fuel hs hb (Nat.le_trans (Nat.le_add_left 2 _) hf),
    fun h1 => gen_C15_div_ofNat s b fuel hs hb h1,
    fun h => gen_C15_sub_ofNat s b fuel hs hb h (Nat.le_of_succ_le hf)⟩

example : Gen.calculus_subtraction 6 (.str ['1', '0', '0', '0']) (.str ['1']) = .ok (.str ['9', '9', '9']) :=
  (gen_C15_holds [1, 0, 0, 0] 1 6 (by decide) (by decide) (by decide)).2.2.2 (by decide)

/-- `bit_to_number` then `number_to_bit` with the original length returns the bits, on the string
path and on the integer path; `verbose` has no influence. -/
theorem gen_C16_bits_roundtrip (m : List Nat) (hm : IsBits m) (v : Bool) (fuel : Nat)
    (hf : 4 * m.length + 6 ≤ fuel) :
    (∃ x, Gen.bit_to_number fuel (natsPV m) (.bool true) (.bool v) = .ok x ∧
      Gen.number_to_bit fuel x (.int (m.length : Int)) = .ok (natsPV m)) ∧
    (∃ x, Gen.bit_to_number fuel (natsPV m) (.bool false) (.bool v) = .ok x ∧
      Gen.number_to_bit fuel x (.int (m.length : Int)) = .ok (natsPV m)) := by
  obtain ⟨r1, r2⟩ := C16_bits_roundtrip m hm
  obtain ⟨hc, hv⟩ := C16_bits_paths_agree m hm
  have hlt : bitToNumberInt m < 2 ^ m.length := valB_lt 2 m hm
  exact ⟨⟨_, tie_bit_to_number_str m fuel v (isBits_le_one hm) (three_le_fuel hf),
      tie_number_to_bit_str _ m.length fuel m hc.digits r1 (strFuel hc 2 (by decide) (by rw [hv]; exact hlt) hf)⟩,
    ⟨_, tie_bit_to_number_int m fuel v, by
      rw [tie_number_to_bit_int _ m.length fuel (intFuel 2 (by decide) hlt hf), r2]⟩⟩

example : ∃ x, Gen.bit_to_number 26 (natsPV [0, 0, 1, 0, 1]) (.bool true) (.bool false) = .ok x ∧
    Gen.number_to_bit 26 x (.int 5) = .ok (natsPV [0, 0, 1, 0, 1]) :=
  (gen_C16_bits_roundtrip [0, 0, 1, 0, 1] (by unfold IsBits; decide) false 26 (by decide)).1

/-- the string-typed and the integer-typed path return the same number, the string one as its
canonical decimal string. -/
theorem gen_C16_bits_paths_agree (m : List Nat) (hm : IsBits m) (v : Bool) (fuel : Nat) (hf : 3 ≤ fuel) :
    ∃ (s : Dec) (n : Nat), Gen.bit_to_number fuel (natsPV m) (.bool true) (.bool v) = .ok (dstr s) ∧
      Gen.bit_to_number fuel (natsPV m) (.bool false) (.bool v) = .ok (.int (n : Int)) ∧
      s.Canonical ∧ s.toNat = n := by
  obtain ⟨hc, hv⟩ := C16_bits_paths_agree m hm
  exact ⟨_, _, tie_bit_to_number_str m fuel v (isBits_le_one hm) hf, tie_bit_to_number_int m fuel v, hc, hv⟩

/-- the same inside the Python embedding: the string path returns `str` of what the integer path
returns. -/
theorem gen_C16_bits_paths_agree_py (m : List Nat) (hm : IsBits m) (v : Bool) (fuel : Nat) (hf : 3 ≤ fuel) :
    Gen.bit_to_number fuel (natsPV m) (.bool true) (.bool v) =
      bnd (Gen.bit_to_number fuel (natsPV m) (.bool false) (.bool v)) pyStr := by
  obtain ⟨s, n, h1, h2, hc, hv⟩ := gen_C16_bits_paths_agree m hm v fuel hf
  rw [h1, h2, bnd_ok, pyStr_nat_eq_dstr_ofNat, eq_ofNat_of_canonical hc hv]

example : Gen.bit_to_number 3 (natsPV [1, 0, 1, 1, 0, 1]) (.bool true) (.bool true) =
    bnd (Gen.bit_to_number 3 (natsPV [1, 0, 1, 1, 0, 1]) (.bool false) (.bool true)) pyStr :=
  gen_C16_bits_paths_agree_py [1, 0, 1, 1, 0, 1] (by unfold IsBits; decide) true 3 (by decide)
example : ∃ (s : Dec) (n : Nat),
    Gen.bit_to_number 3 (natsPV [1, 0, 1, 1, 0, 1]) (.bool true) (.bool true) = .ok (dstr s) ∧
    Gen.bit_to_number 3 (natsPV [1, 0, 1, 1, 0, 1]) (.bool false) (.bool true) = .ok (.int (n : Int)) ∧
    s.Canonical ∧ s.toNat = n :=
  gen_C16_bits_paths_agree [1, 0, 1, 1, 0, 1] (by unfold IsBits; decide) true 3 (by decide)

/-- `dna_to_number` then `number_to_dna` with the original length returns the DNA string, on the
string path and on the integer path. -/
theorem gen_C16_dna_roundtrip (d : List Char) (hd : IsDna d) (fuel : Nat) (hf : 4 * d.length + 6 ≤ fuel) :
    (∃ x, Gen.dna_to_number fuel (cstr d) (.bool true) = .ok x ∧
      Gen.number_to_dna fuel x (.int (d.length : Int)) = .ok (cstr d)) ∧
    (∃ x, Gen.dna_to_number fuel (cstr d) (.bool false) = .ok x ∧
      Gen.number_to_dna fuel x (.int (d.length : Int)) = .ok (cstr d)) := by
  obtain ⟨⟨s, r1, r2⟩, ⟨n, r3, r4⟩⟩ := C16_dna_roundtrip d hd
  obtain ⟨s', n', p1, p2, hc, hv⟩ := C16_dna_paths_agree d hd
  obtain rfl : s' = s := Except.ok.inj (p1.symm.trans r1)
  obtain rfl : n' = n := Except.ok.inj (p2.symm.trans r3)
  have hlt : n' < 4 ^ d.length := by
    rw [← Except.ok.inj ((dnaToNumberInt_ok d hd).symm.trans r3), ← nucVals_length d]
    exact valB_lt 4 (nucVals d) (nucVals_lt d)
  exact ⟨⟨dstr s', gen_dna_to_number_str r1 (three_le_fuel hf),
      tie_number_to_dna_str s' d.length fuel d hc.digits r2 (strFuel hc 4 (by decide) (by rw [hv]; exact hlt) hf)⟩,
    ⟨.int (n' : Int), gen_dna_to_number_int fuel r3, by
      rw [tie_number_to_dna_int n' d.length fuel (intFuel 4 (by decide) hlt hf), r4]⟩⟩

example : ∃ x, Gen.dna_to_number 26 (cstr ['A', 'A', 'C', 'G', 'T']) (.bool true) = .ok x ∧
    Gen.number_to_dna 26 x (.int 5) = .ok (cstr ['A', 'A', 'C', 'G', 'T']) :=
  (gen_C16_dna_roundtrip ['A', 'A', 'C', 'G', 'T'] (by unfold IsDna; decide) 26 (by decide)).1

theorem gen_C16_dna_paths_agree (d : List Char) (hd : IsDna d) (fuel : Nat) (hf : 3 ≤ fuel) :
    ∃ (s : Dec) (n : Nat), Gen.dna_to_number fuel (cstr d) (.bool true) = .ok (dstr s) ∧
      Gen.dna_to_number fuel (cstr d) (.bool false) = .ok (.int (n : Int)) ∧
      s.Canonical ∧ s.toNat = n := by
  obtain ⟨s, n, p1, p2, hc, hv⟩ := C16_dna_paths_agree d hd
  exact ⟨s, n, gen_dna_to_number_str p1 hf, gen_dna_to_number_int fuel p2, hc, hv⟩

theorem gen_C16_dna_paths_agree_py (d : List Char) (hd : IsDna d) (fuel : Nat) (hf : 3 ≤ fuel) :
    Gen.dna_to_number fuel (cstr d) (.bool true) =
      bnd (Gen.dna_to_number fuel (cstr d) (.bool false)) pyStr := by
  obtain ⟨s, n, h1, h2, hc, hv⟩ := gen_C16_dna_paths_agree d hd fuel hf
  rw [h1, h2, bnd_ok, pyStr_nat_eq_dstr_ofNat, eq_ofNat_of_canonical hc hv]

example : Gen.dna_to_number 3 (cstr ['G', 'A', 'T', 'T', 'A', 'C', 'A']) (.bool true) =
    bnd (Gen.dna_to_number 3 (cstr ['G', 'A', 'T', 'T', 'A', 'C', 'A']) (.bool false)) pyStr :=
  gen_C16_dna_paths_agree_py ['G', 'A', 'T', 'T', 'A', 'C', 'A'] (by unfold IsDna; decide) 3 (by decide)
example : ∃ (s : Dec) (n : Nat),
    Gen.dna_to_number 3 (cstr ['G', 'A', 'T', 'T', 'A', 'C', 'A']) (.bool true) = .ok (dstr s) ∧
    Gen.dna_to_number 3 (cstr ['G', 'A', 'T', 'T', 'A', 'C', 'A']) (.bool false) = .ok (.int (n : Int)) ∧
    s.Canonical ∧ s.toNat = n :=
  gen_C16_dna_paths_agree ['G', 'A', 'T', 'T', 'A', 'C', 'A'] (by unfold IsDna; decide) 3 (by decide)

/-- a foreign character is a `ValueError` on both paths (for every fuel ≥ 3 on the string path and
every fuel on the integer path: the error is raised before any loop starts). -/
theorem gen_C16_dna_foreign (d : List Char) (hd : ¬ IsDna d) (fuel : Nat) (hf : 3 ≤ fuel) :
    Gen.dna_to_number fuel (cstr d) (.bool true) = .error .valueError ∧
    Gen.dna_to_number fuel (cstr d) (.bool false) = .error .valueError := by
  obtain ⟨h1, h2⟩ := C16_dna_foreign d hd
  constructor
  · rw [tie_dna_to_number_str d fuel hf, h1]; rfl
  · rw [tie_dna_to_number_int d fuel, h2]; rfl

example : Gen.dna_to_number 3 (cstr ['A', 'C', 'N', 'T']) (.bool true) = .error .valueError ∧
    Gen.dna_to_number 3 (cstr ['A', 'C', 'N', 'T']) (.bool false) = .error .valueError :=
  gen_C16_dna_foreign ['A', 'C', 'N', 'T'] (by unfold IsDna; decide) 3 (by decide)

/-- every number below `2 ^ L`: `number_to_bit(n, L)` has length `L`, consists of bits, converts back
to `n`, is the shortest rendering left-padded with `0`, and the string path agrees. -/
theorem gen_C16_number_bits (n L fuel : Nat) (h : n < 2 ^ L) (hf : 4 * L + 6 ≤ fuel) :
    ∃ r : List Nat, Gen.number_to_bit fuel (.int (n : Int)) (.int (L : Int)) = .ok (natsPV r) ∧
      r.length = L ∧ IsBits r ∧
      (∀ v : Bool, Gen.bit_to_number fuel (natsPV r) (.bool false) (.bool v) = .ok (.int (n : Int))) ∧
      (∃ z, r = List.replicate z 0 ++ digitsNat 2 n []) ∧
      (∀ s : Dec, s.Canonical → s.toNat = n →
        Gen.number_to_bit fuel (dstr s) (.int (L : Int)) = .ok (natsPV r)) := by
  obtain ⟨h1, h2, h3, h4, h5⟩ := C16_number_bits n L h
  refine ⟨_, tie_number_to_bit_int n L fuel (intFuel 2 (by decide) h hf), h1, h2, ?_, h4, ?_⟩
  · intro v; rw [tie_bit_to_number_int _ fuel v, h3]
  · intro s hs hv
    exact tie_number_to_bit_str s L fuel _ hs.digits (h5 s hs hv)
      (strFuel hs 2 (by decide) (by rw [hv]; exact h) hf)

example : ∃ r : List Nat, Gen.number_to_bit 38 (.int 200) (.int 8) = .ok (natsPV r) ∧ r.length = 8 :=
  let ⟨r, h1, h2, _⟩ := gen_C16_number_bits 200 8 38 (by decide) (by decide)
  ⟨r, h1, h2⟩

/-- every number below `4 ^ L`: `number_to_dna(n, L)` has length `L`, is a DNA string, converts back
to `n`, is the shortest rendering left-padded with `A`, and the string path agrees. -/
theorem gen_C16_number_dna (n L fuel : Nat) (h : n < 4 ^ L) (hf : 4 * L + 6 ≤ fuel) :
    ∃ r : List Char, Gen.number_to_dna fuel (.int (n : Int)) (.int (L : Int)) = .ok (cstr r) ∧
      r.length = L ∧ IsDna r ∧
      Gen.dna_to_number fuel (cstr r) (.bool false) = .ok (.int (n : Int)) ∧
      (∃ z, r = List.replicate z 'A' ++ (digitsNat 4 n []).map nucChar) ∧
      (∀ s : Dec, s.Canonical → s.toNat = n →
        Gen.number_to_dna fuel (dstr s) (.int (L : Int)) = .ok (cstr r)) := by
  obtain ⟨h1, h2, h3, h4, h5⟩ := C16_number_dna n L h
  refine ⟨_, tie_number_to_dna_int n L fuel (intFuel 4 (by decide) h hf), h1, h2,
    gen_dna_to_number_int fuel h3, h4, ?_⟩
  intro s hs hv
  exact tie_number_to_dna_str s L fuel _ hs.digits (h5 s hs hv)
    (strFuel hs 4 (by decide) (by rw [hv]; exact h) hf)

example : ∃ r : List Char, Gen.number_to_dna 30 (.int 200) (.int 6) = .ok (cstr r) ∧ r.length = 6 :=
  let ⟨r, h1, h2, _⟩ := gen_C16_number_dna 200 6 30 (by decide) (by decide)
  ⟨r, h1, h2⟩

/-- the `while` loops over decimal strings never run out of fuel (`C16_fuel`): for every canonical
decimal string and every fuel ≥ `digitsFuel s + 1 = 4 * len(s) + 2` both conversions return, and
return what the integer path computes for `int(s)`. -/
theorem gen_C16_fuel (s : Dec) (hs : s.Canonical) (L fuel : Nat) (hf : digitsFuel s + 1 ≤ fuel) :
    Gen.number_to_bit fuel (dstr s) (.int (L : Int)) = .ok (natsPV (numberToBitInt s.toNat L)) ∧
    Gen.number_to_dna fuel (dstr s) (.int (L : Int)) = .ok (cstr (numberToDnaInt s.toNat L)) :=
  ⟨tie_number_to_bit_str s L fuel _ hs.digits (numberToBitStr_eq s hs L) hf,
    tie_number_to_dna_str s L fuel _ hs.digits (numberToDnaStr_eq s hs L) hf⟩

example : Gen.number_to_bit 14 (.str ['2', '0', '0']) (.int 8) = .ok (natsPV (numberToBitInt 200 8)) :=
  (gen_C16_fuel [2, 0, 0] (by decide) 8 14 (by decide)).1

/-- the string path and the integer path of `number_to_bit` / `number_to_dna` agree on every canonical
decimal string. -/
theorem gen_C16_number_paths_agree (s : Dec) (hs : s.Canonical) (L fuel : Nat)
    (hf : digitsFuel s + 1 ≤ fuel) :
    Gen.number_to_bit fuel (dstr s) (.int (L : Int)) =
      Gen.number_to_bit fuel (.int (s.toNat : Int)) (.int (L : Int)) ∧
    Gen.number_to_dna fuel (dstr s) (.int (L : Int)) =
      Gen.number_to_dna fuel (.int (s.toNat : Int)) (.int (L : Int)) := by
  obtain ⟨h1, h2⟩ := gen_C16_fuel s hs L fuel hf
  have hl : Nat.log2 s.toNat + 2 ≤ fuel :=
    Nat.le_trans (Nat.add_le_add_right (log2_le_of_lt (toNat_lt_two_pow s hs.digits)) 2) hf
  rw [h1, h2, tie_number_to_bit_int _ L fuel hl, tie_number_to_dna_int _ L fuel hl]
  exact ⟨rfl, rfl⟩

example : Gen.number_to_bit 14 (.str ['2', '0', '0']) (.int 8) = Gen.number_to_bit 14 (.int 200) (.int 8) :=
  (gen_C16_number_paths_agree [2, 0, 0] (by decide) 8 14 (by decide)).1

end Dsw.Tie
