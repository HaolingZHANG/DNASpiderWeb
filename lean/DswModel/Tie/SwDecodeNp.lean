import DswModel.Tie.NpLemmas
/-!
# Translation tie — `decode` (dsw/spiderweb.py): the NumPy part

The idioms of `Tie/NpLemmas.lean` in the shape the generated `decode` and `encode` meet them: a vertex
that is a row index (`InR`), the index arrays `used_indices` / `argsort(..)` (`idxPV`) and the list of
live nucleotides (`nucsPV`).
-/
namespace Dsw.Tie.DecodeTie
open Dsw Dsw.Py Dsw.Tie

/-- an index array (`used_indices`, an `argsort`). -/
abbrev idxPV (l : List Nat) : PV := .arr (l.map fun (j : Nat) => .int (j : Int))

/-- `[nucleotides[i] for i in used_indices]`. -/
abbrev nucsPV (used : List Nat) : PV := .list (used.map fun j => PV.str [nucChar j])

def InR (a : Acc) (v : Int) : Prop := 0 ≤ v ∧ v < (a.size : Int)

theorem inR_natCast {a : Acc} {v : Nat} (h : v < a.size) : InR a (v : Int) :=
  ⟨Int.natCast_nonneg v, Int.ofNat_lt.mpr h⟩

@[simp] theorem pyLen_arr (l : List PV) : pyLen (.arr l) = .ok (.int l.length) := rfl
@[simp] theorem pyIter_arr (l : List PV) : pyIter (.arr l) = .ok l := rfl
@[simp] theorem pyMap_arr (f : PV → RV) (l : List PV) : pyMap f (.arr l) = (mapM' f l).map .list := rfl
@[simp] theorem pyIsNone_none : pyIsNone .none = true := rfl
@[simp] theorem pyIsNone_arr (l : List PV) : pyIsNone (.arr l) = false := rfl
@[simp] theorem pyIsNone_str (s : List Char) : pyIsNone (.str s) = false := rfl
@[simp] theorem npAdd_int (a b : Int) : npAdd (.int a) (.int b) = .ok (.int (a + b)) := rfl
@[simp] theorem pyIndexOf_str (x : PV) (cs : List Char) : pyIndexOf (.str cs) x = pyStrIndex (.str cs) x := rfl
@[simp] theorem pyIndexOf_list (l : List PV) (x : PV) :
    pyIndexOf (.list l) x = match findIdxEq x l 0 with
      | some i => .ok (.int i)
      | Option.none => .error .valueError := rfl
@[simp] theorem pyIn_list (x : PV) (l : List PV) : pyIn x (.list l) = .ok ((findIdxEq x l 0).isSome) := rfl
@[simp] theorem tblPV_none : tblPV Option.none = .none := rfl
@[simp] theorem tblPV_some (t : Tbl) : tblPV (some t) = accPV t := rfl
@[simp] theorem pyIsNone_accPV (a : Acc) : pyIsNone (accPV a) = false := rfl
@[simp] theorem pyLen_bitsPV (l : List Nat) : pyLen (bitsPV l) = .ok (.int (l.length : Int)) :=
  Dsw.Tie.pyLen_bitsPV l

@[simp] theorem pyLen_idxPV (l : List Nat) : pyLen (idxPV l) = .ok (.int (l.length : Int)) := by
  rw [pyLen_arr, List.length_map]
@[simp] theorem pyIndex_idxPV_cons_zero (x : Nat) (xs : List Nat) :
    pyIndex (idxPV (x :: xs)) (.int 0) = .ok (.int (x : Int)) :=
  pyIndex_arr_cons_zero _ _

/-- `used_indices = where(accessor[v] >= 0)[0]`, the way the generated code spells it. -/
theorem used_spec {a : Acc} (ha : a.WF) {v : Int} (h : InR a v) :
    (bnd (bnd (bnd (pyIndex (accPV a) (.int v)) fun t => npCmp pyGe t (.int 0)) fun t => npWhere t)
      fun t => pyIndex t (.int 0)) = .ok (idxPV (a.live v)) :=
  where_row_ge_zero ha h.1 h.2

theorem pyMap_nucs {used : List Nat} (hu : ∀ j ∈ used, j < 4) :
    pyMap (fun it => pyIndex (.str ['A', 'C', 'G', 'T']) it) (idxPV used) = .ok (nucsPV used) :=
  Dsw.Tie.pyMap_nucs hu

/-- `nucleotide in used_nucleotides`. -/
theorem pyIn_nucs (a : Acc) (v : Int) (c : Char) :
    pyIn (.str [c]) (nucsPV (a.live v)) = .ok (livePos a v c).isSome :=
  pyIn_live a v c

/-- `used_nucleotides.index(nucleotide)`. -/
theorem pyIndexOf_nucs {a : Acc} {v : Int} {c : Char} {p : Nat} (h : livePos a v c = some p) :
    pyIndexOf (nucsPV (a.live v)) (.str [c]) = .ok (.int (p : Int)) :=
  pyIndexOf_live_of_some h

end Dsw.Tie.DecodeTie
