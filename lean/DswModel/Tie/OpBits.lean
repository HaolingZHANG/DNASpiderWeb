import DswModel.Tie.OpLemmas
import DswModel.Tie.OpAdd
import DswModel.Tie.OpMul
import DswModel.Tie.OpDiv
/-!
# Translation tie — `bit_to_number`, `number_to_bit`

The generated definitions compute the model functions `bitToNumberStr`, `bitToNumberInt`,
`numberToBitStr`, `numberToBitInt`; the progress monitor (`verbose`) has no influence.

The two `for … in enumerate(bit_array)` loops are tied to the model `foldl`s with
`forLoop_rel_enum` (that the decimal-string arithmetic keeps `Digits` is in `OpLemmas`).  The
`while decimal_number != "0"` loop follows the model loop `digitsStrLoop`, the `while decimal_number > 0`
loop follows `digitsNat` (`whileLoop_digitsStr`, `whileLoop_digitsNat` of `OpLemmas`, shared with
`number_to_dna`).  The final `if/elif/else` is `fitBits`.
-/
namespace Dsw.Tie
open Dsw Dsw.Py

namespace BitsTie

/-- string path of `bit_to_number`: `decimal_number` is the decimal string `st`, a list of digits. -/
def StrRel (verbose : Bool) (st : Dec) (e : Gen.bit_to_number.Env) : Prop :=
  e.decimal_number = dstr st ∧ e.verbose = .bool verbose ∧ Digits st

theorem for1_body_spec (fuel : Nat) (hf : 3 ≤ fuel) (verbose : Bool) (i x : Nat) (hx : x ≤ 1) (st : Dec)
    (e : Gen.bit_to_number.Env) (hr : StrRel verbose st e) :
    ∃ e', Gen.bit_to_number.for1_body fuel (.tup [.int (i : Int), .int (x : Int)]) e = .ok (.norm e') ∧
      StrRel verbose (calculusAddition (calculusMultiplication st 2) x) e' := by
  obtain ⟨hdec, hverb, hdig⟩ := hr
  have hx10 : x < 10 := by omega
  have hm : Digits (calculusMultiplication st 2) := Digits_calculusMultiplication hdig (by decide)
  have hmul : Gen.calculus_multiplication fuel (dstr st) (.str ['2']) =
      .ok (dstr (calculusMultiplication st 2)) := by
    rw [str_lit_two]; exact tie_calculus_multiplication st 2 fuel hdig (by decide) (Nat.le_of_succ_le hf)
  have hadd : Gen.calculus_addition fuel (dstr (calculusMultiplication st 2)) (.str [digitChar x]) =
      .ok (dstr (calculusAddition (calculusMultiplication st 2) x)) :=
    tie_calculus_addition _ x fuel hm hx10 hf
  simp only [Gen.bit_to_number.for1_body, pyUnpack_two_tup, bnd_ok, getD_cons_zero', getD_cons_one', hdec,
    hverb, hmul, pyStr_digit hx10, hadd, truthy_bool, ite_self]
  exact ⟨_, rfl, rfl, rfl, Digits_calculusAddition hm hx10⟩

theorem for1_loop (fuel : Nat) (hf : 3 ≤ fuel) (verbose : Bool) (bits : List Nat) (hb : ∀ x ∈ bits, x ≤ 1)
    (st : Dec) (e : Gen.bit_to_number.Env) (h0 : StrRel verbose st e) :
    ∃ e', forLoop (Gen.bit_to_number.for1_body fuel)
        (enumFrom 0 (bits.map fun (n : Nat) => PV.int (n : Int))) e = .ok (.norm e') ∧
      StrRel verbose (bits.foldl (fun n b => calculusAddition (calculusMultiplication n 2) b) st) e' :=
  forLoop_rel_enum (StrRel verbose) (fun n b => calculusAddition (calculusMultiplication n 2) b)
    (fun (n : Nat) => PV.int (n : Int)) 0
    (fun i a ha st e hr => for1_body_spec fuel hf verbose i a (hb a ha) st e hr) h0

/-- integer path of `bit_to_number`: `decimal_number` is the number `st`. -/
def IntRel (verbose : Bool) (st : Nat) (e : Gen.bit_to_number.Env) : Prop :=
  e.decimal_number = .int (st : Int) ∧ e.verbose = .bool verbose

theorem for2_body_spec (fuel : Nat) (verbose : Bool) (i x : Nat) (st : Nat)
    (e : Gen.bit_to_number.Env) (hr : IntRel verbose st e) :
    ∃ e', Gen.bit_to_number.for2_body fuel (.tup [.int (i : Int), .int (x : Int)]) e = .ok (.norm e') ∧
      IntRel verbose (st * 2 + x) e' := by
  obtain ⟨hdec, hverb⟩ := hr
  have hc : ((st : Int) * 2 + (x : Int)) = ((st * 2 + x : Nat) : Int) := by push_cast; rfl
  simp only [Gen.bit_to_number.for2_body, pyUnpack_two_tup, bnd_ok, getD_cons_zero', getD_cons_one', hdec,
    hverb, pyMul_int, pyInt_int, pyAdd_int, truthy_bool, ite_self, hc]
  exact ⟨_, rfl, rfl, rfl⟩

/-- the environment of both loops: the number still to convert, the bits so far, the width; as one
equation, so that a proof starts with `rw [h]` and the relation of a written-out environment is `rfl`. -/
def LoopRel (L : Nat) (v : PV) (acc : List Nat) (e : Gen.number_to_bit.Env) : Prop :=
  e = { e with decimal_number := v, one_array := natsPV acc, bit_length := .int (L : Int) }

/-- `k1`: the fixed-width step. -/
theorem k1_spec (fuel : Nat) (e : Gen.number_to_bit.Env) (one : List Nat) (L : Nat) {v : PV}
    (h : LoopRel L v one e) :
    Gen.number_to_bit.k1 fuel e = .ok (.ret (natsPV (fitBits one L))) := by
  rw [h]
  simp only [Gen.number_to_bit.k1, pyLen_natsPV, bnd_ok, pyEq_def, eqb_int, natCast_beq_decide, pyLt_nat]
  unfold fitBits
  by_cases h1 : one.length = L
  · simp only [h1, decide_true, if_true]
  · simp only [h1, decide_false, Bool.false_eq_true, if_false]
    by_cases h2 : one.length < L
    · simp only [h2, decide_true, if_true, pySub_int, bnd_ok, pyMul_list_int, replicateList_singleton,
        toNat_sub_natCast, natsPV_def, pyAdd_list, List.map_append, List.map_replicate]
      rfl
    · simp only [h2, decide_false, Bool.false_eq_true, if_false, pySliceV_natsPV_to, bnd_ok]

theorem while1_cond_spec (fuel L : Nat) (n : Dec) (acc : List Nat) (e : Gen.number_to_bit.Env) (hn : Digits n)
    (h : LoopRel L (dstr n) acc e) :
    Gen.number_to_bit.while1_cond fuel e = .ok (!decide (n = [0])) := by
  have h0 : Digits [0] := Digits_singleton.mpr (by decide)
  rw [h]
  simp only [Gen.number_to_bit.while1_cond, pyNe_def, str_lit_zero, eqb_dstr hn h0]

theorem while1_body_spec (fuel L : Nat) (n : Dec) (acc : List Nat) (e : Gen.number_to_bit.Env) (hn : Digits n)
    (h : LoopRel L (dstr n) acc e) :
    ∃ e', Gen.number_to_bit.while1_body fuel e = .ok (.norm e') ∧
      LoopRel L (dstr (calculusDivision n 2).1) ((calculusDivision n 2).2.toNat :: acc) e' := by
  rw [h]
  obtain ⟨_, r, hr, hsnd⟩ := calculusDivision_digits hn (b := 2) (by decide) (by decide)
  have hr10 : r < 10 := Nat.lt_trans hr (by decide)
  have hdiv : Gen.calculus_division fuel (dstr n) (.str ['2']) =
      .ok (.tup [dstr (calculusDivision n 2).1, dstr (calculusDivision n 2).2]) := by
    rw [str_lit_two]; exact tie_calculus_division n 2 fuel hn (by decide)
  simp only [Gen.number_to_bit.while1_body, hdiv, hsnd, bnd_ok, pyUnpack_two_tup, getD_cons_zero',
    getD_cons_one', dstr_singleton, pyInt_digit hr10, pyInsert_natsPV_zero, Dec.toNat_single]
  exact ⟨_, rfl, rfl⟩

theorem while2_cond_spec (fuel L n : Nat) (acc : List Nat) (e : Gen.number_to_bit.Env)
    (h : LoopRel L (.int (n : Int)) acc e) :
    Gen.number_to_bit.while2_cond fuel e = .ok (decide (0 < n)) := by
  rw [h]
  simp only [Gen.number_to_bit.while2_cond, pyGt_nat_zero]

theorem while2_body_spec (fuel L n : Nat) (acc : List Nat) (e : Gen.number_to_bit.Env)
    (h : LoopRel L (.int (n : Int)) acc e) :
    ∃ e', Gen.number_to_bit.while2_body fuel e = .ok (.norm e') ∧
      LoopRel L (.int ((n / 2 : Nat) : Int)) (n % 2 :: acc) e' := by
  rw [h]
  simp only [Gen.number_to_bit.while2_body, pyDivmod_nat_two, bnd_ok, pyUnpack_two_tup,
    getD_cons_zero', getD_cons_one', pyInsert_natsPV_zero]
  exact ⟨_, rfl, rfl⟩

end BitsTie

open BitsTie

theorem tie_bit_to_number_str (bits : List Nat) (fuel : Nat) (verbose : Bool) (hb : ∀ x ∈ bits, x ≤ 1)
    (hf : 3 ≤ fuel) :
    Gen.bit_to_number fuel (natsPV bits) (.bool true) (.bool verbose) = .ok (dstr (bitToNumberStr bits)) := by
  simp only [Gen.bit_to_number, Gen.bit_to_number.body, truthy_bool, bnd_ok, if_true, pyEnumerate_natsPV,
    pyIter_list]
  apply callResult_seq_of_norm (StrRel verbose (bitToNumberStr bits))
  · exact for1_loop fuel hf verbose bits hb [0] _ ⟨str_lit_zero, rfl, Digits_singleton.mpr (by decide)⟩
  · intro e' h
    simp only [Gen.bit_to_number.k1, h.1, callResult_ret]

theorem tie_bit_to_number_int (bits : List Nat) (fuel : Nat) (verbose : Bool) :
    Gen.bit_to_number fuel (natsPV bits) (.bool false) (.bool verbose) = .ok (.int (bitToNumberInt bits)) := by
  simp only [Gen.bit_to_number, Gen.bit_to_number.body, truthy_bool, bnd_ok, Bool.false_eq_true, if_false,
    pyEnumerate_natsPV, pyIter_list]
  apply callResult_seq_of_norm (IntRel verbose (bitToNumberInt bits))
  · exact forLoop_rel_enum (IntRel verbose) _ (fun (n : Nat) => PV.int (n : Int)) 0
      (fun i a _ st e hr => for2_body_spec fuel verbose i a st e hr) ⟨rfl, rfl⟩
  · intro e' h
    simp only [Gen.bit_to_number.k1, h.1, callResult_ret]

theorem tie_number_to_bit_str (n : Dec) (L fuel : Nat) (r : List Nat) (hn : Digits n)
    (h : numberToBitStr n L = .ok r) (hf : digitsFuel n + 1 ≤ fuel) :
    Gen.number_to_bit fuel (dstr n) (.int L) = .ok (natsPV r) := by
  unfold numberToBitStr at h
  cases hloop : digitsStrLoop 2 (digitsFuel n) n [] with
  | error err => rw [hloop] at h; cases h
  | ok one =>
    rw [hloop] at h
    injection h with h
    have htype : pyTypeIs (dstr n) "str" = true := rfl
    simp only [Gen.number_to_bit, Gen.number_to_bit.body, htype, bnd_ok, if_true]
    apply callResult_seq_of_norm (LoopRel L (dstr [0]) one)
    · exact whileLoop_digitsStr (by decide) (by decide) (fun n => LoopRel L (dstr n)) (while1_cond_spec fuel L)
        (while1_body_spec fuel L) (digitsFuel n) n [] one fuel _ hn rfl hloop (by omega)
    · intro e' h'
      rw [k1_spec fuel e' one L h', callResult_ret, ← h]

theorem tie_number_to_bit_int (n L fuel : Nat) (hf : Nat.log2 n + 2 ≤ fuel) :
    Gen.number_to_bit fuel (.int n) (.int L) = .ok (natsPV (numberToBitInt n L)) := by
  simp only [Gen.number_to_bit, Gen.number_to_bit.body, pyTypeIs_int_str, pyTypeIs_int_int, bnd_ok,
    Bool.false_eq_true, if_false, if_true]
  apply callResult_seq_of_norm (LoopRel L (.int ((0 : Nat) : Int)) (digitsNat 2 n []))
  · exact whileLoop_digitsNat (by decide) (fun n => LoopRel L (.int (n : Int))) (while2_cond_spec fuel L)
      (while2_body_spec fuel L) (Nat.log2 n + 1) n [] fuel _ rfl Nat.lt_log2_self (by omega)
  · intro e' h'
    rw [k1_spec fuel e' _ L h', callResult_ret]; rfl

/-- any other argument type (including `bool`, which `type(x) == int` rejects) is `ValueError`. -/
theorem tie_number_to_bit_other (v L : PV) (fuel : Nat) (h1 : ∀ s, v ≠ .str s) (h2 : ∀ i, v ≠ .int i)
    (h3 : v ≠ .unbound) :
    Gen.number_to_bit fuel v L = .error .valueError := by
  cases v with
  | int i => exact absurd rfl (h2 i)
  | str s => exact absurd rfl (h1 s)
  | unbound => exact absurd rfl h3
  | list l => rfl
  | tup l => rfl
  | bool b => rfl
  | none => rfl
  | arr l => rfl
  | set l => rfl
  | dict ks vs => rfl
  | rat n d => rfl

end Dsw.Tie
