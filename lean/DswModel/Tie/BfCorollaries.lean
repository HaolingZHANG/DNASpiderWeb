import DswModel.Tie.BfValid
import DswModel.Props.C12
import DswModel.Props.C02
/-!
# DswModel.Tie.BfCorollaries — C12 (and the constructor clause of C02) restated on the generated code

The theorems below are the property theorems of `Props/C12.lean` / `Props/C02.lean` composed with the tie theorems of
`Tie/BfValid.lean`: they speak about `Gen.LocalBioFilter.__init__` / `Gen.LocalBioFilter.valid` directly, with the GC
thresholds DERIVED from the two double-precision bounds the caller passes (`floatGcRule`).
-/
namespace Dsw.Tie
open Dsw Dsw.Py Dsw.Gen

/-- the contract of `tie_LocalBioFilter_valid`. -/
structure BfOk (k : Nat) (run : Option Nat) (gc : Option (Dbl × Dbl)) (motifs : Option (List (List Char)))
    (c : FilterCfg) : Prop where
  cfg : bfCfg k run gc motifs = some c
  den : ∀ lo hi, gc = some (lo, hi) → 0 < lo.den ∧ 0 < hi.den
  chars : ∀ ms, motifs = some ms → ∀ m ∈ ms, ∀ ch ∈ m, MotifChar ch

theorem BfOk.k_eq {k run gc motifs c} (h : BfOk k run gc motifs c) : c.k = k ∧ c.run = run ∧ c.motifs = motifs :=
  let ⟨hk, hrun, hmot, _⟩ := gcTie_of_bfCfg h.cfg h.den
  ⟨hk, hrun, hmot⟩

theorem BfOk.valid_eq {k run gc motifs c} (h : BfOk k run gc motifs c) (fuel : Nat) (s : List Char) (ol : Bool) :
    LocalBioFilter.valid fuel (bfObj k run gc motifs) (.str s) (.bool ol) = .ok (.bool (c.valid s ol)) :=
  tie_LocalBioFilter_valid fuel k run gc motifs c s ol h.cfg h.den h.chars

/-- the verdict of the generated `valid` as a `Bool` (`false` also for an exception; `gen_C12_total`: there is none). -/
def genValid (fuel : Nat) (obj : PV) (s : List Char) (ol : Bool) : Bool :=
  match LocalBioFilter.valid fuel obj (.str s) (.bool ol) with
  | .ok (.bool true) => true
  | _ => false

theorem genValid_eq {k run gc motifs c} (h : BfOk k run gc motifs c) (fuel : Nat) (s : List Char) (ol : Bool) :
    genValid fuel (bfObj k run gc motifs) s ol = c.valid s ol := by
  rw [genValid, h.valid_eq]
  cases c.valid s ol <;> rfl

/-- the generated `valid` never raises and always returns a bool. -/
theorem gen_C12_total {k run gc motifs c} (h : BfOk k run gc motifs c) (fuel : Nat) (s : List Char) (ol : Bool) :
    ∃ b, LocalBioFilter.valid fuel (bfObj k run gc motifs) (.str s) (.bool ol) = .ok (.bool b) :=
  ⟨_, h.valid_eq fuel s ol⟩

/-- C12, main clause, on the code: the whole-sequence verdict is exactly the documented predicate. -/
theorem gen_C12_valid_all {k run gc motifs c} (h : BfOk k run gc motifs c) (fuel : Nat) (s : List Char) :
    LocalBioFilter.valid fuel (bfObj k run gc motifs) (.str s) (.bool false) = .ok (.bool true) ↔ DocumentedValid c s := by
  rw [h.valid_eq, ← C12_valid_all]
  constructor
  · intro e; injection e with e; injection e
  · intro e; rw [e]

/-- C12 on the code: the last-window verdict is the whole-sequence verdict of the final window. -/
theorem gen_C12_last {k run gc motifs c} (h : BfOk k run gc motifs c) (fuel : Nat) (s : List Char) (hk : 1 ≤ k) :
    LocalBioFilter.valid fuel (bfObj k run gc motifs) (.str s) (.bool true) =
      LocalBioFilter.valid fuel (bfObj k run gc motifs) (.str (s.drop (s.length - k))) (.bool false) := by
  rw [h.valid_eq, h.valid_eq, C12_last c s (by rw [h.k_eq.1]; exact hk), h.k_eq.1]

/-- C12 on the code: for window-decidable configurations and strings of at least one window, the whole-sequence
verdict is the conjunction of the verdicts of all windows. -/
theorem gen_C12_window_conj {k run gc motifs c} (h : BfOk k run gc motifs c) (fuel : Nat) (s : List Char)
    (hc : c.WindowDecidable) (hs : k ≤ s.length) :
    LocalBioFilter.valid fuel (bfObj k run gc motifs) (.str s) (.bool false) =
      .ok (.bool ((windows k s).all fun w => genValid fuel (bfObj k run gc motifs) w false)) := by
  rw [h.valid_eq, C12_window_conj c s hc (by rw [h.k_eq.1]; exact hs), h.k_eq.1]
  simp only [genValid_eq h]

/-- C12 on the code: any character outside ACGT makes the verdict false. -/
theorem gen_C12_foreign {k run gc motifs c} (h : BfOk k run gc motifs c) (fuel : Nat) (s : List Char) (ch : Char)
    (hin : ch ∈ s) (hf : nucIdx ch = none) :
    LocalBioFilter.valid fuel (bfObj k run gc motifs) (.str s) (.bool false) = .ok (.bool false) := by
  rw [h.valid_eq, C12_foreign c s ch hin hf]

/-- C12 on the code: a strand and its reverse complement get the same verdict (ACGT strands, ACGT motifs). -/
theorem gen_C12_revcomp {k run gc motifs c} (h : BfOk k run gc motifs c) (fuel : Nat) (s : List Char)
    (hs : ∀ ch ∈ s, (nucIdx ch).isSome = true)
    (hm : ∀ ms, c.motifs = some ms → ∀ m ∈ ms, ∀ ch ∈ m, (nucIdx ch).isSome = true) :
    LocalBioFilter.valid fuel (bfObj k run gc motifs) (.str (revComp s)) (.bool false) =
      LocalBioFilter.valid fuel (bfObj k run gc motifs) (.str s) (.bool false) := by
  rw [h.valid_eq, h.valid_eq, C12_revcomp c s hs hm]

/-- C12 on the code: the constructor accepts exactly run limit ≤ window and motifs no longer than the window
(`ValueError` otherwise) — for EVERY argument combination, no contract needed. -/
theorem gen_C12_accepted (fuel k : Nat) (run : Option Nat) (gc : Option (Dbl × Dbl)) (motifs : Option (List (List Char))) :
    (LocalBioFilter.__init__ fuel (.dict [] []) (.int k) (optNatPV run) (gcPV gc) (motifsPV motifs) = .ok (bfObj k run gc motifs)
      ↔ (∀ r, run = some r → r ≤ k) ∧ (∀ ms, motifs = some ms → ∀ m ∈ ms, m.length ≤ k)) ∧
    (LocalBioFilter.__init__ fuel (.dict [] []) (.int k) (optNatPV run) (gcPV gc) (motifsPV motifs) = .error .valueError
      ↔ ¬ ((∀ r, run = some r → r ≤ k) ∧ (∀ ms, motifs = some ms → ∀ m ∈ ms, m.length ≤ k))) := by
  have hacc := C12_accepted ({ k := k, run := run, motifs := motifs, gc := none } : FilterCfg)
  rw [tie_LocalBioFilter_init]
  change (bfAccepted k run motifs = true ↔ _) at hacc
  by_cases hb : bfAccepted k run motifs = true
  · rw [if_pos hb]
    exact ⟨⟨fun _ => hacc.1 hb, fun _ => rfl⟩, ⟨fun e => (by cases e), fun hn => absurd (hacc.1 hb) hn⟩⟩
  · rw [if_neg hb]
    exact ⟨⟨fun e => (by cases e), fun hp => absurd (hacc.2 hp) hb⟩, ⟨fun _ hp => hb (hacc.2 hp), fun _ => rfl⟩⟩

/-- C02, constructor clause, on the code: whatever the generated constructor accepts is window-decidable, except a run
limit equal to the window (known finding K1, `C02_ctor_counterexample`). -/
theorem gen_C02_ctor_partial {k run gc motifs c} (h : BfOk k run gc motifs c) (fuel : Nat) (hk : 1 ≤ k)
    (hok : LocalBioFilter.__init__ fuel (.dict [] []) (.int k) (optNatPV run) (gcPV gc) (motifsPV motifs)
      = .ok (bfObj k run gc motifs))
    (hr : run ≠ some k) : c.WindowDecidable := by
  obtain ⟨hk', hrun, hmot⟩ := h.k_eq
  have hacc := ((gen_C12_accepted fuel k run gc motifs).1.1 hok)
  apply C02_ctor_partial c (by rw [hk']; exact hk)
  · rw [C12_accepted, hk', hrun, hmot]; exact hacc
  · rw [hrun, hk']; exact hr

/-- non-vacuity: the documented example filter `LocalBioFilter(8, 2, [0.4, 0.6], ["GC"])` is inside the contract, its
derived thresholds are 4 / 4 / 4 (`0.4*8 = 3.2`, `0.6*8 = 4.8` in doubles), and the generated code gives the documented
verdicts. -/
example : BfOk 8 (some 2) (some (⟨3602879701896397, 9007199254740992⟩, ⟨5404319552844595, 9007199254740992⟩))
    (some ["GC".toList]) { k := 8, run := some 2, motifs := some ["GC".toList], gc := some ⟨4, 4, 4⟩ } := by
  refine ⟨by rfl, ?_, ?_⟩
  · intro lo hi e; cases e; exact ⟨by decide, by decide⟩
  · intro ms e m hm ch hch
    cases e
    cases List.mem_singleton.mp hm
    have : ch = 'G' ∨ ch = 'C' := by simpa using hch
    rcases this with rfl | rfl <;> exact ⟨by decide, by decide⟩

end Dsw.Tie
