import DswModel.Tie.SwRepairLib
/-!
# Translation tie — `repair_dna`: the scan loop `while location < len(dna_sequence)`

`Gen.repair_dna.while1_body` computes one `scanStep` of the model; the loop computes `scan`.
-/
namespace Dsw.Tie.Repair
open Dsw Dsw.Py Dsw.Tie

/-- invariant of the scan: the current vertex is a row index, there is one more split than detections, every
entry of the queue (hence of every look-back window) is `-1` or a row index; plus the counting, shape and
alphabet invariants of `Lemmas/Repair.lean`. -/
structure SInv (P : Params) (st : Scan) : Prop where
  v0 : 0 ≤ st.v
  v1 : st.v < P.a.size
  splits_len : st.splits.length = st.detected + 1
  queue_ok : ∀ x ∈ st.queue, -1 ≤ x ∧ x < P.a.size
  markers_ok : ∀ m ∈ st.markers, ∀ x ∈ m, -1 ≤ x ∧ x < P.a.size
  cnt : ScanCount P.k P.dna st
  det : ScanDet P.k P.dna st
  acgt : ScanAcgt st

theorem SInv.init (P : Params) (start : Nat) (hs : start < P.a.size) :
    SInv P (Scan.init P.dna (start : Int)) := by
  refine ⟨by simp [Scan.init], by simp [Scan.init]; omega, by simp [Scan.init], ?_, by simp [Scan.init],
    ScanCount.init _ _ _, ScanDet.init _ _ _, ScanAcgt.init _ _⟩
  intro x hx
  simp only [Scan.init, List.mem_replicate] at hx
  omega

theorem SInv.splits_cons {P : Params} {st : Scan} (h : SInv P st) : ∃ x xs, st.splits = x :: xs :=
  List.exists_cons_of_ne_nil h.det.splits_ne

theorem SInv.step {P : Params} (ha : P.a.WF) (hsz : P.a.size = 4 ^ P.k) (hk : 1 ≤ P.k) (hd : IsAcgt P.dna)
    {st : Scan} (h : SInv P st) (hlt : st.loc < P.dna.length) : SInv P (scanStep P.a P.k P.dna st) := by
  have hcnt := ScanCount.step P.a P.k P.dna st h.cnt hlt
  have hdet := ScanDet.step P.a P.k P.dna hk st h.det hlt
  have hacgt := ScanAcgt.step P.a P.k P.dna hd st h.acgt hlt
  obtain ⟨x, xs, hsp⟩ := h.splits_cons
  have hlen := h.splits_len
  rw [hsp] at hlen
  rcases scanStep_cases P.a P.k P.dna st with ⟨t, ht, e⟩ | ⟨-, e⟩
  · rw [e] at hcnt hdet hacgt ⊢
    obtain ⟨hc, ht2, ht0⟩ := Acc.next_eq_some ht
    obtain ⟨j, hj⟩ := Option.isSome_iff_exists.mp hc
    have ht1 : t < P.a.size := by
      rw [ht2, hj]
      exact ha.ent_lt h.v0 h.v1 (Dsw.Tie.nucIdx_lt hj) (by rw [ht2, hj] at ht0; exact ht0)
    refine ⟨ht0, ht1, ?_, ?_, h.markers_ok, hcnt, hdet, hacgt⟩
    · simp only [Scan.advance, hsp, List.tail_cons, List.length_cons] at hlen ⊢
      exact hlen
    · intro y hy
      simp only [Scan.advance] at hy
      rcases List.mem_or_eq_of_mem_set hy with hy | rfl
      · exact h.queue_ok y hy
      · omega
  · rw [e] at hcnt hdet hacgt ⊢
    have hw : (pySlice P.dna ((st.loc : Int) + 1) ((st.loc : Int) + P.k + 1)).length ≤ P.k := by
      have := length_pySlice_le P.dna (a := (st.loc : Int) + 1) (b := (st.loc : Int) + P.k + 1) (by omega)
      omega
    have hlt : kmerIdx (pySlice P.dna ((st.loc : Int) + 1) ((st.loc : Int) + P.k + 1)) < 4 ^ P.k :=
      Nat.lt_of_lt_of_le (kmerIdx_lt _) (Nat.pow_le_pow_right (by decide) hw)
    refine ⟨Int.natCast_nonneg _, ?_, ?_, h.queue_ok, ?_, hcnt, hdet, hacgt⟩
    · simp only [Scan.detect]
      rw [hsz]
      exact_mod_cast hlt
    · simp only [Scan.detect, hsp, List.tail_cons, List.length_cons] at hlen ⊢
      rw [hlen]
    · intro m hm y hy
      simp only [Scan.detect, List.mem_cons] at hm
      rcases hm with rfl | hm
      · exact h.queue_ok y (mem_of_mem_pySlice hy)
      · exact h.markers_ok m hm y hy

/-- the branch test of the scan: `nucleotide in [nucleotides[i] for i in used_indices]`. -/
theorem livePos_isSome_eq_next (a : Acc) (v : Int) (c : Char) :
    (livePos a v c).isSome = (a.next v c).isSome := by
  cases hn : a.next v c with
  | none => rw [livePos_of_next_none hn]; rfl
  | some t =>
    obtain ⟨j, hc, hj, -⟩ := next_some hn
    rw [← nucChar_nucIdx hc, livePos_of_live hj]; rfl

/-- the variables of the scan, as the environment holds them. -/
def ScanVars (st : Scan) (e : Env) : Prop :=
  e = { e with location := .int (st.loc : Int), vertex_index := .int st.v,
               index_queue := .arr (st.queue.map .int),
               split_sequences := .list (st.splits.reverse.map .str),
               chuck_sequences := .list (st.chunks.reverse.map .str),
               index_markers := .list (st.markers.reverse.map fun m => .arr (m.map .int)),
               detected_count := .int (st.detected : Int), chuck_flag := .bool false,
               visited_times := .int (st.visited : Int) }

theorem cond_spec (fuel : Nat) {P : Params} {st : Scan} {e : Env} (hc : Const P e) (hv : ScanVars st e) :
    Gen.repair_dna.while1_cond fuel e = .ok (decide (st.loc < P.dna.length)) := by
  rw [hc, hv]
  simp only [Gen.repair_dna.while1_cond, pyLen_str, bnd_ok, pyLt_nat]

theorem body_advance (fuel : Nat) {P : Params} (ha : P.a.WF) {st : Scan} {e : Env} (hc : Const P e)
    (hv : ScanVars st e) (hi : SInv P st) (hlt : st.loc < P.dna.length) {t : Int}
    (ht : P.a.next st.v (P.dna.getD st.loc 'A') = some t) :
    ∃ e', Gen.repair_dna.while1_body fuel e = .ok (.norm e') ∧ Const P e' ∧
      ScanVars (st.advance (P.dna.getD st.loc 'A') t) e' := by
  obtain ⟨x, xs, hsp⟩ := hi.splits_cons
  obtain ⟨hcs, ht2, ht0⟩ := Acc.next_eq_some ht
  subst ht2
  obtain ⟨j, hj⟩ := Option.isSome_iff_exists.mp hcs
  have hlp : (livePos P.a st.v (P.dna.getD st.loc 'A')).isSome = true := by
    rw [livePos_isSome_eq_next, ht]; rfl
  have hql : st.loc < (st.queue.map PV.int).length := by
    rw [List.length_map, hi.det.queue_len]; exact hlt
  rw [hc, hv]
  simp only [Gen.repair_dna.while1_body, ScanVars, Scan.advance, hsp, List.headD_cons, List.tail_cons,
    List.reverse_cons, List.map_append, List.map_cons, List.map_nil, List.map_set,
    where_row_ge_zero ha hi.v0 hi.v1, bnd_ok, pyIndex_str_getD hlt,
    pyMap_nucs (fun j hj => live_lt_four P.a st.v hj), pyIn_live, hlp, if_true,
    pyIndex_list_append_singleton_neg_one, npAdd_str, pySetItem_list_append_singleton_neg_one,
    acc_index_nuc ha hi.v0 hi.v1 hj, pySetItem_ints_nat hql, npAdd_nat_one]
  exact ⟨_, rfl, rfl, rfl⟩

theorem body_detect (fuel : Nat) {P : Params} (hd : IsAcgt P.dna) {st : Scan} {e : Env} (hc : Const P e)
    (hv : ScanVars st e) (hi : SInv P st) (hlt : st.loc < P.dna.length)
    (ht : P.a.next st.v (P.dna.getD st.loc 'A') = none) (ha : P.a.WF) :
    ∃ e', Gen.repair_dna.while1_body fuel e = .ok (.norm e') ∧ Const P e' ∧
      ScanVars (st.detect P.k P.dna) e' := by
  obtain ⟨x, xs, hsp⟩ := hi.splits_cons
  have hlp : (livePos P.a st.v (P.dna.getD st.loc 'A')).isSome = false := by
    rw [livePos_isSome_eq_next, ht]; rfl
  have hwin : IsAcgt (pySlice P.dna ((st.loc : Int) + 1) ((st.loc : Int) + P.k + 1)) := hd.pySlice _ _
  rw [hc, hv]
  simp only [Gen.repair_dna.while1_body, ScanVars, Scan.detect, hsp, List.headD_cons, List.tail_cons,
    List.reverse_cons, List.map_append, List.map_cons, List.map_nil, kmerIdx, List.append_assoc,
    where_row_ge_zero ha hi.v0 hi.v1, bnd_ok, pyIndex_str_getD hlt,
    pyMap_nucs (fun j hj => live_lt_four P.a st.v hj), pyIn_live, hlp, Bool.false_eq_true, if_false,
    pyIndex_list_append_singleton_neg_one, pySetItem_list_append_singleton_neg_one,
    npAdd_int, npSub_int, pyLen_str, pySliceV_str_none_int, pySliceV_str_int, pySliceV_arr_int,
    dna_to_number_acgt fuel hwin, pyMod_nat_four, pyIndex_ACGT (Nat.mod_lt _ (by omega : 0 < 4)),
    pyAppend_list, pySlice_map]
  exact ⟨_, rfl, rfl, rfl⟩

theorem body_spec (fuel : Nat) {P : Params} (ha : P.a.WF) (hd : IsAcgt P.dna) {st : Scan} {e : Env}
    (hc : Const P e) (hv : ScanVars st e) (hi : SInv P st) (hlt : st.loc < P.dna.length) :
    ∃ e', Gen.repair_dna.while1_body fuel e = .ok (.norm e') ∧ Const P e' ∧
      ScanVars (scanStep P.a P.k P.dna st) e' := by
  rcases scanStep_cases P.a P.k P.dna st with ⟨t, ht, hs⟩ | ⟨ht, hs⟩
  · rw [hs]; exact body_advance fuel ha hc hv hi hlt ht
  · rw [hs]; exact body_detect fuel hd hc hv hi hlt ht ha

/-- the loop computes `scan` (whose own fuel always suffices). -/
theorem scan_loop {P : Params} (ha : P.a.WF) (hsz : P.a.size = 4 ^ P.k) (hk : 1 ≤ P.k) (hd : IsAcgt P.dna)
    (gfuel : Nat) :
    ∀ (n : Nat) (st : Scan) (e : Env), Const P e → ScanVars st e → SInv P st →
      P.dna.length - st.loc ≤ n → ∀ fuel, n < fuel →
      ∃ st' e', scan P.a P.k P.dna n st = some st' ∧
        whileLoop (Gen.repair_dna.while1_cond gfuel) (Gen.repair_dna.while1_body gfuel) fuel e = .ok (.norm e') ∧
        Const P e' ∧ ScanVars st' e' ∧ SInv P st' := by
  intro n
  induction n with
  | zero =>
    intro st e hc hv hi hn fuel hf
    obtain ⟨f, rfl⟩ := Nat.exists_eq_add_one_of_ne_zero (Nat.ne_of_gt (Nat.zero_lt_of_lt hf))
    have hcond := cond_spec gfuel hc hv
    have hle : P.dna.length ≤ st.loc := Nat.le_of_sub_eq_zero (Nat.le_zero.mp hn)
    rw [decide_eq_false (Nat.not_lt.mpr hle)] at hcond
    exact ⟨st, e, scan_done _ _ _ _ _ hle, whileLoop_false hcond f, hc, hv, hi⟩
  | succ n ih =>
    intro st e hc hv hi hn fuel hf
    obtain ⟨f, rfl⟩ := Nat.exists_eq_add_one_of_ne_zero (Nat.ne_of_gt (Nat.zero_lt_of_lt hf))
    have hcond := cond_spec gfuel hc hv
    by_cases hlt : st.loc < P.dna.length
    · rw [decide_eq_true hlt] at hcond
      obtain ⟨e1, hb, hc1, hv1⟩ := body_spec gfuel ha hd hc hv hi hlt
      have hi1 := hi.step ha hsz hk hd hlt
      have hloc := scanStep_loc_lt P.a P.k P.dna st
      obtain ⟨st', e', h1, h2, h3⟩ := ih _ e1 hc1 hv1 hi1 (by omega) f (Nat.lt_of_succ_lt_succ hf)
      refine ⟨st', e', ?_, ?_, h3⟩
      · rw [scan_succ _ _ _ _ _ hlt]; exact h1
      · rw [whileLoop_true_norm hcond hb]; exact h2
    · rw [decide_eq_false hlt] at hcond
      exact ⟨st, e, scan_done _ _ _ _ _ (Nat.le_of_not_lt hlt), whileLoop_false hcond f, hc, hv, hi⟩

end Dsw.Tie.Repair
