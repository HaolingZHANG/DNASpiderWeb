import DswModel.Tie.OpLemmas
/-!
# Translation tie — `calculus_division`

The generated definition computes the model function `Dsw.calculusDivision` for every string of decimal digits
and every one-digit operand (including the documented special cases 0 and 1); it contains no `while` loop, so
any fuel will do.

The long-division loop (`for1`) is tied to `List.foldl (divStep b)` with `forLoop_rel_enum` (relation
`DivRel`), the zero-stripping search loop (`for2`) to `stripZeros` with `forLoop_stripZeros`.  The generated
code names the statements after every compound statement (`k1` … `k5`); there is one `k<N>_spec` per
continuation, proved last to first, each ending in the `_spec` of the next one.
-/
namespace Dsw.Tie
open Dsw Dsw.Py

namespace DivTie

/-- relation between the model state `(quotient digits reversed, remainder)` and the environment. -/
def DivRel (b : Nat) (st : List Nat × Nat) (e : Gen.calculus_division.Env) : Prop :=
  e.base = dstr [b] ∧ e.new_number = natsPV st.1.reverse ∧ e.remainder = .int (st.2 : Int) ∧
    st.2 < b ∧ Digits st.1

/-- `current - new_number[-1] * base` is the remainder. -/
theorem sub_div_mul (c b : Nat) : (c : Int) - ((c / b : Nat) : Int) * (b : Int) = ((c % b : Nat) : Int) := by
  rw [Int.natCast_emod, Int.emod_def, Int.natCast_ediv, Int.mul_comm]

theorem for1_body_spec (fuel b : Nat) (hb2 : 2 ≤ b) (hb : b < 10) (i x : Nat) (hx : x < 10)
    (st : List Nat × Nat) (e : Gen.calculus_division.Env) (hr : DivRel b st e) :
    ∃ e', Gen.calculus_division.for1_body fuel (.tup [.int (i : Int), .int (x : Int)]) e = .ok (.norm e') ∧
      DivRel b (divStep b st x) e' := by
  obtain ⟨hbase, hnn, hrem, hlt, hdig⟩ := hr
  have hb0 : b ≠ 0 := Nat.ne_of_gt (Nat.lt_of_lt_of_le (by decide) hb2)
  have hq : (x + st.2 * 10) / b < 10 := Nat.div_lt_of_lt_mul (by omega)
  have hm : (x + st.2 * 10) % b < b := Nat.mod_lt _ (Nat.pos_of_ne_zero hb0)
  have hcur : ((x : Int) + (st.2 : Int) * 10) = ((x + st.2 * 10 : Nat) : Int) := by
    rw [Int.natCast_add, Int.natCast_mul]; rfl
  simp only [Gen.calculus_division.for1_body, pyUnpack_two_tup, bnd_ok, getD_cons_zero', getD_cons_one',
    hbase, hnn, hrem, dstr_singleton, pyInt_digit hb, pyMul_int, pyAdd_int, pyGe_int, hcur, Int.ofNat_le]
  simp only [DivRel, divStep_eq, List.reverse_cons, Digits_cons]
  generalize x + st.2 * 10 = c at hq hm
  by_cases hge : b ≤ c
  · simp only [hge, decide_true, if_true, pyFloorDiv_nat hb0, pyAppend_natsPV, bnd_ok,
      pyIndex_natsPV_append_neg_one, pyMul_int, pySub_int, sub_div_mul]
    exact ⟨_, rfl, rfl, rfl, rfl, hm, hq, hdig⟩
  · have hcb : c < b := Nat.lt_of_not_le hge
    have h0 : (PV.int 0) = .int ((0 : Nat) : Int) := rfl
    simp only [hge, decide_false, if_false, Bool.false_eq_true, h0, pyAppend_natsPV, bnd_ok,
      Nat.div_eq_of_lt hcb, Nat.mod_eq_of_lt hcb]
    exact ⟨_, rfl, rfl, rfl, rfl, hcb, by decide, hdig⟩

theorem for2_body_spec (fuel : Nat) (q : Dec) (hq : Digits q) (r : Nat) (hr : r < 10) (i : Nat)
    (hi : i < q.length) (e : Gen.calculus_division.Env)
    (h : e.quotient = dstr q ∧ e.remainder = .int (r : Int)) :
    (q[i] = 0 → ∃ e', Gen.calculus_division.for2_body fuel (.int (i : Int)) e = .ok (.norm e') ∧
        (e'.quotient = dstr q ∧ e'.remainder = .int (r : Int))) ∧
      (q[i] ≠ 0 → Gen.calculus_division.for2_body fuel (.int (i : Int)) e =
        .ok (.ret (.tup [dstr (q.drop i), dstr [r]]))) := by
  obtain ⟨hquo, hrem⟩ := h
  simp only [Gen.calculus_division.for2_body, hquo, hrem, pyIndex_dstr hi, bnd_ok, pyNe_def,
    eqb_digit_lit_zero (hq.getElem i hi)]
  constructor
  · intro hd
    simp only [hd, decide_true, Bool.not_true, Bool.false_eq_true, if_false]
    exact ⟨_, rfl, rfl, rfl⟩
  · intro hd
    simp only [hd, decide_false, Bool.not_false, if_true, pySliceV_dstr_from, pyStr_digit hr, bnd_ok]
    rfl

def resPV (q r : Dec) : PV := .tup [dstr q, dstr r]

/-- `k1`: after the search loop fell through — `return "0", str(remainder)`. -/
theorem k1_spec (fuel : Nat) (e : Gen.calculus_division.Env) (r : Nat) (hr : r < 10)
    (hrem : e.remainder = .int (r : Int)) :
    Gen.calculus_division.k1 fuel e = .ok (.ret (resPV [0] [r])) := by
  simp only [Gen.calculus_division.k1, hrem, pyStr_digit hr, bnd_ok, str_lit_zero]; rfl

/-- `k2`: after the division loop — join the quotient digits, strip the zeros. -/
theorem k2_spec (fuel b : Nat) (hb : b < 10) (st : List Nat × Nat) (e : Gen.calculus_division.Env)
    (h : DivRel b st e) :
    Gen.calculus_division.k2 fuel e = .ok (.ret (resPV (stripZeros st.1.reverse) [st.2])) := by
  obtain ⟨_, hnn, hrem, hlt, hdig⟩ := h
  have hr : st.2 < 10 := by omega
  simp only [Gen.calculus_division.k2, hnn, join_map_str_natsPV hdig.reverse, bnd_ok, pyLen_dstr,
    pyRange1_nat, pyIter_list]
  apply seq_eq_of_norm_or_ret _ _ (forLoop_stripZeros _ (fun e => e.quotient = dstr st.1.reverse ∧
    e.remainder = .int (st.2 : Int)) (fun q => .tup [dstr q, dstr [st.2]])
    (fun i hi e he => for2_body_spec fuel _ hdig.reverse st.2 hr i hi e he) ⟨by rfl, by exact hrem⟩)
  · intro e2 ⟨⟨_, hrem2⟩, hz⟩
    rw [k1_spec fuel e2 st.2 hr hrem2, hz]
  · intro v hv
    rw [hv]; rfl

/-- `k3`: the general path — digits to ints, then the division loop. -/
theorem k3_spec (fuel b : Nat) (hb2 : 2 ≤ b) (hb : b < 10) (s : Dec) (hs : Digits s)
    (e : Gen.calculus_division.Env) (hnum : e.number = dstr s) (hbase : e.base = dstr [b]) :
    Gen.calculus_division.k3 fuel e =
      .ok (.ret (resPV (stripZeros (s.foldl (divStep b) ([], 0)).1.reverse) [(s.foldl (divStep b) ([], 0)).2])) := by
  simp only [Gen.calculus_division.k3, hnum, pyMap_pyInt_dstr hs, bnd_ok, pyEnumerate_natsPV, pyIter_list]
  apply seq_eq_of_norm (DivRel b (s.foldl (divStep b) ([], 0)))
  · exact forLoop_rel_enum (DivRel b) _ (fun (n : Nat) => PV.int (n : Int)) 0
      (fun i a ha st e hr => for1_body_spec fuel b hb2 hb i a (hs a ha) st e hr)
      ⟨hbase, rfl, rfl, Nat.lt_of_lt_of_le (by decide) hb2, Digits_nil⟩
  · intro e1 h1
    exact k2_spec fuel b hb _ e1 h1

/-- the guard `len(number) == 1 and number[0] < base`. -/
theorem guard_eq (s : Dec) (hs : Digits s) (b : Nat) (hb : b < 10) :
    (bnd (bnd (pyLen (dstr s)) fun t => pyEq t (.int 1)) fun c =>
        if c then (bnd (pyIndex (dstr s) (.int 0)) fun t => pyLt t (dstr [b])) else .ok false) =
      .ok (decide (s.length = 1 ∧ s.headD 0 < b)) := by
  match s, hs with
  | [], _ => rfl
  | [d], hs =>
    have hd : d < 10 := by simpa using hs
    simp [dstr_singleton, pyLt_digit hd hb]
  | d1 :: d2 :: r, _ =>
    simp only [pyLen_dstr, bnd_ok, pyEq_def, eqb_int, List.length_cons]
    have hne : r.length + 1 + 1 ≠ 1 := Nat.succ_ne_succ_iff.mpr (Nat.succ_ne_zero _)
    have h1 : ((((r.length + 1 + 1 : Nat) : Int)) == 1) = false :=
      (natCast_beq_decide _ 1).trans (decide_eq_false hne)
    have h2 : ¬ (r.length + 1 + 1 = 1 ∧ (List.headD (d1 :: d2 :: r) 0) < b) := fun h => hne h.1
    simp only [h1, Bool.false_eq_true, if_false, h2, decide_false]

/-- `k4`: the one-digit-below-the-base shortcut, then the general path (`base ≥ 2`). -/
theorem k4_spec (fuel b : Nat) (hb2 : 2 ≤ b) (hb : b < 10) (s : Dec) (hs : Digits s)
    (e : Gen.calculus_division.Env) (hnum : e.number = dstr s) (hbase : e.base = dstr [b]) :
    Gen.calculus_division.k4 fuel e = .ok (.ret (resPV (calculusDivision s b).1 (calculusDivision s b).2)) := by
  simp only [Gen.calculus_division.k4, hnum, hbase, guard_eq s hs b hb, bnd_ok, calculusDivision_of_two_le hb2]
  by_cases hg : s.length = 1 ∧ s.headD 0 < b
  · obtain ⟨d, rfl⟩ : ∃ d, s = [d] := by
      match s, hg.1 with
      | [d], _ => exact ⟨d, rfl⟩
    simp only [hg, and_self, decide_true, if_true, pyIndex_dstr_cons_zero, bnd_ok, seq_ret, str_lit_zero]
    rfl
  · simp only [hg, decide_false, Bool.false_eq_true, if_false, seq_norm]
    exact k3_spec fuel b hb2 hb s hs e hnum hbase

/-- `k5`: the `base == "1"` special case, then `k4`. -/
theorem k5_spec (fuel b : Nat) (hb0 : b ≠ 0) (hb : b < 10) (s : Dec) (hs : Digits s)
    (e : Gen.calculus_division.Env) (hnum : e.number = dstr s) (hbase : e.base = dstr [b]) :
    Gen.calculus_division.k5 fuel e = .ok (.ret (resPV (calculusDivision s b).1 (calculusDivision s b).2)) := by
  simp only [Gen.calculus_division.k5, hnum, hbase, dstr_singleton, pyEq_def, eqb_digit_lit_one hb, bnd_ok,
    seq_guard_ret]
  by_cases h1 : b = 1
  · subst h1
    simp only [decide_true, if_true, calculusDivision, str_lit_zero]
    rfl
  · simp only [h1, decide_false, Bool.false_eq_true, if_false]
    exact k4_spec fuel b (by omega) hb s hs e hnum (by rw [hbase])

/-- the function body: the `base == "0"` special case, then `k5`. -/
theorem body_spec (fuel b : Nat) (hb : b < 10) (s : Dec) (hs : Digits s)
    (e : Gen.calculus_division.Env) (hnum : e.number = dstr s) (hbase : e.base = dstr [b]) :
    Gen.calculus_division.body fuel e = .ok (.ret (resPV (calculusDivision s b).1 (calculusDivision s b).2)) := by
  simp only [Gen.calculus_division.body, hbase, dstr_singleton, pyEq_def, eqb_digit_lit_zero hb, bnd_ok,
    seq_guard_ret]
  by_cases h0 : b = 0
  · subst h0
    simp only [decide_true, if_true, calculusDivision, str_lit_zero]
    rfl
  · simp only [h0, decide_false, Bool.false_eq_true, if_false]
    exact k5_spec fuel b h0 hb s hs e hnum (by rw [hbase])

end DivTie

open DivTie in
theorem tie_calculus_division (s : Dec) (b fuel : Nat) (hs : Digits s) (hb : b < 10) :
    Gen.calculus_division fuel (dstr s) (dstr [b]) =
      .ok (.tup [dstr (calculusDivision s b).1, dstr (calculusDivision s b).2]) := by
  rw [Gen.calculus_division, body_spec fuel b hb s hs _ rfl rfl]; rfl

end Dsw.Tie
