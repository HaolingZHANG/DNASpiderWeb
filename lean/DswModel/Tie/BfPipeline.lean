import DswModel.Tie.BfCorollaries
import DswModel.Tie.GraphCorollaries
import DswModel.Props.C02b
/-!
# DswModel.Tie.BfPipeline — the whole write path on GENERATED code, the built-in filter included

`LocalBioFilter(k, run, [lo, hi], motifs)` → `find_vertices` → `connect_coding_graph` → `encode`, every step being the
`Gen` definition. `find_vertices` is handed the filter as the table of
the answers of the GENERATED `LocalBioFilter.valid` (`genTable`); the GC thresholds are the ones the code's
double-precision expressions produce (`floatGcRule`, `Model/Float.lean`).
-/
namespace Dsw.Tie
open Dsw Dsw.Py Dsw.Gen

/-- the built-in filter as `find_vertices` sees it: the answers of the generated `LocalBioFilter.valid(·, only_last=True)`
of the object `bfObj k run gc motifs` on the `4^k` k-mers. -/
def genTable (ffuel k : Nat) (run : Option Nat) (gc : Option (Dbl × Dbl)) (motifs : Option (List (List Char))) : PV :=
  tablePV k fun x => genValid ffuel (bfObj k run gc motifs) x true

theorem genTable_eq {k run gc motifs c} (h : BfOk k run gc motifs c) (ffuel : Nat) :
    genTable ffuel k run gc motifs = tablePV k fun x => c.valid x true := by
  simp only [genTable, genValid_eq h]

theorem BfOk.gcConsistent {k run gc motifs c} (h : BfOk k run gc motifs c) (hk : k ≤ 2 ^ 53)
    (hlo : ∀ lo hi, gc = some (lo, hi) → 0 ≤ lo.num ∧ lo.num ≤ lo.den) : c.GcConsistent := by
  intro g hg
  obtain ⟨hck, -, -, htie⟩ := gcTie_of_bfCfg h.cfg h.den
  match gc, htie, hlo with
  | none, htie, _ => rw [show c.gc = none from htie] at hg; cases hg
  | some (lo, hi), ⟨g', hg', hden, _, hf⟩, hlo =>
    cases hg'.symm.trans hg
    rw [hck]
    exact C02_float_consistent lo hi k g hden (hlo lo hi rfl).1 (hlo lo hi rfl).2 hk hf

/-- C02, sentence 1, on generated code with the built-in filter: every window of `start k-mer ++ strand` satisfies the
documented predicate of the configuration the constructor was given. -/
theorem gen_E2E_biofilter_windows {k run gc motifs c} (h : BfOk k run gc motifs c) (t : Nat) (m : Mask) (d : PV)
    (a : Acc) (v : Nat) (tbl : Option Tbl) (bits : List Nat) (fast : Bool) (n bfuel ffuel gfuel fuel : Nat)
    (fvb gvb vb : Bool) (r : PV)
    (hk : 1 ≤ k) (ht : 1 ≤ t) (hff : 2 * k + 2 ≤ ffuel) (hgf : 4 ^ k + 2 ≤ gfuel) (hf : 2 * n + 3 ≤ fuel)
    (hfind : Gen.find_vertices ffuel (.int (k : Int)) (genTable bfuel k run gc motifs) (.bool fvb) = .ok (maskPV false m))
    (hg : Gen.connect_coding_graph gfuel (.int (k : Int)) (maskPV false m) (.int (t : Int)) (.bool gvb) =
      .ok (.tup [d, accPV a]))
    (hv : Listed d t v) (htbl : TblOK tbl a) (hb : IsBits bits)
    (henc : Gen.encode fuel (bitsPV bits) (accPV a) (.int (v : Int)) (.bool fast) (.int (n : Int)) (tblPV tbl)
      (.bool false) (.bool vb) = .ok r) :
    ∃ (s : List Char) (ck : Option (List Char)), r = encResultPV (s, ck) ∧ isWalk a (v : Int) s = true ∧
      ∀ i, i + k ≤ (kmerOf k v ++ s).length → DocumentedValid c (((kmerOf k v ++ s).drop i).take k) := by
  rw [genTable_eq h] at hfind
  obtain ⟨s, ck, hr, hw, hwin⟩ := gen_C02_windows k t (fun x => c.valid x true) m d a v tbl bits fast n ffuel gfuel fuel
    fvb gvb vb r hk ht hff hgf hf hfind hg hv htbl hb henc
  refine ⟨s, ck, hr, hw, fun i hi => ?_⟩
  have hv := hwin i hi
  have hlen : (((kmerOf k v ++ s).drop i).take k).length = k := by
    rw [List.length_take, List.length_drop, Nat.min_eq_left (Nat.le_sub_of_add_le' hi)]
  have hkk : c.k = k := h.k_eq.1
  rw [C12_last c _ (by rw [hkk]; exact hk), hkk, hlen, Nat.sub_self, List.drop_zero] at hv
  exact (C12_valid_all c _).1 hv

/-- C02, sentence 2, on generated code with the built-in filter and its FLOAT thresholds: for a window-decidable
configuration whose GC lower bound lies in `[0, 1]`, the whole strand — alone and prefixed with the start k-mer — passes
the whole-sequence check of the generated `valid`. -/
theorem gen_E2E_biofilter_whole {k run gc motifs c} (h : BfOk k run gc motifs c) (t : Nat) (m : Mask) (d : PV)
    (a : Acc) (v : Nat) (tbl : Option Tbl) (bits : List Nat) (fast : Bool) (n bfuel ffuel gfuel fuel vfuel : Nat)
    (fvb gvb vb : Bool) (r : PV)
    (hc : c.WindowDecidable) (hk53 : k ≤ 2 ^ 53)
    (hlo : ∀ lo hi, gc = some (lo, hi) → 0 ≤ lo.num ∧ lo.num ≤ lo.den)
    (ht : 1 ≤ t) (hff : 2 * k + 2 ≤ ffuel) (hgf : 4 ^ k + 2 ≤ gfuel) (hf : 2 * n + 3 ≤ fuel)
    (hfind : Gen.find_vertices ffuel (.int (k : Int)) (genTable bfuel k run gc motifs) (.bool fvb) = .ok (maskPV false m))
    (hg : Gen.connect_coding_graph gfuel (.int (k : Int)) (maskPV false m) (.int (t : Int)) (.bool gvb) =
      .ok (.tup [d, accPV a]))
    (hv : Listed d t v) (htbl : TblOK tbl a) (hb : IsBits bits)
    (henc : Gen.encode fuel (bitsPV bits) (accPV a) (.int (v : Int)) (.bool fast) (.int (n : Int)) (tblPV tbl)
      (.bool false) (.bool vb) = .ok r) :
    ∃ (s : List Char) (ck : Option (List Char)), r = encResultPV (s, ck) ∧
      LocalBioFilter.valid vfuel (bfObj k run gc motifs) (.str s) (.bool false) = .ok (.bool true) ∧
      LocalBioFilter.valid vfuel (bfObj k run gc motifs) (.str (kmerOf k v ++ s)) (.bool false) = .ok (.bool true) := by
  rw [genTable_eq h] at hfind
  have hkk : c.k = k := h.k_eq.1
  subst hkk
  obtain ⟨s, ck, hr, h1, h2⟩ := gen_C02_whole c t m d a v tbl bits fast n ffuel gfuel fuel fvb gvb vb r hc
    (h.gcConsistent hk53 hlo) ht hff hgf hf hfind hg hv htbl hb henc
  refine ⟨s, ck, hr, ?_, ?_⟩
  · rw [h.valid_eq, h1]
  · rw [h.valid_eq, h2]

/-- C11 on generated code with the built-in filter: the mask the generated `find_vertices` returns for the (generated)
`LocalBioFilter` object marks index `i` exactly when the documented predicate of the configuration — with the thresholds
the code's float expressions produce — holds for the last window of the `i`-th k-mer; the call raises `ValueError` (and
nothing else) exactly when no k-mer is accepted. -/
theorem gen_C11_biofilter_mask {k run gc motifs c} (h : BfOk k run gc motifs c) (bfuel ffuel : Nat) (vb : Bool)
    (hff : 2 * k + 2 ≤ ffuel) :
    (∀ r, Gen.find_vertices ffuel (.int (k : Int)) (genTable bfuel k run gc motifs) (.bool vb) = .ok r →
        ∃ m : Mask, r = maskPV false m ∧ m.size = 4 ^ k ∧
          ∀ i, i < 4 ^ k → m.getD i false = c.valid (kmerOf k i) true) ∧
    (∀ e, Gen.find_vertices ffuel (.int (k : Int)) (genTable bfuel k run gc motifs) (.bool vb) = .error e →
        e = .valueError ∧ ∀ i, i < 4 ^ k → c.valid (kmerOf k i) true = false) := by
  rw [genTable_eq h]
  obtain ⟨h1, h2⟩ := gen_C11_mask k (fun x => c.valid x true) ffuel vb hff
  refine ⟨fun r hr => ?_, h2⟩
  obtain ⟨m, hm, hs, hc, -, -⟩ := h1 r hr
  exact ⟨m, hm, hs, hc⟩

end Dsw.Tie
