import DswModel.Tie.SwRepair
import DswModel.Tie.GzPath
import DswModel.Tie.SwCorollaries
import DswModel.Props.C08
import DswModel.Props.C08b
import DswModel.Props.C09
import DswModel.Props.C10
import DswModel.Props.EndToEnd
/-!
# C08, C09 and C10 stated about the generated definitions of `repair_dna` / `path_matching`

`DswModel/Props/C08.lean`, `C08b.lean`, `C09.lean`, `C10.lean` and `EndToEnd.lean` prove the repair
properties about the hand-written model (`Dsw.repairDna`, `Dsw.pathMatching`); `Tie/SwRepair.lean`
(`tie_repair_dna`) and `Tie/GzPath.lean` (`tie_path_matching`) prove that the definitions generated from
the Python source (`Gen.repair_dna` of `dsw/spiderweb.py`, `Gen.path_matching` of `dsw/graphized.py`)
compute the model functions on the ties' contract.  Here the two are composed: every theorem below
speaks about `Gen.*`, i.e. about what the Python source computes as translated.

Conventions (`Tie/SpiderwebDefs.lean`, `Tie/RepairDefs.lean`): `cstr s` is the Python `str`, `accPV a`
the two-dimensional NumPy array of the accessor, `chkPV c` is `None` or the `str` of the check,
`repResultPV (cands, st)` is the value `repair_dna` returns — the tuple
`([str …], (detected, flag, count, visited))` — and `pmResultPV (recs, n)` the value `path_matching`
returns — `([((kind, location, nucleotide), fragment) …], visited)`.

The contract of `tie_repair_dna`, hence of every `repair_dna` theorem here: the accessor is well formed
(`Acc.WF`) and has `4^k` rows for the `k` passed as `observed_length`, `1 ≤ k`, the start vertex is a row
index (`v : Nat`, `v < a.size`), the strand is over `ACGT` and at least `k` long, a supplied check is
not the empty string, and the fuel (bounding the `while` loops of `repair_dna` and of the `set_vt` calls)
is at least `len(dna) + 2·len(vt_check) + 3`.  The model-level theorems quantify over arbitrary accessors,
`v : Int` and arbitrary strands; they are specialised to this contract.  For the C08 theorems the
accessor is `inducedAccessor k s` (what graph generation returns, C03), for which the contract's
conditions on the accessor and the start vertex follow from the hypotheses of the model theorems; so do
`IsAcgt`, the length bound and the non-empty check (`RepCor.*` below), and only the fuel bound is added.
The contract of `tie_path_matching`: a well-formed accessor and `-len(accessor) ≤ previous_index <
len(accessor)` (negative indices wrap, as in NumPy), `nucleotides=None`; any fuel.

Theorems that speak about "whatever the function returns" take the returned Python value `x` with
`Gen.repair_dna … = .ok x` and conclude `x = repResultPV (cands, st)` for a model value with the stated
property (`repResultPV` is injective: `RepCor.repResultPV_inj`).

Not transported:
* `C10_scan_terminates` — it is about the scan loop alone (`Dsw.scan`); in the generated code that loop is
  the internal `while` of `Gen.repair_dna`, not a function of its own.  What it says about the generated
  code — the loop ends within the fuel — is part of `gen_C10_total` (the result is `.ok`, in particular
  not `.error .outOfFuel`, for every fuel from `len(dna) + 2·len(vt_check) + 3` on).
* accessors that are not well formed or whose row number is not `4^observed_length`, start vertices that
  are negative or not row indices (`C09_clean`, `C09_sorted_nodup`, `C09_check`, `C10_total`,
  `C10_lookups` hold for those in the model), strands with foreign characters or shorter than `k`
  (`C09_sorted_nodup`, `C09_check`, `C10_lookups` hold for those in the model), `vt_check = ""`.
* `C08_multi` with no edit at all and `len(w) < k` (the tie needs `k ≤ len(dna)`); `gen_C08_multi` has the
  extra hypothesis `es = [] → k ≤ w.length`.
-/
namespace Dsw.Tie
open Dsw Dsw.Py

namespace RepCor
open SwCor

theorem induced_wf (k : Nat) (s : Mask) : (inducedAccessor k s).WF := (wfdb_induced k s).wf

theorem induced_size (k : Nat) (s : Mask) : (inducedAccessor k s).size = 4 ^ k :=
  inducedAccessor_size k s

theorem induced_lt {k : Nat} {s : Mask} {v : Nat} (hs : s.size = 4 ^ k) (hv : s.getD v false = true) :
    v < (inducedAccessor k s).size := by
  rw [induced_size, ← hs]
  exact Trim.Mask.lt_size_of_getD hv

theorem edit_acgt {e : Edit} {w w' : List Char} (hw : IsAcgt w) (hp : e.Proper w') : IsAcgt (e.apply w) := by
  cases e with
  | subst p x => exact IsAcgt.set hw p hp.1
  | ins p x => exact isAcgt_insert hw p hp
  | del p => exact isAcgt_eraseIdx hw p

theorem edit_length_near (e : Edit) (w : List Char) :
    w.length ≤ (e.apply w).length + 1 ∧ (e.apply w).length ≤ w.length + 1 := by
  cases e with
  | subst p x => rw [Edit.apply, List.length_set]; exact ⟨Nat.le_succ _, Nat.le_succ _⟩
  | ins p x =>
    have h := congrArg List.length (List.take_append_drop p w)
    rw [List.length_append] at h
    rw [Edit.apply, List.length_append, List.length_append, List.length_singleton]
    omega
  | del p => rw [Edit.apply, List.length_eraseIdx]; split <;> omega

theorem edit_length {e : Edit} {k : Nat} {w : List Char} (he : e.Interior k w.length) :
    k ≤ (e.apply w).length := by
  have h1 := (edit_length_near e w).1
  have h2 := he.2
  omega

theorem edit_length_le (e : Edit) (w : List Char) : (e.apply w).length ≤ w.length + 1 :=
  (edit_length_near e w).2

theorem applyEdits_acgt {w : List Char} (hw : IsAcgt w) :
    ∀ es : List Edit, (∀ e ∈ es, e.Proper w) → IsAcgt (applyEdits es w)
  | [], _ => hw
  | e :: es, h =>
    edit_acgt (applyEdits_acgt hw es fun e' he' => h e' (List.mem_cons_of_mem _ he')) (h e List.mem_cons_self)

/-- separated interior edits leave at least a window (the stretch before the first edit). -/
theorem applyEdits_length {k : Nat} {w : List Char} {es : List Edit} (hk : 1 ≤ k) (hw : IsAcgt w)
    (hsp : Spaced k es) (hes : ∀ e ∈ es, e.Interior k w.length ∧ e.Proper w) (hl : es = [] → k ≤ w.length) :
    k ≤ (applyEdits es w).length := by
  cases es with
  | nil => exact hl rfl
  | cons e es' =>
    obtain ⟨G0, bs, -, ec, -, -, -, hpos⟩ := applyEdits_blocks k hk (e :: es') w hw hsp hes
    rw [ec, List.length_append, hpos e es' rfl]
    have := (hes e List.mem_cons_self).1.1
    omega

theorem checkOf_nonempty {w : List Char} {chk : Option (List Char)} (hc : CheckOf w chk) :
    ∀ c, chk = some c → c ≠ [] := by
  intro c h
  rcases hc with h0 | ⟨m, c', hm, hset, h1⟩
  · rw [h0] at h; cases h
  · rw [h1] at h
    cases h
    exact List.ne_nil_of_length_pos (by rw [setVt_length hm hset]; exact hm)

theorem checkSome_nonempty {c : List Char} (hc : c ≠ []) : ∀ c', some c = some c' → c' ≠ [] :=
  fun _ h => Option.some.inj h ▸ hc

theorem repResultPV_inj {r r' : List (List Char) × RepairStats} (h : repResultPV r = repResultPV r') :
    r = r' := by
  obtain ⟨c, d, f, n, v⟩ := r
  obtain ⟨c', d', f', n', v'⟩ := r'
  simp only [repResultPV, PV.tup.injEq, List.cons.injEq, PV.list.injEq, PV.int.injEq, PV.bool.injEq,
    and_true, Int.natCast_inj] at h
  obtain ⟨hc, hd, hf, hn, hv⟩ := h
  have hc' : c = c' := (List.map_inj_right (fun _ _ h => PV.str.inj h)).1 hc
  subst hc' hd hf hn hv
  rfl

theorem repair_of_model {a : Acc} {s : List Char} {v k : Nat} {chk : Option (List Char)} {indel : Bool}
    {heap fuel : Nat} {r : List (List Char) × RepairStats}
    (ha : a.WF) (hsz : a.size = 4 ^ k) (hk : 1 ≤ k) (hv : v < a.size) (hs : IsAcgt s) (hlen : k ≤ s.length)
    (hc : ∀ c, chk = some c → c ≠ []) (hf : s.length + 2 * (chk.map List.length).getD 0 + 3 ≤ fuel)
    (h : repairDna a s (v : Int) k chk indel heap = .ok r) :
    Gen.repair_dna fuel (cstr s) (accPV a) (.int (v : Int)) (.int (k : Int)) (chkPV chk) (.bool indel)
      (.int (heap : Int)) = .ok (repResultPV r) := by
  rw [tie_repair_dna a s v k chk indel heap fuel ha hsz hk hv hs hlen hc hf, h]
  rfl

theorem model_of_repair {a : Acc} {s : List Char} {v k : Nat} {chk : Option (List Char)} {indel : Bool}
    {heap fuel : Nat} {x : PV}
    (ha : a.WF) (hsz : a.size = 4 ^ k) (hk : 1 ≤ k) (hv : v < a.size) (hs : IsAcgt s) (hlen : k ≤ s.length)
    (hc : ∀ c, chk = some c → c ≠ []) (hf : s.length + 2 * (chk.map List.length).getD 0 + 3 ≤ fuel)
    (h : Gen.repair_dna fuel (cstr s) (accPV a) (.int (v : Int)) (.int (k : Int)) (chkPV chk) (.bool indel)
      (.int (heap : Int)) = .ok x) :
    ∃ cands st, repairDna a s (v : Int) k chk indel heap = .ok (cands, st) ∧ x = repResultPV (cands, st) := by
  rw [tie_repair_dna a s v k chk indel heap fuel ha hsz hk hv hs hlen hc hf] at h
  obtain ⟨⟨cands, st⟩, h1, h2⟩ := map_ok_inv h
  exact ⟨cands, st, h1, h2⟩

theorem model_of_path {a : Acc} {chunk : List Char} {prev : Int} {occ : Nat} {indel : Bool} {fuel : Nat}
    {x : PV} (ha : a.WF) (hp : -(a.size : Int) ≤ prev ∧ prev < a.size)
    (h : Gen.path_matching fuel (cstr chunk) (accPV a) (.int prev) (.int (occ : Int)) (.bool indel) .none =
      .ok x) :
    ∃ recs n, pathMatching a chunk prev occ indel = .ok (recs, n) ∧ x = pmResultPV (recs, n) := by
  rw [tie_path_matching a chunk prev occ indel fuel ha hp] at h
  obtain ⟨⟨recs, n⟩, h1, h2⟩ := map_ok_inv h
  exact ⟨recs, n, h1, h2⟩

/-- the pair `encode` returns with `vt_length > 0`, read back. -/
theorem encResultPV_pair {r : List Char × Option (List Char)} {w c : List Char}
    (h : .tup [.str w, .str c] = encResultPV r) : r = (w, some c) := by
  obtain ⟨s, _ | c'⟩ := r
  · cases h
  · simp only [encResultPV, PV.tup.injEq, List.cons.injEq, PV.str.injEq, and_true] at h
    obtain ⟨rfl, rfl⟩ := h
    rfl

/-! ### the concrete input of the examples

The GC-balanced order-2 accessor of the docstrings (`gcBalanced2 = inducedAccessor 2 gcMask`), start
vertex 1 (`AC`), the walk `TCTCTCTCTCTC` and the doctest's substitution of `A` at position 5.  The
`example`s beside the theorems instantiate every hypothesis on it (so no theorem is vacuous); the
generated code itself is not evaluated by the kernel — where its value is given, it comes from the tie
plus kernel evaluation of the model. -/

def gcMask : Mask := #[false, true, true, false, true, false, false, true,
                       true, false, false, true, false, true, true, false]

theorem gc_eq : gcBalanced2 = inducedAccessor 2 gcMask := rfl
theorem gc_size : gcBalanced2.size = 4 ^ 2 := induced_size 2 gcMask
theorem gc_acgt : IsAcgt "TCTCTCTCTCTC".toList := by unfold IsAcgt; decide +kernel
theorem gc_acgt' : IsAcgt "TCTCTATCTCTC".toList := by unfold IsAcgt; decide +kernel
theorem gc_length' : "TCTCTATCTCTC".toList.length = 12 := by decide +kernel
theorem gc_window' : 2 ≤ "TCTCTATCTCTC".toList.length := by decide +kernel
theorem gc_fuel' :
    "TCTCTATCTCTC".toList.length + 2 * ((none : Option (List Char)).map List.length).getD 0 + 3 ≤ 15 := by
  decide +kernel
theorem gc_check_ne : ∀ c, some "AACGC".toList = some c → c ≠ [] := by decide +kernel
theorem gc_walk : isWalk gcBalanced2 ((1 : Nat) : Int) "TCTCTCTCTCTC".toList = true := by decide +kernel
theorem gc_bad : isWalk gcBalanced2 ((1 : Nat) : Int) "TCTCTATCTCTC".toList = false := by decide +kernel
theorem gc_edit : (Edit.subst 5 'A').apply "TCTCTCTCTCTC".toList = "TCTCTATCTCTC".toList := by decide +kernel
theorem gc_bad_edit :
    isWalk gcBalanced2 ((1 : Nat) : Int) ((Edit.subst 5 'A').apply "TCTCTCTCTCTC".toList) = false := by
  rw [gc_edit]; exact gc_bad
theorem gc_fuel_edit : ((Edit.subst 5 'A').apply "TCTCTCTCTCTC".toList).length +
    2 * ((none : Option (List Char)).map List.length).getD 0 + 3 ≤ 15 := by decide +kernel
theorem gc_interior : (Edit.subst 5 'A').Interior 2 "TCTCTCTCTCTC".toList.length := by
  unfold Edit.Interior; decide +kernel
theorem gc_proper : (Edit.subst 5 'A').Proper "TCTCTCTCTCTC".toList := by
  unfold Edit.Proper; decide +kernel
theorem gc_check : setVt "TCTCTCTCTCTC".toList 5 = .ok "AACGC".toList := by decide +kernel

/-- `repair_dna("TCTCTATCTCTC", accessor, 1, 2, has_indel=True, heap_size=1000)` of the generated code
returns `(["TCTCTCTCTCTC", "TCTCTGTCTCTC"], (1, False, 2, 14))`. -/
theorem gc_repair :
    Gen.repair_dna 15 (cstr "TCTCTATCTCTC".toList) (accPV gcBalanced2) (.int 1) (.int 2) PV.none (.bool true)
      (.int 1000) =
      .ok (.tup [.list [.str "TCTCTCTCTCTC".toList, .str "TCTCTGTCTCTC".toList],
                 .tup [.int 1, .bool false, .int 2, .int 14]]) :=
  repair_of_model (a := gcBalanced2) (v := 1) (k := 2) (chk := none) (heap := 1000) gc_wf gc_size (by decide)
    gc_lt gc_acgt' gc_window' nofun gc_fuel'
    (show repairDna gcBalanced2 "TCTCTATCTCTC".toList ((1 : Nat) : Int) 2 none true 1000 =
      .ok (["TCTCTCTCTCTC".toList, "TCTCTGTCTCTC".toList], ⟨1, false, 2, 14⟩) by decide +kernel)

end RepCor

open SwCor RepCor

/-- for every well-formed accessor of order `k`, start vertex, ACGT strand at least one window long and
every option, the generated `repair_dna` returns a (candidates, statistics) pair — it neither raises nor
runs out of the stated fuel (`C10_total` about the generated code). -/
theorem gen_C10_total (a : Acc) (s : List Char) (v k : Nat) (chk : Option (List Char)) (indel : Bool)
    (heap fuel : Nat) (ha : a.WF) (hsz : a.size = 4 ^ k) (hk : 1 ≤ k) (hv : v < a.size) (hs : IsAcgt s)
    (hlen : k ≤ s.length) (hc : ∀ c, chk = some c → c ≠ [])
    (hf : s.length + 2 * (chk.map List.length).getD 0 + 3 ≤ fuel) :
    ∃ cands st, Gen.repair_dna fuel (cstr s) (accPV a) (.int (v : Int)) (.int (k : Int)) (chkPV chk)
      (.bool indel) (.int (heap : Int)) = .ok (repResultPV (cands, st)) := by
  obtain ⟨cands, st, h⟩ := C10_total a s v k chk indel heap hs hk hlen
  exact ⟨cands, st, repair_of_model ha hsz hk hv hs hlen hc hf h⟩

/-- a first nucleotide that is not an arc of the start vertex, a check, no indel handling, heap 0. -/
example : ∃ cands st, Gen.repair_dna 22 (cstr "GTCTCTCTC".toList) (accPV gcBalanced2) (.int 1) (.int 2)
    (.str "AACGC".toList) (.bool false) (.int 0) = .ok (repResultPV (cands, st)) :=
  gen_C10_total gcBalanced2 _ 1 2 (some "AACGC".toList) false 0 22 gc_wf gc_size (by decide) gc_lt
    (by unfold IsAcgt; decide +kernel) (by decide +kernel) gc_check_ne (by decide +kernel)

/-- whatever the generated `repair_dna` returns, the number of successful graph look-ups it reports is
polynomial in the strand length (`C10_lookups` about the generated code). -/
theorem gen_C10_lookups (a : Acc) (s : List Char) (v k : Nat) (chk : Option (List Char)) (indel : Bool)
    (heap fuel : Nat) (x : PV) (ha : a.WF) (hsz : a.size = 4 ^ k) (hk : 1 ≤ k) (hv : v < a.size)
    (hs : IsAcgt s) (hlen : k ≤ s.length) (hc : ∀ c, chk = some c → c ≠ [])
    (hf : s.length + 2 * (chk.map List.length).getD 0 + 3 ≤ fuel)
    (h : Gen.repair_dna fuel (cstr s) (accPV a) (.int (v : Int)) (.int (k : Int)) (chkPV chk)
      (.bool indel) (.int (heap : Int)) = .ok x) :
    ∃ cands st, x = repResultPV (cands, st) ∧ st.visited ≤ s.length + 18 * k * (s.length + k) := by
  obtain ⟨cands, st, hm, hx⟩ := model_of_repair ha hsz hk hv hs hlen hc hf h
  exact ⟨cands, st, hx, C10_lookups a s v k chk indel heap cands st hk hm⟩

/-- the doctest call reports 14 look-ups; the bound is `12 + 18·2·14 = 516`. -/
example : ∃ cands st, PV.tup [.list [.str "TCTCTCTCTCTC".toList, .str "TCTCTGTCTCTC".toList],
      .tup [.int 1, .bool false, .int 2, .int 14]] = repResultPV (cands, st) ∧
    st.visited ≤ 12 + 18 * 2 * (12 + 2) := by
  have h := gen_C10_lookups gcBalanced2 "TCTCTATCTCTC".toList 1 2 none true 1000 15 _ gc_wf gc_size (by decide)
    gc_lt gc_acgt' gc_window' nofun gc_fuel' gc_repair
  rwa [gc_length'] at h

/-- a strand that is already a walk comes back alone (or nothing when the supplied check disagrees)
with zero detections — for every start vertex, check, indel setting and heap limit (`C09_clean` about
the generated code). -/
theorem gen_C09_clean (a : Acc) (s : List Char) (v k : Nat) (chk : Option (List Char)) (indel : Bool)
    (heap fuel : Nat) (ha : a.WF) (hsz : a.size = 4 ^ k) (hk : 1 ≤ k) (hv : v < a.size)
    (hlen : k ≤ s.length) (hc : ∀ c, chk = some c → c ≠ [])
    (hf : s.length + 2 * (chk.map List.length).getD 0 + 3 ≤ fuel)
    (hw : isWalk a (v : Int) s = true) :
    ∃ b st, vtMatches s chk = .ok b ∧
      Gen.repair_dna fuel (cstr s) (accPV a) (.int (v : Int)) (.int (k : Int)) (chkPV chk) (.bool indel)
        (.int (heap : Int)) = .ok (repResultPV (if b then [s] else [], st)) ∧ st.detected = 0 := by
  obtain ⟨b, st, hb, hr, hd⟩ := C09_clean a s v k chk indel heap hw
  exact ⟨b, st, hb, repair_of_model ha hsz hk hv (isAcgt_of_isWalk s v hw) hlen hc hf hr, hd⟩

example : ∃ b st, vtMatches "TCTCTCTCTCTC".toList (some "AACGC".toList) = .ok b ∧
    Gen.repair_dna 25 (cstr "TCTCTCTCTCTC".toList) (accPV gcBalanced2) (.int 1) (.int 2) (.str "AACGC".toList)
      (.bool true) (.int 1000) = .ok (repResultPV (if b then ["TCTCTCTCTCTC".toList] else [], st)) ∧
    st.detected = 0 :=
  gen_C09_clean gcBalanced2 _ 1 2 (some "AACGC".toList) true 1000 25 gc_wf gc_size (by decide) gc_lt (by decide +kernel)
    gc_check_ne (by decide +kernel) gc_walk

/-- without a check the walk itself is the only candidate: the returned value is
`([dna], (0, flag, count, visited))`. -/
theorem gen_C09_clean_nocheck (a : Acc) (s : List Char) (v k : Nat) (indel : Bool)
    (heap fuel : Nat) (ha : a.WF) (hsz : a.size = 4 ^ k) (hk : 1 ≤ k) (hv : v < a.size)
    (hlen : k ≤ s.length) (hf : s.length + 3 ≤ fuel) (hw : isWalk a (v : Int) s = true) :
    ∃ (flag : Bool) (count visited : Nat),
      Gen.repair_dna fuel (cstr s) (accPV a) (.int (v : Int)) (.int (k : Int)) PV.none (.bool indel)
        (.int (heap : Int)) =
        .ok (.tup [.list [.str s], .tup [.int 0, .bool flag, .int (count : Int), .int (visited : Int)]]) := by
  obtain ⟨b, st, hb, hr, hd⟩ := gen_C09_clean a s v k none indel heap fuel ha hsz hk hv hlen
    nofun hf hw
  have hbt : b = true := Compose.vtMatches_none_eq hb
  subst hbt
  refine ⟨st.flag, st.count, st.visited, ?_⟩
  rw [show chkPV none = PV.none from rfl] at hr
  rw [hr, repResultPV, hd]
  rfl

example : ∃ (flag : Bool) (count visited : Nat),
    Gen.repair_dna 15 (cstr "TCTCTCTCTCTC".toList) (accPV gcBalanced2) (.int 1) (.int 2) PV.none (.bool false)
      (.int 0) =
      .ok (.tup [.list [.str "TCTCTCTCTCTC".toList],
        .tup [.int 0, .bool flag, .int (count : Int), .int (visited : Int)]]) :=
  gen_C09_clean_nocheck gcBalanced2 _ 1 2 false 0 15 gc_wf gc_size (by decide) gc_lt (by decide +kernel) (by decide +kernel)
    gc_walk

/-- whatever the generated `repair_dna` returns, its candidate list is strictly increasing in Python
string order — sorted and duplicate-free (`C09_sorted_nodup` about the generated code). -/
theorem gen_C09_sorted_nodup (a : Acc) (s : List Char) (v k : Nat) (chk : Option (List Char))
    (indel : Bool) (heap fuel : Nat) (x : PV) (ha : a.WF) (hsz : a.size = 4 ^ k) (hk : 1 ≤ k)
    (hv : v < a.size) (hs : IsAcgt s) (hlen : k ≤ s.length) (hc : ∀ c, chk = some c → c ≠ [])
    (hf : s.length + 2 * (chk.map List.length).getD 0 + 3 ≤ fuel)
    (h : Gen.repair_dna fuel (cstr s) (accPV a) (.int (v : Int)) (.int (k : Int)) (chkPV chk)
      (.bool indel) (.int (heap : Int)) = .ok x) :
    ∃ cands st, x = repResultPV (cands, st) ∧ cands.Pairwise strLt := by
  obtain ⟨cands, st, hm, hx⟩ := model_of_repair ha hsz hk hv hs hlen hc hf h
  exact ⟨cands, st, hx, C09_sorted_nodup a s v k chk indel heap cands st hm⟩

/-- the two candidates of the doctest call are in increasing order. -/
example : ["TCTCTCTCTCTC".toList, "TCTCTGTCTCTC".toList].Pairwise strLt := by
  obtain ⟨cands, st, hx, hp⟩ := gen_C09_sorted_nodup gcBalanced2 "TCTCTATCTCTC".toList 1 2 none true 1000 15 _
    gc_wf gc_size (by decide) gc_lt gc_acgt' gc_window' nofun gc_fuel' gc_repair
  cases repResultPV_inj (r := (["TCTCTCTCTCTC".toList, "TCTCTGTCTCTC".toList], ⟨1, false, 2, 14⟩)) hx
  exact hp

/-- whatever the generated `repair_dna` returns when a check was supplied, every candidate reproduces
the check — in the model (`setVt`) and through the generated `set_vt` (`C09_check` about the generated
code). -/
theorem gen_C09_check (a : Acc) (s : List Char) (v k : Nat) (c : List Char) (indel : Bool)
    (heap fuel : Nat) (x : PV) (ha : a.WF) (hsz : a.size = 4 ^ k) (hk : 1 ≤ k) (hv : v < a.size)
    (hs : IsAcgt s) (hlen : k ≤ s.length) (hc : c ≠ []) (hf : s.length + 2 * c.length + 3 ≤ fuel)
    (h : Gen.repair_dna fuel (cstr s) (accPV a) (.int (v : Int)) (.int (k : Int)) (.str c)
      (.bool indel) (.int (heap : Int)) = .ok x) :
    ∃ cands st, x = repResultPV (cands, st) ∧ ∀ y ∈ cands, setVt y c.length = .ok c ∧
      ∀ fuel', 2 * c.length + 2 ≤ fuel' →
        Gen.set_vt fuel' (cstr y) (.int (c.length : Int)) = .ok (cstr c) := by
  obtain ⟨cands, st, hm, hx⟩ := model_of_repair (chk := some c) ha hsz hk hv hs hlen
    (checkSome_nonempty hc) hf h
  refine ⟨cands, st, hx, fun y hy => ?_⟩
  have hy' := C09_check a s v k c indel heap cands st hm y hy
  refine ⟨hy', fun fuel' hf' => ?_⟩
  rw [tie_set_vt y c.length fuel' (List.length_pos_iff.2 hc) hf', hy']
  rfl

example (x : PV) (h : Gen.repair_dna 25 (cstr "TCTCTATCTCTC".toList) (accPV gcBalanced2) (.int 1) (.int 2)
      (.str "AACGC".toList) (.bool true) (.int 1000) = .ok x) :
    ∃ cands st, x = repResultPV (cands, st) ∧ ∀ y ∈ cands, setVt y 5 = .ok "AACGC".toList ∧
      ∀ fuel', 12 ≤ fuel' → Gen.set_vt fuel' (cstr y) (.int 5) = .ok (cstr "AACGC".toList) :=
  gen_C09_check gcBalanced2 _ 1 2 "AACGC".toList true 1000 25 x gc_wf gc_size (by decide) gc_lt gc_acgt'
    gc_window' (by decide +kernel) (by decide +kernel) h

/-- the three "whatever it returns" facts together with totality: on the contract the generated
`repair_dna` returns a pair whose candidates are strictly increasing and reproduce a supplied check, and
whose look-up count is within the bound. -/
theorem gen_C09_C10_summary (a : Acc) (s : List Char) (v k : Nat) (chk : Option (List Char)) (indel : Bool)
    (heap fuel : Nat) (ha : a.WF) (hsz : a.size = 4 ^ k) (hk : 1 ≤ k) (hv : v < a.size) (hs : IsAcgt s)
    (hlen : k ≤ s.length) (hc : ∀ c, chk = some c → c ≠ [])
    (hf : s.length + 2 * (chk.map List.length).getD 0 + 3 ≤ fuel) :
    ∃ cands st, Gen.repair_dna fuel (cstr s) (accPV a) (.int (v : Int)) (.int (k : Int)) (chkPV chk)
        (.bool indel) (.int (heap : Int)) = .ok (repResultPV (cands, st)) ∧
      cands.Pairwise strLt ∧ (∀ c, chk = some c → ∀ y ∈ cands, setVt y c.length = .ok c) ∧
      st.visited ≤ s.length + 18 * k * (s.length + k) := by
  obtain ⟨cands, st, h⟩ := C10_total a s v k chk indel heap hs hk hlen
  refine ⟨cands, st, repair_of_model ha hsz hk hv hs hlen hc hf h,
    C09_sorted_nodup a s v k chk indel heap cands st h, ?_, C10_lookups a s v k chk indel heap cands st hk h⟩
  intro c hcc
  subst hcc
  exact C09_check a s v k c indel heap cands st h

example : ∃ cands st, Gen.repair_dna 25 (cstr "TCTCTATCTCTC".toList) (accPV gcBalanced2) (.int 1) (.int 2)
      (.str "AACGC".toList) (.bool true) (.int 1000) = .ok (repResultPV (cands, st)) ∧
    cands.Pairwise strLt ∧ (∀ c, some "AACGC".toList = some c → ∀ y ∈ cands, setVt y c.length = .ok c) ∧
    st.visited ≤ 12 + 18 * 2 * (12 + 2) := by
  have h := gen_C09_C10_summary gcBalanced2 "TCTCTATCTCTC".toList 1 2 (some "AACGC".toList) true 1000 25 gc_wf
    gc_size (by decide) gc_lt gc_acgt' gc_window' gc_check_ne (by decide +kernel)
  rwa [gc_length'] at h

/-! ## C08 — repair recovers the original strand for separated interior edits

Setting as in `Props/C08.lean`: the graph is vertex-induced on a vertex set `s` (`inducedAccessor k s`,
what graph generation returns — `gen_C08_single_generated` spells that out for `connectCodingGraph`),
`v` is a retained vertex, `w` a walk from `v`; the generated `repair_dna` is given the corrupted strand
`e.apply w`.  The contract of the tie follows from these hypotheses; only the fuel bound is new. -/

/-- the substitution case, with or without indel handling (`C08_single_subst_only` about the generated
code). -/
theorem gen_C08_single_subst_only (k : Nat) (s : Mask) (v : Nat) (w : List Char) (p : Nat) (x : Char)
    (chk : Option (List Char)) (heap : Nat) (indel : Bool) (fuel : Nat) (hk : 1 ≤ k) (hs : s.size = 4 ^ k)
    (hv : s.getD v false = true)
    (hw : isWalk (inducedAccessor k s) v w = true) (he : (Edit.subst p x).Interior k w.length)
    (hp : (Edit.subst p x).Proper w) (hc : CheckOf w chk) (hheap : 9 * k ≤ heap)
    (hbad : isWalk (inducedAccessor k s) v ((Edit.subst p x).apply w) = false)
    (hf : ((Edit.subst p x).apply w).length + 2 * (chk.map List.length).getD 0 + 3 ≤ fuel) :
    ∃ cands st, Gen.repair_dna fuel (cstr ((Edit.subst p x).apply w)) (accPV (inducedAccessor k s))
        (.int (v : Int)) (.int (k : Int)) (chkPV chk) (.bool indel) (.int (heap : Int)) =
        .ok (repResultPV (cands, st)) ∧
      st.detected = 1 ∧ w ∈ cands := by
  obtain ⟨cands, st, hr, hd, hm⟩ := C08_single_subst_only k s v w p x chk heap indel hk hs hv hw he hp hc hheap hbad
  exact ⟨cands, st, repair_of_model (induced_wf k s) (induced_size k s) hk (induced_lt hs hv)
    (edit_acgt (isAcgt_of_isWalk w _ hw) hp) (edit_length he) (checkOf_nonempty hc) hf hr, hd, hm⟩

/-- one interior edit of any kind, indel handling on, a heap limit of at least `9k`: if the corrupted
strand is no longer a walk, the generated `repair_dna` reports exactly one error and the original strand
is among the candidates, also when the check of the original is supplied (`C08_single` about the
generated code). -/
theorem gen_C08_single (k : Nat) (s : Mask) (v : Nat) (w : List Char) (e : Edit) (chk : Option (List Char))
    (heap fuel : Nat) (hk : 1 ≤ k) (hs : s.size = 4 ^ k) (hv : s.getD v false = true)
    (hw : isWalk (inducedAccessor k s) v w = true) (he : e.Interior k w.length) (hp : e.Proper w)
    (hc : CheckOf w chk) (hheap : 9 * k ≤ heap)
    (hbad : isWalk (inducedAccessor k s) v (e.apply w) = false)
    (hf : (e.apply w).length + 2 * (chk.map List.length).getD 0 + 3 ≤ fuel) :
    ∃ cands st, Gen.repair_dna fuel (cstr (e.apply w)) (accPV (inducedAccessor k s))
        (.int (v : Int)) (.int (k : Int)) (chkPV chk) (.bool true) (.int (heap : Int)) =
        .ok (repResultPV (cands, st)) ∧
      st.detected = 1 ∧ w ∈ cands := by
  obtain ⟨cands, st, hr, hd, hm⟩ := C08_single k s v w e chk heap hk hs hv hw he hp hc hheap hbad
  exact ⟨cands, st, repair_of_model (induced_wf k s) (induced_size k s) hk (induced_lt hs hv)
    (edit_acgt (isAcgt_of_isWalk w _ hw) hp) (edit_length he) (checkOf_nonempty hc) hf hr, hd, hm⟩

/-- the doctest's substitution, no check, heap limit `18 = 9k`. -/
example : ∃ cands st, Gen.repair_dna 15 (cstr ((Edit.subst 5 'A').apply "TCTCTCTCTCTC".toList))
      (accPV (inducedAccessor 2 gcMask)) (.int 1) (.int 2) PV.none (.bool true) (.int 18) =
      .ok (repResultPV (cands, st)) ∧
    st.detected = 1 ∧ "TCTCTCTCTCTC".toList ∈ cands :=
  gen_C08_single 2 gcMask 1 _ (.subst 5 'A') none 18 15 (by decide) (by decide) (by decide) gc_walk gc_interior
    gc_proper (Or.inl rfl) (by decide) gc_bad_edit gc_fuel_edit

/-- … and with the check of the original strand supplied. -/
example : ∃ cands st, Gen.repair_dna 25 (cstr ((Edit.subst 5 'A').apply "TCTCTCTCTCTC".toList))
      (accPV (inducedAccessor 2 gcMask)) (.int 1) (.int 2) (.str "AACGC".toList) (.bool true) (.int 18) =
      .ok (repResultPV (cands, st)) ∧
    st.detected = 1 ∧ "TCTCTCTCTCTC".toList ∈ cands :=
  gen_C08_single 2 gcMask 1 _ (.subst 5 'A') (some "AACGC".toList) 18 25 (by decide) (by decide) (by decide)
    gc_walk gc_interior gc_proper (Or.inr ⟨5, _, by decide, gc_check, rfl⟩) (by decide)
    gc_bad_edit (by decide +kernel)

/-- with substitutions only the same holds with indel handling off (`C08_single_subst` about the
generated code). -/
theorem gen_C08_single_subst (k : Nat) (s : Mask) (v : Nat) (w : List Char) (p : Nat) (x : Char)
    (chk : Option (List Char)) (heap fuel : Nat) (hk : 1 ≤ k) (hs : s.size = 4 ^ k)
    (hv : s.getD v false = true)
    (hw : isWalk (inducedAccessor k s) v w = true) (he : (Edit.subst p x).Interior k w.length)
    (hp : (Edit.subst p x).Proper w) (hc : CheckOf w chk) (hheap : 9 * k ≤ heap)
    (hbad : isWalk (inducedAccessor k s) v ((Edit.subst p x).apply w) = false)
    (hf : ((Edit.subst p x).apply w).length + 2 * (chk.map List.length).getD 0 + 3 ≤ fuel) :
    ∃ cands st, Gen.repair_dna fuel (cstr ((Edit.subst p x).apply w)) (accPV (inducedAccessor k s))
        (.int (v : Int)) (.int (k : Int)) (chkPV chk) (.bool false) (.int (heap : Int)) =
        .ok (repResultPV (cands, st)) ∧
      st.detected = 1 ∧ w ∈ cands :=
  gen_C08_single_subst_only k s v w p x chk heap false fuel hk hs hv hw he hp hc hheap hbad hf

example : ∃ cands st, Gen.repair_dna 15 (cstr ((Edit.subst 5 'A').apply "TCTCTCTCTCTC".toList))
      (accPV (inducedAccessor 2 gcMask)) (.int 1) (.int 2) PV.none (.bool false) (.int 18) =
      .ok (repResultPV (cands, st)) ∧
    st.detected = 1 ∧ "TCTCTCTCTCTC".toList ∈ cands :=
  gen_C08_single_subst 2 gcMask 1 _ 5 'A' none 18 15 (by decide) (by decide) (by decide) gc_walk gc_interior
    gc_proper (Or.inl rfl) (by decide) gc_bad_edit gc_fuel_edit

/-- the insertion case (`C08_single_ins` about the generated code). -/
theorem gen_C08_single_ins (k : Nat) (s : Mask) (v : Nat) (w : List Char) (p : Nat) (x : Char)
    (chk : Option (List Char)) (heap fuel : Nat) (hk : 1 ≤ k) (hs : s.size = 4 ^ k)
    (hv : s.getD v false = true)
    (hw : isWalk (inducedAccessor k s) v w = true) (he : (Edit.ins p x).Interior k w.length)
    (hp : (Edit.ins p x).Proper w) (hc : CheckOf w chk) (hheap : 9 * k ≤ heap)
    (hbad : isWalk (inducedAccessor k s) v ((Edit.ins p x).apply w) = false)
    (hf : ((Edit.ins p x).apply w).length + 2 * (chk.map List.length).getD 0 + 3 ≤ fuel) :
    ∃ cands st, Gen.repair_dna fuel (cstr ((Edit.ins p x).apply w)) (accPV (inducedAccessor k s))
        (.int (v : Int)) (.int (k : Int)) (chkPV chk) (.bool true) (.int (heap : Int)) =
        .ok (repResultPV (cands, st)) ∧
      st.detected = 1 ∧ w ∈ cands :=
  gen_C08_single k s v w (.ins p x) chk heap fuel hk hs hv hw he hp hc hheap hbad hf

/-- `A` inserted before position 5: `TCTCTACTCTCTC`. -/
example : ∃ cands st, Gen.repair_dna 16 (cstr ((Edit.ins 5 'A').apply "TCTCTCTCTCTC".toList))
      (accPV (inducedAccessor 2 gcMask)) (.int 1) (.int 2) PV.none (.bool true) (.int 18) =
      .ok (repResultPV (cands, st)) ∧
    st.detected = 1 ∧ "TCTCTCTCTCTC".toList ∈ cands :=
  gen_C08_single_ins 2 gcMask 1 _ 5 'A' none 18 16 (by decide) (by decide) (by decide) gc_walk
    (by unfold Edit.Interior; decide +kernel) (by decide : (nucIdx 'A').isSome = true) (Or.inl rfl) (by decide)
    (by decide +kernel) (by decide +kernel)

/-- the deletion case (`C08_single_del` about the generated code). -/
theorem gen_C08_single_del (k : Nat) (s : Mask) (v : Nat) (w : List Char) (p : Nat)
    (chk : Option (List Char)) (heap fuel : Nat) (hk : 1 ≤ k) (hs : s.size = 4 ^ k)
    (hv : s.getD v false = true)
    (hw : isWalk (inducedAccessor k s) v w = true) (he : (Edit.del p).Interior k w.length)
    (hc : CheckOf w chk) (hheap : 9 * k ≤ heap)
    (hbad : isWalk (inducedAccessor k s) v ((Edit.del p).apply w) = false)
    (hf : ((Edit.del p).apply w).length + 2 * (chk.map List.length).getD 0 + 3 ≤ fuel) :
    ∃ cands st, Gen.repair_dna fuel (cstr ((Edit.del p).apply w)) (accPV (inducedAccessor k s))
        (.int (v : Int)) (.int (k : Int)) (chkPV chk) (.bool true) (.int (heap : Int)) =
        .ok (repResultPV (cands, st)) ∧
      st.detected = 1 ∧ w ∈ cands :=
  gen_C08_single k s v w (.del p) chk heap fuel hk hs hv hw he trivial hc hheap hbad hf

/-- position 5 deleted: `TCTCTTCTCTC`. -/
example : ∃ cands st, Gen.repair_dna 14 (cstr ((Edit.del 5).apply "TCTCTCTCTCTC".toList))
      (accPV (inducedAccessor 2 gcMask)) (.int 1) (.int 2) PV.none (.bool true) (.int 18) =
      .ok (repResultPV (cands, st)) ∧
    st.detected = 1 ∧ "TCTCTCTCTCTC".toList ∈ cands :=
  gen_C08_single_del 2 gcMask 1 _ 5 none 18 14 (by decide) (by decide) (by decide) gc_walk
    (by unfold Edit.Interior; decide +kernel) (Or.inl rfl) (by decide) (by decide +kernel) (by decide +kernel)

/-- the same for a graph as graph generation returns it: `connect_coding_graph` produced `(vs, a)` and the
start vertex is one of the listed vertices. -/
theorem gen_C08_single_generated (k t : Nat) (m : Mask) (vs : List Nat) (a : Acc) (v : Nat) (w : List Char)
    (e : Edit) (chk : Option (List Char)) (heap fuel : Nat) (hk : 1 ≤ k) (hm : m.size = 4 ^ k) (ht : 1 ≤ t)
    (ht4 : t ≤ 4) (hg : connectCodingGraph k m t = .ok (vs, a)) (hv : v ∈ vs)
    (hw : isWalk a v w = true) (he : e.Interior k w.length) (hp : e.Proper w)
    (hc : CheckOf w chk) (hheap : 9 * k ≤ heap) (hbad : isWalk a v (e.apply w) = false)
    (hf : (e.apply w).length + 2 * (chk.map List.length).getD 0 + 3 ≤ fuel) :
    ∃ cands st, Gen.repair_dna fuel (cstr (e.apply w)) (accPV a) (.int (v : Int)) (.int (k : Int))
        (chkPV chk) (.bool true) (.int (heap : Int)) = .ok (repResultPV (cands, st)) ∧
      st.detected = 1 ∧ w ∈ cands := by
  obtain ⟨s, ⟨hs, -, -, -⟩, rfl, rfl, -, -⟩ := (C03_holds k t m hm hk ht ht4).1 vs a hg
  exact gen_C08_single k s v w e chk heap fuel hk hs (Trim.Mask.mem_indices.1 hv) hw he hp hc hheap hbad hf

/-- `gcBalanced2` is what `connect_coding_graph` returns for the GC-balanced 2-mers at threshold 2. -/
example : ∃ cands st, Gen.repair_dna 15 (cstr ((Edit.subst 5 'A').apply "TCTCTCTCTCTC".toList))
      (accPV gcBalanced2) (.int 1) (.int 2) PV.none (.bool true) (.int 18) = .ok (repResultPV (cands, st)) ∧
    st.detected = 1 ∧ "TCTCTCTCTCTC".toList ∈ cands :=
  gen_C08_single_generated 2 2 gcMask [1, 2, 4, 7, 8, 11, 13, 14] gcBalanced2 1 _ (.subst 5 'A') none 18 15
    (by decide) (by decide) (by decide) (by decide) connectCodingGraph_gcBalanced2 (by decide) gc_walk gc_interior gc_proper
    (Or.inl rfl) (by decide) gc_bad_edit gc_fuel_edit

/-- several separated interior edits (positions increasing with gaps of at least `3k + 2`), indel
handling on, heap limit at least `(9k)^#edits`: the generated `repair_dna` returns, and when it reports as
many errors as there were edits, the original strand is among the candidates (`C08_multi` about the
generated code; the model theorem is conditional on the model returning, here the return is part of the
conclusion by `C10_total`). -/
theorem gen_C08_multi (k : Nat) (s : Mask) (v : Nat) (w : List Char) (es : List Edit)
    (chk : Option (List Char)) (heap fuel : Nat) (hk : 1 ≤ k) (hs : s.size = 4 ^ k)
    (hv : s.getD v false = true) (hw : isWalk (inducedAccessor k s) v w = true)
    (hes : ∀ e ∈ es, e.Interior k w.length ∧ e.Proper w) (hsp : Spaced k es) (hc : CheckOf w chk)
    (hheap : (9 * k) ^ es.length ≤ heap) (hl : es = [] → k ≤ w.length)
    (hf : (applyEdits es w).length + 2 * (chk.map List.length).getD 0 + 3 ≤ fuel) :
    ∃ cands st, Gen.repair_dna fuel (cstr (applyEdits es w)) (accPV (inducedAccessor k s))
        (.int (v : Int)) (.int (k : Int)) (chkPV chk) (.bool true) (.int (heap : Int)) =
        .ok (repResultPV (cands, st)) ∧
      (st.detected = es.length → w ∈ cands) := by
  have hacgt := isAcgt_of_isWalk w _ hw
  have hs' := applyEdits_acgt hacgt es fun e he => (hes e he).2
  have hlen := applyEdits_length hk hacgt hsp hes hl
  obtain ⟨cands, st, hr⟩ := C10_total (inducedAccessor k s) (applyEdits es w) v k chk true heap hs' hk hlen
  exact ⟨cands, st, repair_of_model (induced_wf k s) (induced_size k s) hk (induced_lt hs hv) hs' hlen
    (checkOf_nonempty hc) hf hr, C08_multi k s v w es chk heap hk hs hv hw hes hsp hc hheap cands st hr⟩

/-- the "whatever it returns" form of the same. -/
theorem gen_C08_multi' (k : Nat) (s : Mask) (v : Nat) (w : List Char) (es : List Edit)
    (chk : Option (List Char)) (heap fuel : Nat) (x : PV) (hk : 1 ≤ k) (hs : s.size = 4 ^ k)
    (hv : s.getD v false = true) (hw : isWalk (inducedAccessor k s) v w = true)
    (hes : ∀ e ∈ es, e.Interior k w.length ∧ e.Proper w) (hsp : Spaced k es) (hc : CheckOf w chk)
    (hheap : (9 * k) ^ es.length ≤ heap) (hl : es = [] → k ≤ w.length)
    (hf : (applyEdits es w).length + 2 * (chk.map List.length).getD 0 + 3 ≤ fuel)
    (h : Gen.repair_dna fuel (cstr (applyEdits es w)) (accPV (inducedAccessor k s))
        (.int (v : Int)) (.int (k : Int)) (chkPV chk) (.bool true) (.int (heap : Int)) = .ok x) :
    ∃ cands st, x = repResultPV (cands, st) ∧ (st.detected = es.length → w ∈ cands) := by
  obtain ⟨cands, st, hr, hd⟩ := gen_C08_multi k s v w es chk heap fuel hk hs hv hw hes hsp hc hheap hl hf
  rw [hr] at h
  cases h
  exact ⟨cands, st, rfl, hd⟩

/-- two substitutions, eight positions apart, in a walk of length 20. -/
example : ∃ cands st, Gen.repair_dna 23
      (cstr (applyEdits [.subst 5 'A', .subst 13 'A'] "TCTCTCTCTCTCTCTCTCTC".toList))
      (accPV (inducedAccessor 2 gcMask)) (.int 1) (.int 2) PV.none (.bool true) (.int 324) =
      .ok (repResultPV (cands, st)) ∧
    (st.detected = 2 → "TCTCTCTCTCTCTCTCTCTC".toList ∈ cands) :=
  gen_C08_multi 2 gcMask 1 _ [.subst 5 'A', .subst 13 'A'] none 324 23 (by decide) (by decide) (by decide)
    (by decide +kernel)
    (by
      simp only [List.forall_mem_cons, List.not_mem_nil, false_imp_iff, implies_true, and_true]
      unfold Edit.Interior Edit.Proper
      decide +kernel)
    ⟨by decide, trivial⟩ (Or.inl rfl) (by decide) (fun h => by cases h) (by decide +kernel)

/-- soundness: every record the generated `path_matching` returns is a valid single-edit repair at the
position; indel records only with `has_indel` (`C08_path_matching_sound` about the generated code). -/
theorem gen_C08_path_matching_sound (a : Acc) (chunk : List Char) (prev : Int) (occ : Nat) (indel : Bool)
    (fuel : Nat) (x : PV) (ha : a.WF) (hp : -(a.size : Int) ≤ prev ∧ prev < a.size)
    (h : Gen.path_matching fuel (cstr chunk) (accPV a) (.int prev) (.int (occ : Int)) (.bool indel) .none =
      .ok x) :
    ∃ recs n, x = pmResultPV (recs, n) ∧
      ∀ r ∈ recs, RecordValid a chunk prev occ r ∧ (r.kind ≠ .S → indel = true) := by
  obtain ⟨recs, n, hm, hx⟩ := model_of_path ha hp h
  exact ⟨recs, n, hx, C08_path_matching_sound a chunk prev occ indel recs n hm⟩

/-- completeness: every valid single-edit repair at the position is among the records the generated
`path_matching` returns — substitutions always, insertions and the deletion with `has_indel`
(`C08_path_matching_complete` about the generated code). -/
theorem gen_C08_path_matching_complete (a : Acc) (chunk : List Char) (prev : Int) (occ : Nat) (indel : Bool)
    (fuel : Nat) (x : PV) (ha : a.WF) (hp : -(a.size : Int) ≤ prev ∧ prev < a.size)
    (h : Gen.path_matching fuel (cstr chunk) (accPV a) (.int prev) (.int (occ : Int)) (.bool indel) .none =
      .ok x) :
    ∃ recs n, x = pmResultPV (recs, n) ∧
      ∀ r, RecordValid a chunk prev occ r → (r.kind = .S ∨ indel = true) → r ∈ recs := by
  obtain ⟨recs, n, hm, hx⟩ := model_of_path ha hp h
  exact ⟨recs, n, hx, fun r hr hk => C08_path_matching_complete a chunk prev occ indel recs n hm r hr hk⟩

/-- both together: the records are exactly the valid single-edit repairs. -/
theorem gen_C08_path_matching_iff (a : Acc) (chunk : List Char) (prev : Int) (occ : Nat) (indel : Bool)
    (fuel : Nat) (x : PV) (ha : a.WF) (hp : -(a.size : Int) ≤ prev ∧ prev < a.size)
    (h : Gen.path_matching fuel (cstr chunk) (accPV a) (.int prev) (.int (occ : Int)) (.bool indel) .none =
      .ok x) :
    ∃ recs n, x = pmResultPV (recs, n) ∧
      ∀ r, r ∈ recs ↔ (RecordValid a chunk prev occ r ∧ (r.kind ≠ .S → indel = true)) := by
  obtain ⟨recs, n, hm, hx⟩ := model_of_path ha hp h
  refine ⟨recs, n, hx, fun r => ⟨C08_path_matching_sound a chunk prev occ indel recs n hm r, fun hr => ?_⟩⟩
  refine C08_path_matching_complete a chunk prev occ indel recs n hm r hr.1 ?_
  by_cases hk : r.kind = .S
  · exact .inl hk
  · exact .inr (hr.2 hk)

/-- the generated `path_matching` raises `IndexError` exactly when the position is outside the chunk,
and returns otherwise (`C08_path_matching_error` about the generated code). -/
theorem gen_C08_path_matching_error (a : Acc) (chunk : List Char) (prev : Int) (occ : Nat) (indel : Bool)
    (fuel : Nat) (ha : a.WF) (hp : -(a.size : Int) ≤ prev ∧ prev < a.size) :
    (chunk.length ≤ occ →
      Gen.path_matching fuel (cstr chunk) (accPV a) (.int prev) (.int (occ : Int)) (.bool indel) .none =
        .error .indexError) ∧
    (occ < chunk.length → ∃ r,
      Gen.path_matching fuel (cstr chunk) (accPV a) (.int prev) (.int (occ : Int)) (.bool indel) .none =
        .ok (pmResultPV r)) := by
  rw [tie_path_matching a chunk prev occ indel fuel ha hp]
  obtain ⟨h1, h2⟩ := C08_path_matching_error a chunk prev occ indel
  refine ⟨fun h => ?_, fun h => ?_⟩
  · rw [h1 h]; rfl
  · obtain ⟨r, hr⟩ := h2 h
    exact ⟨r, by rw [hr]; rfl⟩

/-- a result of `pathMatching` is identified by its records read as tuples and its count.  (The derived
`DecidableEq RepairInfo` makes the kernel evaluate a computed record several times; tuples are compared
field by field.) -/
theorem RepCor.ok_of_tuples {r : R (List RepairInfo × Nat)} {recs : List RepairInfo} {n : Nat}
    (h : r.toOption.map (fun x => x.1.map fun i => (i.kind, i.loc, i.nuc, i.fragment)) =
      some (recs.map fun i => (i.kind, i.loc, i.nuc, i.fragment)))
    (hn : r.toOption.map (·.2) = some n) : r = .ok (recs, n) := by
  cases r with
  | error e => cases h
  | ok x =>
    have h1 := (List.map_inj_right (fun a b hab => by cases a; cases b; cases hab; rfl)).1 (Option.some.inj h)
    rw [← h1, ← Option.some.inj hn]

/-- the look-back of the doctest: chunk `TCTCTATCTCT`, previous vertex 7 (`CT`), position 5; the
generated `path_matching` returns the substitutions `C` and `G` (value from the tie plus kernel
evaluation of the model). -/
theorem RepCor.gc_path :
    Gen.path_matching 0 (cstr "TCTCTATCTCT".toList) (accPV gcBalanced2) (.int 7) (.int 5) (.bool false) .none =
      .ok (pmResultPV ([⟨.S, 5, 'C', "TCTCTCTCTCT".toList⟩, ⟨.S, 5, 'G', "TCTCTGTCTCT".toList⟩], 10)) :=
  (tie_path_matching gcBalanced2 _ 7 5 false 0 gc_wf (by decide +kernel)).trans
    (by rw [show pathMatching gcBalanced2 "TCTCTATCTCT".toList 7 5 false =
          .ok ([⟨.S, 5, 'C', "TCTCTCTCTCT".toList⟩, ⟨.S, 5, 'G', "TCTCTGTCTCT".toList⟩], 10) from
          ok_of_tuples (by decide +kernel) (by decide +kernel)]
        rfl)

example : ∃ recs n,
    pmResultPV ([⟨.S, 5, 'C', "TCTCTCTCTCT".toList⟩, ⟨.S, 5, 'G', "TCTCTGTCTCT".toList⟩], 10) =
      pmResultPV (recs, n) ∧
    ∀ r ∈ recs, RecordValid gcBalanced2 "TCTCTATCTCT".toList 7 5 r ∧ (r.kind ≠ .S → false = true) :=
  gen_C08_path_matching_sound gcBalanced2 _ 7 5 false 0 _ gc_wf (by decide +kernel) RepCor.gc_path

example : ∃ recs n,
    pmResultPV ([⟨.S, 5, 'C', "TCTCTCTCTCT".toList⟩, ⟨.S, 5, 'G', "TCTCTGTCTCT".toList⟩], 10) =
      pmResultPV (recs, n) ∧
    ∀ r, RecordValid gcBalanced2 "TCTCTATCTCT".toList 7 5 r → (r.kind = .S ∨ false = true) → r ∈ recs :=
  gen_C08_path_matching_complete gcBalanced2 _ 7 5 false 0 _ gc_wf (by decide +kernel) RepCor.gc_path

example : ∃ recs n,
    pmResultPV ([⟨.S, 5, 'C', "TCTCTCTCTCT".toList⟩, ⟨.S, 5, 'G', "TCTCTGTCTCT".toList⟩], 10) =
      pmResultPV (recs, n) ∧
    ∀ r, r ∈ recs ↔ (RecordValid gcBalanced2 "TCTCTATCTCT".toList 7 5 r ∧ (r.kind ≠ .S → false = true)) :=
  gen_C08_path_matching_iff gcBalanced2 _ 7 5 false 0 _ gc_wf (by decide +kernel) RepCor.gc_path

/-- position 11 is outside the chunk of length 11, position 5 (with a wrapped negative previous index,
`-9 ≡ 7`) is inside. -/
example : Gen.path_matching 0 (cstr "TCTCTATCTCT".toList) (accPV gcBalanced2) (.int 7) (.int 11) (.bool true)
    .none = .error .indexError :=
  (gen_C08_path_matching_error gcBalanced2 _ 7 11 true 0 gc_wf (by decide +kernel)).1 (by decide +kernel)
example : ∃ r, Gen.path_matching 0 (cstr "TCTCTATCTCT".toList) (accPV gcBalanced2) (.int (-9)) (.int 5)
    (.bool true) .none = .ok (pmResultPV r) :=
  (gen_C08_path_matching_error gcBalanced2 _ (-9) 5 true 0 gc_wf (by decide +kernel)).2 (by decide +kernel)

/-- C08/C09 together, for one proper interior edit of a walk on a vertex-induced graph, no check: the
generated `repair_dna` returns, reporting exactly one error with the original among the candidates when
the corrupted strand is no longer a walk, and zero errors with the corrupted strand as the only
candidate when it still is (`E2E_single_edit` about the generated code). -/
theorem gen_E2E_single_edit (k : Nat) (s : Mask) (v : Nat) (w : List Char) (e : Edit) (heap fuel : Nat)
    (hk : 1 ≤ k) (hs : s.size = 4 ^ k) (hv : s.getD v false = true)
    (hw : isWalk (inducedAccessor k s) v w = true) (he : e.Interior k w.length) (hp : e.Proper w)
    (hheap : 9 * k ≤ heap) (hf : (e.apply w).length + 3 ≤ fuel) :
    ∃ cands st, Gen.repair_dna fuel (cstr (e.apply w)) (accPV (inducedAccessor k s))
        (.int (v : Int)) (.int (k : Int)) PV.none (.bool true) (.int (heap : Int)) =
        .ok (repResultPV (cands, st)) ∧
      (isWalk (inducedAccessor k s) v (e.apply w) = false → st.detected = 1 ∧ w ∈ cands) ∧
      (isWalk (inducedAccessor k s) v (e.apply w) = true → st.detected = 0 ∧ cands = [e.apply w]) := by
  obtain ⟨cands, st, hr, h1, h2⟩ := E2E_single_edit k s v w e heap hk hs hv hw he hp hheap
  exact ⟨cands, st, repair_of_model (chk := none) (induced_wf k s) (induced_size k s) hk (induced_lt hs hv)
    (edit_acgt (isAcgt_of_isWalk w _ hw) hp) (edit_length he) nofun hf hr,
    h1, h2⟩

example : ∃ cands st, Gen.repair_dna 15 (cstr ((Edit.subst 5 'A').apply "TCTCTCTCTCTC".toList))
      (accPV (inducedAccessor 2 gcMask)) (.int 1) (.int 2) PV.none (.bool true) (.int 18) =
      .ok (repResultPV (cands, st)) ∧
    (isWalk (inducedAccessor 2 gcMask) 1 ((Edit.subst 5 'A').apply "TCTCTCTCTCTC".toList) = false →
      st.detected = 1 ∧ "TCTCTCTCTCTC".toList ∈ cands) ∧
    (isWalk (inducedAccessor 2 gcMask) 1 ((Edit.subst 5 'A').apply "TCTCTCTCTCTC".toList) = true →
      st.detected = 0 ∧ cands = [(Edit.subst 5 'A').apply "TCTCTCTCTCTC".toList]) :=
  gen_E2E_single_edit 2 gcMask 1 _ (.subst 5 'A') 18 15 (by decide) (by decide) (by decide) gc_walk gc_interior
    gc_proper (by decide) (by decide +kernel)

/-- write, corrupt once, repair with the check, decode — all three through the generated code: if the
generated `encode` (normal mode, `vt_length = n ≥ 1`) returned the pair `(w, c)`, then for one proper
interior edit `e` of `w` that leaves the graph the generated `repair_dna`, given the corrupted strand and
the check `c`, returns candidates among which is `w`, every candidate reproduces the check, and the
generated `decode` of `w` with the check returns the message (`E2E_repair_then_decode` about the generated
code). -/
theorem gen_E2E_repair_then_decode (k : Nat) (s : Mask) (v : Nat) (tbl : Option Tbl) (bits : List Nat)
    (w c : List Char) (e : Edit) (n heap fuelE fuelR fuelD : Nat) (vb vb' : Bool)
    (hk : 1 ≤ k) (hs : s.size = 4 ^ k) (hv : s.getD v false = true) (hn : 1 ≤ n) (hb : IsBits bits)
    (ht : TblOK tbl (inducedAccessor k s)) (hfE : 2 * n + 3 ≤ fuelE)
    (henc : Gen.encode fuelE (bitsPV bits) (accPV (inducedAccessor k s)) (.int (v : Int)) (.bool false)
      (.int (n : Int)) (tblPV tbl) (.bool false) (.bool vb) = .ok (.tup [.str w, .str c]))
    (he : e.Interior k w.length) (hp : e.Proper w) (hheap : 9 * k ≤ heap)
    (hbad : isWalk (inducedAccessor k s) v (e.apply w) = false)
    (hfR : (e.apply w).length + 2 * n + 3 ≤ fuelR) (hfD : 4 * w.length + 2 * n + 10 ≤ fuelD) :
    ∃ cands st, Gen.repair_dna fuelR (cstr (e.apply w)) (accPV (inducedAccessor k s))
        (.int (v : Int)) (.int (k : Int)) (.str c) (.bool true) (.int (heap : Int)) =
        .ok (repResultPV (cands, st)) ∧
      w ∈ cands ∧ (∀ y ∈ cands, setVt y c.length = .ok c) ∧
      Gen.decode fuelD (cstr w) (.int (bits.length : Int)) (accPV (inducedAccessor k s)) (.int (v : Int))
        (.bool false) (.str c) (tblPV tbl) (.bool vb') = .ok (bitsPV bits) := by
  have hwf := induced_wf k s
  have hlt := induced_lt hs hv
  rw [tie_encode _ tbl v bits false n fuelE vb hwf hlt ht (isBits_le_one hb) hfE] at henc
  obtain ⟨r, henc', hr⟩ := map_ok_inv henc
  rw [encResultPV_pair hr] at henc'
  obtain ⟨hw, hset⟩ := Compose.encode_check hb hn henc'
  obtain rfl : c.length = n := setVt_length hn hset
  have hcne : c ≠ [] := List.ne_nil_of_length_pos hn
  obtain ⟨cands, st, hrep, hmem, hchk, hdec⟩ := E2E_repair_then_decode k s v tbl bits w c e _ heap fuelE hk hs hv
    hn hb henc' he hp hheap hbad
  refine ⟨cands, st, ?_, hmem, hchk, ?_⟩
  · exact repair_of_model (chk := some c) hwf (induced_size k s) hk hlt
      (edit_acgt (isAcgt_of_isWalk w _ hw) hp) (edit_length he) (checkSome_nonempty hcne)
      hfR hrep
  · have := tie_decode _ tbl v w bits.length false (some c) fuelD vb' hwf hlt ht
      (checkSome_nonempty hcne) hfD
    rw [hdec] at this
    exact this

/-- the message `01010101` on the GC-balanced graph: `encode` returns `("TCTCTCT", "TAAGC")` (7 symbols);
with `k = 2` an interior edit needs `2 ≤ p` and `p + 4 < 7`, e.g. the substitution of `G` at position 2. -/
example : ∃ cands st, Gen.repair_dna 20 (cstr ((Edit.subst 2 'G').apply "TCTCTCT".toList))
      (accPV (inducedAccessor 2 gcMask)) (.int 1) (.int 2) (.str "TAAGC".toList) (.bool true) (.int 18) =
      .ok (repResultPV (cands, st)) ∧
    "TCTCTCT".toList ∈ cands ∧ (∀ y ∈ cands, setVt y "TAAGC".toList.length = .ok "TAAGC".toList) ∧
    Gen.decode 48 (cstr "TCTCTCT".toList) (.int 8) (accPV (inducedAccessor 2 gcMask)) (.int 1)
      (.bool false) (.str "TAAGC".toList) PV.none (.bool false) = .ok (bitsPV [0, 1, 0, 1, 0, 1, 0, 1]) :=
  gen_E2E_repair_then_decode 2 gcMask 1 none [0, 1, 0, 1, 0, 1, 0, 1] _ _ (.subst 2 'G') 5 18 200 20 48 false false
    (by decide) (by decide) (by decide) (by decide) msg_bits (tblOK_none _) (by decide) gc_encode_normal
    (by unfold Edit.Interior; decide +kernel) (by unfold Edit.Proper; decide +kernel) (by decide) (by decide +kernel) (by decide +kernel)
    (by decide +kernel)

end Dsw.Tie
