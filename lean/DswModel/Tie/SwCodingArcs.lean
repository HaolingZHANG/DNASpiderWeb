import DswModel.Tie.SwCodingTrim
/-!
# Translation tie — `connect_coding_graph`: the arc materialisation (`accessor[v, position] = latter`)
-/
namespace Dsw.Tie.Ccg
open Dsw Dsw.Py Dsw.Tie Dsw.Trim

theorem post_mono {ε : Type} {r : R (Flow ε)} (Q P : ε → Prop) (h : ∃ e1, r = .ok (.norm e1) ∧ Q e1)
    (hq : ∀ e1, Q e1 → P e1) : ∃ e1, r = .ok (.norm e1) ∧ P e1 := by
  obtain ⟨e1, h1, h2⟩ := h
  exact ⟨e1, h1, hq e1 h2⟩

/-- the entry written for successor `w`. -/
def cellOf (m : Mask) (w : Nat) : PV := .int (if m.getD w false then (w : Int) else -1)

/-- row `v` while its successors are being written: the entries of the prefix, then `-1`s. -/
def rp (m : Mask) (pre : List Nat) (n : Nat) : List PV :=
  pre.map (cellOf m) ++ List.replicate (n - pre.length) (.int (-1))

theorem rp_getElem? (m : Mask) {pre : List Nat} {n : Nat} (h : pre.length < n) :
    (rp m pre n)[pre.length]? = some (.int (-1)) := by
  unfold rp
  rw [List.getElem?_append_right (Nat.le_of_eq (List.length_map _)), List.length_map, Nat.sub_self,
    List.getElem?_replicate, if_pos (Nat.sub_pos_of_lt h)]

theorem rp_snoc (m : Mask) {pre : List Nat} {n : Nat} (h : pre.length < n) (w : Nat) :
    rp m (pre ++ [w]) n = (rp m pre n).set pre.length (cellOf m w) := by
  obtain ⟨d, rfl⟩ : ∃ d, n = pre.length + (d + 1) := ⟨n - pre.length - 1, by omega⟩
  unfold rp
  rw [List.set_append_right _ _ (Nat.le_of_eq (List.length_map _)), List.length_map, Nat.sub_self,
    Nat.add_sub_cancel_left, List.replicate_succ, List.set_cons_zero, List.map_append, List.append_assoc,
    List.length_append, List.length_singleton, Nat.add_sub_add_left]
  rfl

theorem rp_nil (m : Mask) : PV.arr (rp m [] 4) = GzTie.negRow := rfl

/-- the finished row of vertex `v`. -/
def rowF (k : Nat) (m : Mask) (v : Nat) : PV :=
  if m.getD v false then .arr ((obtainLatters k v).map (cellOf m)) else GzTie.negRow

theorem rp_full (k : Nat) (m : Mask) (v : Nat) : rp m (obtainLatters k v) 4 = (obtainLatters k v).map (cellOf m) := by
  unfold rp
  rw [obtainLatters_length]
  simp

/-! the accessor after `i` iterations of the outer loop is `filled (rowF k m) GzTie.negRow (4 ^ k) i`. -/

theorem filled_zero_accPV (F : Nat → PV) (n : Nat) :
    PV.arr (filled F GzTie.negRow n 0) = accPV (Array.replicate n (Array.replicate 4 (-1))) := by
  rw [GzV.accPV_init, filled_zero]

theorem filled_full_accPV (k : Nat) (m : Mask) :
    PV.arr (filled (rowF k m) GzTie.negRow (4 ^ k) (4 ^ k)) = accPV (inducedAccessor k m) := by
  simp only [accPV, inducedAccessor, filled_full, PV.arr.injEq]
  simp only [Array.toList_map, Array.toList_range, List.map_map]
  apply List.map_congr_left
  intro v _
  simp only [rowF, Function.comp]
  by_cases hmv : m.getD v false = true
  · simp only [hmv, if_true, List.map_map, PV.arr.injEq]
    apply List.map_congr_left
    intro w _
    simp only [cellOf, Function.comp]
    split <;> rfl
  · simp only [hmv, Bool.false_eq_true, if_false]
    simp [GzTie.negRow]

def ArcIn (k : Nat) (ai : Bool) (m : Mask) (T : PV) (rows : List PV) (v : Nat) (pre : List Nat) (e : CEnv) : Prop :=
  e = { e with observed_length := .int (k : Int), vertices := bmask ai m.toList, threshold := T,
               vertex_index := .int (v : Int), accessor := .arr (rows.set v (.arr (rp m pre 4))) }

theorem for4_spec (k fuel : Nat) (ai : Bool) (m : Mask) (hm : m.size = 4 ^ k) (T : PV) (rows : List PV) (v : Nat)
    (hv : v < rows.length) (pre : List Nat) (hpre : pre.length < 4) (w : Nat) (hw : w < 4 ^ k) (e : CEnv)
    (h : ArcIn k ai m T rows v pre e) :
    ∃ e', Gen.connect_coding_graph.for4_body fuel (.tup [.int (pre.length : Int), .int (w : Int)]) e =
        .ok (.norm e') ∧ ArcIn k ai m T rows v (pre ++ [w]) e' := by
  rw [h]
  have hw' : w < m.toList.length := by rw [Array.length_toList, hm]; exact hw
  simp only [Gen.connect_coding_graph.for4_body, pyUnpack_two_tup, bnd_ok, List.getD_cons_zero,
    List.getD_cons_succ, pyIndex_bmask ai hw', truthy_cellPV, getD_toList]
  by_cases hmw : m.getD w false = true
  · have hr : (rows.set v (.arr (rp m pre 4)))[v]? = some (.arr (rp m pre 4)) := by
      rw [List.getElem?_set_self hv]
    simp only [hmw, if_true, GzTie.npSetItem2_nat hr (rp_getElem? m hpre), bnd_ok]
    refine ⟨_, rfl, ?_⟩
    unfold ArcIn
    rw [List.set_set, rp_snoc m hpre, cellOf, hmw]
    rfl
  · simp only [hmw, Bool.false_eq_true, if_false]
    refine ⟨_, rfl, ?_⟩
    unfold ArcIn
    have hc : cellOf m w = .int (-1) := by rw [cellOf, if_neg hmw]
    rw [rp_snoc m hpre, hc, GzTie.set_self_of_getElem? (rp_getElem? m hpre)]

def ArcSt (k : Nat) (ai : Bool) (m : Mask) (T : PV) (i : Nat) (e : CEnv) : Prop :=
  e = { e with observed_length := .int (k : Int), vertices := bmask ai m.toList, threshold := T,
               accessor := .arr (filled (rowF k m) GzTie.negRow (4 ^ k) i) }

theorem for3_spec (k fuel : Nat) (ai : Bool) (m : Mask) (hm : m.size = 4 ^ k) (T : PV) (i : Nat) (hi : i < 4 ^ k)
    (e : CEnv) (h : ArcSt k ai m T i e) :
    ∃ e', Gen.connect_coding_graph.for3_body fuel (.int (i : Int)) e = .ok (.norm e') ∧ ArcSt k ai m T (i + 1) e' := by
  rw [h]
  have hi' : i < m.toList.length := by rw [Array.length_toList, hm]; exact hi
  simp only [Gen.connect_coding_graph.for3_body, pyIndex_bmask ai hi', bnd_ok, truthy_cellPV, getD_toList]
  refine seq_norm_exists (Q := ArcSt k ai m T (i + 1)) ?_ ?_
  · by_cases hmi : m.getD i false = true
    · simp only [hmi, if_true, tie_obtain_latters, bnd_ok, pyEnumerate_natsPV, pyIter_list]
      have hlen : (filled (rowF k m) GzTie.negRow (4 ^ k) i).length = 4 ^ k := filled_length _ _ _ _
      refine post_mono (ArcIn k ai m T (filled (rowF k m) GzTie.negRow (4 ^ k) i) i (obtainLatters k i)) _ ?_ ?_
      · refine forLoop_enum_len (body := Gen.connect_coding_graph.for4_body fuel)
          (ArcIn k ai m T (filled (rowF k m) GzTie.negRow (4 ^ k) i) i) (fun (n : Nat) => PV.int (n : Int)) (obtainLatters k i)
          (fun pre x suf has e he => ?_) ?_
        · have hl4 : (obtainLatters k i).length = 4 := obtainLatters_length k i
          rw [has] at hl4
          simp only [List.length_append, List.length_cons] at hl4
          have hx : x ∈ obtainLatters k i := by rw [has]; simp
          obtain ⟨j, _, rfl⟩ := (mem_obtainLatters k i x).1 hx
          exact for4_spec k fuel ai m hm T _ i (by rw [hlen]; exact hi) pre (by omega) _
            (Nat.mod_lt _ (four_pow_pos k)) e he
        · unfold ArcIn
          rw [rp_nil, GzTie.set_self_of_getElem?]
          rw [filled_getElem? _ _ _ _ hi, if_neg (Nat.lt_irrefl i)]
      · intro e1 g
        show _ = _
        rw [g, rp_full, ← filled_set]
        rw [rowF, if_pos hmi]
    · simp only [hmi, Bool.false_eq_true, if_false]
      refine ⟨_, rfl, ?_⟩
      show _ = _
      rw [← filled_set]
      have hF : rowF k m i = GzTie.negRow := by rw [rowF, if_neg hmi]
      rw [hF, GzTie.set_self_of_getElem?]
      rw [filled_getElem? _ _ _ _ hi, if_neg (Nat.lt_irrefl i)]
  · intro e1 g
    simp only [Gen.connect_coding_graph.k6, bnd_ok, ite_self]
    exact ⟨_, rfl, g⟩

theorem arcs_loop (k fuel : Nat) (ai : Bool) (m : Mask) (hm : m.size = 4 ^ k) (T : PV) (e : CEnv)
    (h1 : e.observed_length = .int (k : Int)) (h2 : e.vertices = maskPV ai m) (h3 : e.threshold = T)
    (h4 : e.accessor = accPV (Array.replicate (4 ^ k) (Array.replicate 4 (-1)))) :
    ∃ e', forLoop (Gen.connect_coding_graph.for3_body fuel)
        ((List.range (4 ^ k)).map fun (i : Nat) => PV.int (i : Int)) e = .ok (.norm e') ∧
      e'.observed_length = .int (k : Int) ∧ e'.vertices = maskPV ai m ∧ e'.threshold = T ∧
      e'.accessor = accPV (inducedAccessor k m) := by
  rw [maskPV_eq] at h2
  obtain ⟨e', hl, g⟩ := GzTie.forLoop_range_inv (body := Gen.connect_coding_graph.for3_body fuel)
    (ArcSt k ai m T) (4 ^ k) (fun i hi e he => for3_spec k fuel ai m hm T i hi e he)
    (e := e) (by unfold ArcSt; rw [filled_zero_accPV, ← h1, ← h2, ← h3, ← h4])
  exact ⟨e', hl, by rw [g], by rw [g]; rfl, by rw [g], by rw [g]; exact filled_full_accPV k m⟩

end Dsw.Tie.Ccg
