import DswModel.Tie.SwCodingLib
/-!
# Translation tie — `connect_coding_graph`: the fuel-bounded loops of the model end within their fuel

Facts about the MODEL only (no generated code): one wave of the predecessor cascade never adds arcs and, when it
schedules new pairs, kills a vertex; removing a vertex that has arcs kills it.  These give the measures that the
ties of the `while` loops of the threshold-1 phase run on.
-/
namespace Dsw.Tie.Ccg
open Dsw Dsw.Trim Dsw.TrimOne

def PairsOK (k : Nat) (pairs : List (Nat × Nat)) : Prop := ∀ p ∈ pairs, p.1 < 4 ^ k

theorem PairsOK_nil (k : Nat) : PairsOK k [] := fun _ h => by cases h

theorem PairsOK_formers {k : Nat} (hk : 1 ≤ k) {u : Nat} (hu : u < 4 ^ k) :
    PairsOK k ((obtainFormers k u).map fun i => (i, u)) := by
  intro p hp
  obtain ⟨i, hi, rfl⟩ := List.mem_map.1 hp
  exact formers_lt hk hu i hi

theorem PairsOK_append {k : Nat} {p q : List (Nat × Nat)} (hp : PairsOK k p) (hq : PairsOK k q) :
    PairsOK k (p ++ q) := by
  intro x hx
  rcases List.mem_append.1 hx with h | h
  · exact hp x h
  · exact hq x h

theorem cstep_facts {k : Nat} (hk : 1 ≤ k) {st : Acc × List (Nat × Nat)} (h : WFdB k st.1) {fl : Nat × Nat}
    (hf : fl.1 < 4 ^ k) (hnew : PairsOK k st.2) :
    WFdB k (cstep k st fl).1 ∧ ArcLe (cstep k st fl).1 st.1 ∧ PairsOK k (cstep k st fl).2 ∧
      ((cstep k st fl).2 = st.2 ∨ liveCount k (cstep k st fl).1 < liveCount k st.1) := by
  have hc : fl.2 % 4 < 4 := by omega
  have hle : ArcLe (st.1.setEnt fl.1 (fl.2 % 4) (-1)) st.1 :=
    fun x i hx => ((ent_clear_nonneg h hf hc x i).1 hx).2
  have hwf : WFdB k (st.1.setEnt fl.1 (fl.2 % 4) (-1)) := wfdb_setEnt k _ _ _ _ h (Or.inl rfl)
  unfold cstep
  simp only
  by_cases hcond : st.1.deg fl.1 > (st.1.setEnt fl.1 (fl.2 % 4) (-1)).deg fl.1 ∧
      (st.1.setEnt fl.1 (fl.2 % 4) (-1)).deg fl.1 = 0
  · rw [if_pos hcond]
    exact ⟨hwf, hle, PairsOK_append hnew (PairsOK_formers hk hf),
      Or.inr (hle.liveCount_lt k hf (by omega) hcond.2)⟩
  · rw [if_neg hcond]
    exact ⟨hwf, hle, hnew, Or.inl rfl⟩

theorem cfold_facts {k : Nat} (hk : 1 ≤ k) :
    ∀ (pairs : List (Nat × Nat)) (st : Acc × List (Nat × Nat)), WFdB k st.1 → PairsOK k pairs → PairsOK k st.2 →
      WFdB k (pairs.foldl (cstep k) st).1 ∧ ArcLe (pairs.foldl (cstep k) st).1 st.1 ∧
      PairsOK k (pairs.foldl (cstep k) st).2 ∧
      ((pairs.foldl (cstep k) st).2 = st.2 ∨ liveCount k (pairs.foldl (cstep k) st).1 < liveCount k st.1) := by
  intro pairs
  induction pairs with
  | nil => intro st h _ hn; exact ⟨h, ArcLe.refl _, hn, Or.inl rfl⟩
  | cons fl rest ih =>
    intro st h hp hn
    obtain ⟨h1, h2, h3, h4⟩ := cstep_facts hk h (hp fl List.mem_cons_self) hn
    obtain ⟨i1, i2, i3, i4⟩ := ih (cstep k st fl) h1 (fun p hp' => hp p (List.mem_cons_of_mem _ hp')) h3
    rw [List.foldl_cons]
    refine ⟨i1, i2.trans h2, i3, ?_⟩
    rcases i4 with i4 | i4
    · rcases h4 with h4 | h4
      · exact Or.inl (i4.trans h4)
      · exact Or.inr (Nat.lt_of_le_of_lt (i2.liveCount_le k) h4)
    · exact Or.inr (Nat.lt_of_lt_of_le i4 (h2.liveCount_le k))

theorem cascade_arcLe {k : Nat} (hk : 1 ≤ k) :
    ∀ (f : Nat) (pairs : List (Nat × Nat)) (a : Acc), WFdB k a → PairsOK k pairs →
      ArcLe (cascade k f pairs a) a := by
  intro f
  induction f with
  | zero => intro pairs a _ _; exact ArcLe.refl a
  | succ f ih =>
    intro pairs a h hp
    rw [cascade_succ]
    cases pairs with
    | nil => exact ArcLe.refl a
    | cons p ps =>
      simp only [List.isEmpty_cons, Bool.false_eq_true, if_false]
      obtain ⟨h1, h2, h3, _⟩ := cfold_facts hk (p :: ps) (a, []) h hp (PairsOK_nil k)
      exact (ih _ _ h1 h3).trans h2

theorem clearRow_facts {k : Nat} {a : Acc} (h : WFdB k a) {u : Nat} (hu : u < 4 ^ k) :
    WFdB k (a.setIfInBounds u (Array.replicate 4 (-1))) ∧
    ArcLe (a.setIfInBounds u (Array.replicate 4 (-1))) a ∧
    Acc.deg (a.setIfInBounds u (Array.replicate 4 (-1))) u = 0 := by
  have hus : u < a.size := by rw [h.1]; exact hu
  refine ⟨wfdb_setIfInBounds_row k a u _ h (rowOK_replicate k u),
    fun x i hx => ((ent_clearRow_nonneg hus x i).1 hx).2, ?_⟩
  rw [deg_eq_zero_iff]
  intro j _
  rw [ent_clearRow hus, if_pos rfl]; omega

theorem removeVertex_eq (k : Nat) (a : Acc) (u : Nat) :
    removeVertex k a u = cascade k (a.size + 1) ((obtainFormers k u).map fun i => (i, u))
      (a.setIfInBounds u (Array.replicate 4 (-1))) := rfl

theorem removeVertex_facts {k : Nat} (hk : 1 ≤ k) {a : Acc} (h : WFdB k a) {u : Nat} (hu : u < 4 ^ k) :
    ArcLe (removeVertex k a u) a ∧ (removeVertex k a u).deg u = 0 := by
  obtain ⟨c1, c2, c3⟩ := clearRow_facts h hu
  have := cascade_arcLe hk (a.size + 1) _ _ c1 (PairsOK_formers hk hu)
  rw [removeVertex_eq]
  exact ⟨this.trans c2, this.deg_zero c3⟩

theorem removeAll_arcLe {k : Nat} (hk : 1 ≤ k) : ∀ (us : List Nat) (a : Acc), WFdB k a → (∀ u ∈ us, u < 4 ^ k) →
    ArcLe (us.foldl (removeVertex k) a) a := by
  intro us
  induction us with
  | nil => intro a _ _; exact ArcLe.refl a
  | cons u us ih =>
    intro a h hus
    rw [List.foldl_cons]
    exact (ih _ (wfdb_removeVertex k a u h) (fun x hx => hus x (by simp [hx]))).trans
      (removeVertex_facts hk h (hus u (by simp))).1

/-- removing a non-empty list of vertices whose first one has arcs kills a vertex. -/
theorem removeAll_liveCount_lt {k : Nat} (hk : 1 ≤ k) (u : Nat) (us : List Nat) (a : Acc) (h : WFdB k a)
    (hus : ∀ x ∈ u :: us, x < 4 ^ k) (hu : 0 < a.deg u) :
    liveCount k ((u :: us).foldl (removeVertex k) a) < liveCount k a := by
  obtain ⟨r1, r2⟩ := removeVertex_facts hk h (hus u (by simp))
  have i2 := removeAll_arcLe hk us _ (wfdb_removeVertex k a u h) (fun x hx => hus x (by simp [hx]))
  rw [List.foldl_cons]
  have := i2.liveCount_le k
  have := r1.liveCount_lt k (hus u (by simp)) hu r2
  omega

end Dsw.Tie.Ccg
