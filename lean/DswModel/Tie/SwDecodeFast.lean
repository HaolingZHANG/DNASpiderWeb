import DswModel.Tie.SwDecodeNormal
/-!
# Translation tie — `decode` (dsw/spiderweb.py): fast mode

The loop `decode.for3_body` (with `k8`, `k7`, `k6`) writes the bits into the `zeros(L)` array; the model
`decodeFastLoop` returns the bits written from position `ml` on.  `writeBits bm ml bits` is the array
after writing `bits` from position `ml` (writes beyond the end are no-ops: they never happen, the code
raises `IndexError` first, and so does the model).
-/
namespace Dsw.Tie.DecodeTie
open Dsw Dsw.Py Dsw.Tie

/-- the radix dispatch of one fast-mode step: the bits written and the next message position. -/
def fastWrite (L radix d ml : Nat) : R (List Nat × Nat) :=
  if radix = 4 then
    if ml ≥ L then .error .indexError
    else .ok (if ml + 1 < L then [d / 2, d % 2] else [d / 2], ml + 2)
  else if radix = 2 then
    if ml ≥ L then .error .indexError else .ok ([d % 2], ml + 1)
  else if radix = 1 then .ok ([], ml)
  else .error .valueError

/-- add the next vertex to the outcome of the radix dispatch. -/
def liftStep (v' : Int) (r : R (List Nat × Nat)) : R (List Nat × Int × Nat) :=
  match r with
  | .error err => .error err
  | .ok (bits, ml') => .ok (bits, v', ml')

/-- one step of `decodeFastLoop`: bits written, next vertex, next message position. -/
def fastStep (a : Acc) (tbl : Option Tbl) (L : Nat) (v : Int) (c : Char) (ml : Nat) : R (List Nat × Int × Nat) :=
  match livePos a v c with
  | Option.none => .error .valueError
  | some p =>
    liftStep (a.ent v ((nucIdx c).getD 0)) (fastWrite L (a.live v).length (posToDigit tbl v (a.live v) p) ml)

theorem map_nil_append {α} (r : R (List α)) : r.map ([] ++ ·) = r := by
  cases r <;> rfl

theorem decodeFastLoop_cons (a : Acc) (tbl : Option Tbl) (L : Nat) (v : Int) (c : Char) (s : List Char) (ml : Nat) :
    decodeFastLoop a tbl L v (c :: s) ml =
      match fastStep a tbl L v c ml with
      | .error err => .error err
      | .ok (bits, v', ml') => (decodeFastLoop a tbl L v' s ml').map (bits ++ ·) := by
  unfold fastStep fastWrite liftStep
  rw [decodeFastLoop]
  cases livePos a v c with
  | none => rfl
  | some p =>
    simp only
    by_cases h4 : (a.live v).length = 4
    · simp only [h4, if_true]
      by_cases hml : ml ≥ L
      · simp only [hml, if_true]
      · simp only [hml, if_false]
    · simp only [h4, if_false]
      by_cases h2 : (a.live v).length = 2
      · simp only [h2, if_true]
        by_cases hml : ml ≥ L
        · simp only [hml, if_true]
        · simp only [hml, if_false]; rfl
      · simp only [h2, if_false]
        by_cases h1 : (a.live v).length = 1
        · simp only [h1, if_true, map_nil_append]
        · simp only [h1, if_false]

theorem fastWrite_ok {L radix d ml : Nat} {bits : List Nat} {ml' : Nat}
    (h : fastWrite L radix d ml = .ok (bits, ml')) :
    ∀ k, ml' + k ≤ max ml' L → ml + bits.length + k ≤ max ml L := by
  unfold fastWrite at h
  intro k hk
  by_cases h4 : radix = 4
  · rw [if_pos h4] at h
    by_cases hml : ml ≥ L
    · rw [if_pos hml] at h; cases h
    · rw [if_neg hml] at h
      injection h with h
      injection h with hb hm
      subst hb hm
      by_cases h1 : ml + 1 < L
      · simp only [h1, if_true, List.length_cons, List.length_nil] at hk ⊢; omega
      · simp only [h1, if_false, List.length_cons, List.length_nil] at hk ⊢; omega
  · rw [if_neg h4] at h
    by_cases h2 : radix = 2
    · rw [if_pos h2] at h
      by_cases hml : ml ≥ L
      · rw [if_pos hml] at h; cases h
      · rw [if_neg hml] at h
        injection h with h
        injection h with hb hm
        subst hb hm
        simp only [List.length_cons, List.length_nil] at hk ⊢; omega
    · rw [if_neg h2] at h
      by_cases h1 : radix = 1
      · rw [if_pos h1] at h
        injection h with h
        injection h with hb hm
        subst hb hm
        simp only [List.length_nil] at hk ⊢; omega
      · rw [if_neg h1] at h; cases h

theorem fastStep_ok {a : Acc} (ha : a.WF) {tbl : Option Tbl} {L : Nat} {v : Int} (hv : InR a v) {c : Char}
    {ml : Nat} {bits : List Nat} {v' : Int} {ml' : Nat} (h : fastStep a tbl L v c ml = .ok (bits, v', ml')) :
    InR a v' ∧ ∀ k, ml' + k ≤ max ml' L → ml + bits.length + k ≤ max ml L := by
  unfold fastStep at h
  cases hp : livePos a v c with
  | none => rw [hp] at h; cases h
  | some p =>
    rw [hp] at h
    simp only [liftStep] at h
    cases hw : fastWrite L (a.live v).length (posToDigit tbl v (a.live v) p) ml with
    | error err => rw [hw] at h; cases h
    | ok r =>
      obtain ⟨b, m⟩ := r
      rw [hw] at h
      injection h with h
      injection h with hb h
      injection h with hv' hm
      subst hb hv' hm
      obtain ⟨j, hc, hj, _, _⟩ := livePos_some hp
      exact ⟨by rw [hc]; exact ent_inR ha hv hj, fastWrite_ok hw⟩

theorem decodeFastLoop_length {a : Acc} (ha : a.WF) (tbl : Option Tbl) (L : Nat) :
    ∀ (s : List Char) (v : Int) (ml : Nat), InR a v → ∀ bits, decodeFastLoop a tbl L v s ml = .ok bits →
      ml + bits.length ≤ max ml L := by
  intro s
  induction s with
  | nil =>
    intro v ml _ bits h
    rw [decodeFastLoop] at h
    injection h with h
    subst h
    simp only [List.length_nil]; omega
  | cons c s ih =>
    intro v ml hv bits h
    rw [decodeFastLoop_cons] at h
    cases hs : fastStep a tbl L v c ml with
    | error err => rw [hs] at h; cases h
    | ok r =>
      obtain ⟨b, v', ml'⟩ := r
      rw [hs] at h
      simp only at h
      obtain ⟨hv', hk⟩ := fastStep_ok ha hv hs
      cases hd : decodeFastLoop a tbl L v' s ml' with
      | error err => rw [hd] at h; cases h
      | ok rest =>
        rw [hd] at h
        injection h with h
        subst h
        have := hk rest.length (ih v' ml' hv' rest hd)
        simp only [List.length_append]; omega

/-- the array after writing `bits` from position `k` on. -/
def writeBits : List Nat → Nat → List Nat → List Nat
  | bm, _, [] => bm
  | bm, k, b :: bs => writeBits (bm.set k b) (k + 1) bs

@[simp] theorem length_writeBits (bm : List Nat) (k : Nat) (bits : List Nat) :
    (writeBits bm k bits).length = bm.length := by
  induction bits generalizing bm k with
  | nil => rfl
  | cons b bs ih => simp [writeBits, ih]

theorem writeBits_of_ge {bm : List Nat} {k : Nat} (h : bm.length ≤ k) (bits : List Nat) :
    writeBits bm k bits = bm := by
  induction bits generalizing k with
  | nil => rfl
  | cons b bs ih =>
    rw [writeBits, List.set_eq_of_length_le h]
    exact ih (by omega)

theorem writeBits_zeros (pre bits : List Nat) (n : Nat) (h : bits.length ≤ n) :
    writeBits (pre ++ List.replicate n 0) pre.length bits = pre ++ bits ++ List.replicate (n - bits.length) 0 := by
  induction bits generalizing pre n with
  | nil => simp [writeBits]
  | cons b bs ih =>
    cases n with
    | zero => simp at h
    | succ m =>
      have hset : (pre ++ List.replicate (m + 1) 0).set pre.length b = (pre ++ [b]) ++ List.replicate m 0 := by
        simp [List.replicate_succ]
      have := ih (pre ++ [b]) m (by simpa using h)
      rw [writeBits, hset]
      simp only [List.length_append, List.length_cons, List.length_nil] at this
      rw [this]
      simp

/-- relation between the model state (vertex, message position, array) and the environment:
the fields the loop reads, as one equation: `e` is unchanged by the update that sets them.
Rewriting with it makes every read of such a field compute; for an environment written out by `simp` it
holds by `rfl`. -/
def FastRel (a : Acc) (tbl : Option Tbl) (L : Nat) (v : Int) (ml : Nat) (bm : List Nat) (e : Gen.decode.Env) : Prop :=
  e = { e with accessor := accPV a, vertex_index := .int v, nucleotides := .str ['A', 'C', 'G', 'T'],
               shuffles := tblPV tbl, message_location := .int (ml : Int), binary_message := bitsPV bm,
               bit_length := .int (L : Int) } ∧ bm.length = L

/-- what one iteration establishes: a new related state whose array, completed by any further
writes, is the old one completed by `bits` and the same further writes. -/
def FastPost (a : Acc) (tbl : Option Tbl) (L : Nat) (bm : List Nat) (ml : Nat) (bits : List Nat) (v' : Int)
    (ml' : Nat) (e' : Gen.decode.Env) : Prop :=
  ∃ bm', FastRel a tbl L v' ml' bm' e' ∧ ∀ rest, writeBits bm' ml' rest = writeBits bm ml (bits ++ rest)

/-- the outcome of the radix dispatch `r` (model) against the outcome `x` of the code. -/
def StepOut (a : Acc) (tbl : Option Tbl) (L : Nat) (bm : List Nat) (ml : Nat) (v' : Int)
    (r : R (List Nat × Nat)) (x : R (Flow Gen.decode.Env)) : Prop :=
  match r with
  | .error err => x = .error err
  | .ok (bits, ml') => ∃ e', x = .ok (.norm e') ∧ FastPost a tbl L bm ml bits v' ml' e'

/-- `k7` (with `k6`): move to the next vertex, then the radix dispatch. -/
theorem k7_spec (fuel : Nat) {a : Acc} (ha : a.WF) {tbl : Option Tbl} (L : Nat) {v : Int} (hv : InR a v) (ml : Nat)
    (bm : List Nat) (e : Gen.decode.Env) (hr : FastRel a tbl L v ml bm e) {c : Char} {j : Nat}
    (hc : nucIdx c = some j) (radix d : Nat) (h1 : e.nucleotide = .str [c]) (h2 : e.radix = .int (radix : Int))
    (h3 : e.remainder = .int (d : Int)) :
    StepOut a tbl L bm ml (a.ent v j) (fastWrite L radix d ml) (Gen.decode.k7 fuel e) := by
  obtain ⟨he, hlen⟩ := hr
  rw [he]
  have hcast1 : ((ml : Int) + 1) = ((ml + 1 : Nat) : Int) := by push_cast; rfl
  unfold StepOut fastWrite
  simp only [Gen.decode.k7, h1, next_vertex_spec ha hv hc, bnd_ok, h2, h3,
    pyEq_def, eqb_nat_lit_four, eqb_nat_lit_two, eqb_nat_lit_one, eqb_nat_lit_three]
  by_cases h4 : radix = 4
  · simp only [h4, decide_true, if_true, pyFloorDiv_nat_two, bnd_ok]
    by_cases hge : ml ≥ L
    · simp only [hge, if_true, pySetItem_bitsPV_of_ge (show (bm.length : Int) ≤ ml by omega), bnd_error]
    · have hlt : ml < bm.length := by omega
      simp only [hge, if_false, pySetItem_bitsPV hlt, bnd_ok, npAdd_int, hcast1, pyLt_int, Int.ofNat_lt]
      by_cases h1L : ml + 1 < L
      · have hlt1 : ml + 1 < (bm.set ml (d / 2)).length := by simp; omega
        simp only [h1L, decide_true, if_true, pyMod_nat_two, bnd_ok, pySetItem_bitsPV hlt1, seq_norm]
        exact ⟨_, rfl, (bm.set ml (d / 2)).set (ml + 1) (d % 2),
          ⟨rfl, by rw [List.length_set, List.length_set]; exact hlen⟩, fun rest => rfl⟩
      · simp only [h1L, decide_false, Bool.false_eq_true, if_false, seq_norm]
        refine ⟨_, rfl, bm.set ml (d / 2), ?_, fun rest => ?_⟩
        · exact ⟨rfl, by rw [List.length_set]; exact hlen⟩
        · have hl : (bm.set ml (d / 2)).length ≤ ml + 1 := by simp; omega
          rw [List.cons_append, List.nil_append, writeBits, writeBits_of_ge hl, writeBits_of_ge (by omega)]
  · simp only [h4, decide_false, Bool.false_eq_true, if_false]
    by_cases h2r : radix = 2
    · simp only [h2r, decide_true, if_true, pyMod_nat_two, bnd_ok]
      by_cases hge : ml ≥ L
      · simp only [hge, if_true, pySetItem_bitsPV_of_ge (show (bm.length : Int) ≤ ml by omega), bnd_error]
      · have hlt : ml < bm.length := by omega
        simp only [hge, if_false, pySetItem_bitsPV hlt, bnd_ok, npAdd_int, hcast1]
        exact ⟨_, rfl, bm.set ml (d % 2), ⟨rfl, by rw [List.length_set]; exact hlen⟩, fun rest => rfl⟩
    · simp only [h2r, decide_false, Bool.false_eq_true, if_false]
      by_cases h1r : radix = 1
      · simp only [h1r, decide_true, if_true]
        exact ⟨_, rfl, bm, ⟨rfl, hlen⟩, fun rest => rfl⟩
      · simp only [h1r, decide_false, Bool.false_eq_true, if_false, ite_self]

/-- `k8`: the inverse table lookup, then `k7`. -/
theorem k8_spec (fuel : Nat) {a : Acc} (ha : a.WF) {tbl : Option Tbl} (ht : TblOK tbl a) (L : Nat) {v : Int}
    (hv : InR a v) (ml : Nat) (bm : List Nat) (e : Gen.decode.Env) (hr : FastRel a tbl L v ml bm e) {c : Char}
    {j : Nat} (hc : nucIdx c = some j) {p : Nat} (hp : p < (a.live v).length)
    (h1 : e.nucleotide = .str [c]) (h2 : e.radix = .int ((a.live v).length : Int))
    (h3 : e.remainder = .int (p : Int)) (h4 : e.used_indices = idxPV (a.live v)) :
    StepOut a tbl L bm ml (a.ent v j)
      (fastWrite L (a.live v).length (posToDigit tbl v (a.live v) p) ml) (Gen.decode.k8 fuel e) := by
  obtain ⟨he, hlen⟩ := hr
  rw [he]
  cases tbl with
  | none =>
    simp only [Gen.decode.k8, tblPV_none, pyIsNone_none, Bool.not_true, bnd_ok, Bool.false_eq_true, if_false,
      seq_norm]
    exact k7_spec fuel ha L hv ml bm _ ⟨rfl, hlen⟩ hc _ p h1 h2 h3
  | some t =>
    simp only [Gen.decode.k8, pyIsNone_tblPV, Option.isNone_some, Bool.not_false, bnd_ok, if_true, h4, h3,
      shuffles_posToDigit ht hv.1 hv.2 (fun j hj => live_lt_four a v hj) hp, seq_norm]
    exact k7_spec fuel ha L hv ml bm _ ⟨rfl, hlen⟩ hc _ _ h1 h2 rfl

theorem stepOut_lift {a : Acc} {tbl : Option Tbl} {L : Nat} {bm : List Nat} {ml : Nat} {v' : Int}
    {r : R (List Nat × Nat)} {x : R (Flow Gen.decode.Env)} (h : StepOut a tbl L bm ml v' r x) :
    match liftStep v' r with
    | .error err => x = .error err
    | .ok (bits, v'', ml') => ∃ e', x = .ok (.norm e') ∧ FastPost a tbl L bm ml bits v'' ml' e' := by
  unfold StepOut at h
  unfold liftStep
  cases r with
  | error err => exact h
  | ok r => obtain ⟨bits, ml'⟩ := r; exact h

theorem for3_body_spec (fuel : Nat) {a : Acc} (ha : a.WF) {tbl : Option Tbl} (ht : TblOK tbl a) (L : Nat) {v : Int}
    (hv : InR a v) (ml : Nat) (bm : List Nat) (e : Gen.decode.Env) (hr : FastRel a tbl L v ml bm e) (i : Nat)
    (c : Char) :
    match fastStep a tbl L v c ml with
    | .error err => Gen.decode.for3_body fuel (.tup [.int (i : Int), .str [c]]) e = .error err
    | .ok (bits, v', ml') => ∃ e', Gen.decode.for3_body fuel (.tup [.int (i : Int), .str [c]]) e = .ok (.norm e') ∧
        FastPost a tbl L bm ml bits v' ml' e' := by
  obtain ⟨he, hlen⟩ := hr
  rw [he]
  have hu4 : ∀ j ∈ a.live v, j < 4 := fun j hj => live_lt_four a v hj
  unfold fastStep
  cases hp : livePos a v c with
  | none =>
    simp only [Gen.decode.for3_body, pyUnpack_two_tup, bnd_ok, getD_cons_zero', getD_cons_one',
      used_spec ha hv, pyLen_idxPV, pyMap_nucs hu4, pyIn_nucs, hp, Option.isSome_none, Bool.false_eq_true,
      if_false, seq_error]
  | some p =>
    obtain ⟨j, hc, hj, _, hlt⟩ := livePos_some hp
    simp only [Gen.decode.for3_body, pyUnpack_two_tup, bnd_ok, getD_cons_zero', getD_cons_one',
      used_spec ha hv, pyLen_idxPV, pyMap_nucs hu4, pyIn_nucs, hp, Option.isSome_some, if_true,
      pyIndexOf_nucs hp, seq_norm, hc, Option.getD_some]
    exact stepOut_lift (k8_spec fuel ha ht L hv ml bm _ ⟨rfl, hlen⟩ hc hlt rfl rfl rfl rfl)

theorem for3_loop (fuel : Nat) {a : Acc} (ha : a.WF) {tbl : Option Tbl} (ht : TblOK tbl a) (L : Nat) :
    ∀ (s : List Char) (n : Nat) (v : Int), InR a v → ∀ (ml : Nat) (bm : List Nat) (e : Gen.decode.Env),
      FastRel a tbl L v ml bm e →
      match decodeFastLoop a tbl L v s ml with
      | .error err =>
        forLoop (Gen.decode.for3_body fuel) (enumFrom n (s.map fun c => PV.str [c])) e = .error err
      | .ok bits => ∃ e', forLoop (Gen.decode.for3_body fuel) (enumFrom n (s.map fun c => PV.str [c])) e =
          .ok (.norm e') ∧ e'.binary_message = bitsPV (writeBits bm ml bits) := by
  intro s
  induction s with
  | nil =>
    intro n v _ ml bm e hr
    rw [decodeFastLoop]
    exact ⟨e, rfl, by rw [hr.1]; rfl⟩
  | cons c s ih =>
    intro n v hv ml bm e hr
    rw [decodeFastLoop_cons]
    have hb := for3_body_spec fuel ha ht L hv ml bm e hr n c
    cases hs : fastStep a tbl L v c ml with
    | error err =>
      rw [hs] at hb
      exact forLoop_cons_error hb _
    | ok r =>
      obtain ⟨b, v', ml'⟩ := r
      rw [hs] at hb
      obtain ⟨e1, hb1, bm1, hr1, hw⟩ := hb
      have hv' := (fastStep_ok ha hv hs).1
      have := ih (n + 1) v' hv' ml' bm1 e1 hr1
      simp only [List.map_cons, enumFrom_cons, forLoop_cons_norm hb1]
      cases hd : decodeFastLoop a tbl L v' s ml' with
      | error err => rw [hd] at this; exact this
      | ok rest =>
        rw [hd] at this
        obtain ⟨e2, hl, hbm2⟩ := this
        exact ⟨e2, hl, by rw [hbm2, hw]⟩

end Dsw.Tie.DecodeTie
