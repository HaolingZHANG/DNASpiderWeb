import DswModel.Tie.SwEncode
import DswModel.Tie.SwDecode
import DswModel.Tie.Corollaries
import DswModel.Props.C01
import DswModel.Props.C03
import DswModel.Props.C05
import DswModel.Props.C06
import DswModel.Props.C07
import DswModel.Lemmas.Tight
/-!
# C01, C05, C06 and C07 stated about the generated definitions of `dsw/spiderweb.py`

`DswModel/Props/C01.lean`, `C05.lean`, `C06.lean` and `C07.lean` prove the properties about the
hand-written model (`Dsw.encode`, `Dsw.decode`, `Dsw.setVt`); `Tie/SwVt.lean`, `Tie/SwEncode.lean` and
`Tie/SwDecode.lean` prove that the definitions generated from the Python source (`Gen.set_vt`,
`Gen.encode`, `Gen.decode`) compute the model functions on the ties' contract.  Here the two are
composed: every theorem below speaks about `Gen.*`, i.e. about what the Python source computes as
translated.

The embeddings of the arguments and results (`cstr`, `accPV`, `tblPV`, `bitsPV`, `chkPV`, `encResultPV`)
are those of `Tie/SpiderwebDefs.lean`.

The contract of the ties, hence of every theorem here: the accessor is well formed (`Acc.WF`: four
entries per row, each `-1` or a row index), the start vertex is a row index (`v : Nat`, `v < a.size`),
the table (if any) can be indexed wherever the accessor is (`TblOK`), the message consists of `0`/`1`
(`IsBits`), `need_path = False`, and a supplied check is not the empty string.  Every generated
function takes a `fuel : Nat` bounding its `while` loops; each theorem gives an explicit bound that
suffices.  The model-level theorems quantify over arbitrary accessors and start vertices `v : Int`;
they are specialised to this contract.

Not transported (outside the ties' contract):
* `need_path = True` (the path record of `encode`) — `tie_encode` fixes `need_path = False`;
* `vt_check = ""` (`chk = some []`) in `decode` — `tie_decode` needs a non-empty check, so C06 and
  `C07_decode_rejects` are stated for `chk = none` or a non-empty check;
* `set_vt(dna, 0)` — `tie_set_vt` needs `1 ≤ n` (so `gen_C07_foreign` has `1 ≤ n`, which `C07_foreign`
  does not need);
* accessors that are not well formed, start vertices that are negative or not row indices, tables
  with short rows.
-/
namespace Dsw.Tie
open Dsw Dsw.Py

namespace SwCor

theorem tblOK_none (a : Acc) : TblOK none a := fun _ h => by cases h

theorem map_ok_inv {α β} {x : R α} {f : α → β} {y : β} (h : x.map f = .ok y) :
    ∃ x', x = .ok x' ∧ y = f x' := by
  obtain ⟨x', h1, h2⟩ := R.map_ok h
  exact ⟨x', h1, h2.symm⟩

theorem cstr_inj {c c' : List Char} (h : cstr c = cstr c') : c = c' := PV.str.inj h

theorem encResultPV_inj : ∀ {r r' : List Char × Option (List Char)}, encResultPV r = encResultPV r' → r = r'
  | (_, none), (_, none), h => by cases h; rfl
  | (_, some _), (_, some _), h => by cases h; rfl
  | (_, none), (_, some _), h => by cases h
  | (_, some _), (_, none), h => by cases h

theorem gen_set_vt {s : List Char} {n fuel : Nat} (hn : 1 ≤ n) (hf : 2 * n + 2 ≤ fuel) {x : R (List Char)}
    (h : setVt s n = x) : Gen.set_vt fuel (cstr s) (.int (n : Int)) = x.map cstr :=
  h ▸ tie_set_vt s n fuel hn hf

theorem setVt_of_gen {s c : List Char} {n fuel : Nat} (hn : 1 ≤ n) (hf : 2 * n + 2 ≤ fuel)
    (h : Gen.set_vt fuel (cstr s) (.int (n : Int)) = .ok (cstr c)) : setVt s n = .ok c := by
  rw [tie_set_vt s n fuel hn hf] at h
  obtain ⟨c0, h1, h2⟩ := map_ok_inv h
  rw [h1, cstr_inj h2]

section
variable {a : Acc} {tbl : Option Tbl} {v : Nat} (ha : a.WF) (hv : v < a.size) (ht : TblOK tbl a)
include ha hv ht

theorem gen_encode {m : List Nat} {fast : Bool} {n fuel : Nat} (vb : Bool) (hm : IsBits m)
    (hf : 2 * n + 3 ≤ fuel) {x : R (List Char × Option (List Char))}
    (h : encode a tbl (v : Int) m fast n fuel = x) :
    Gen.encode fuel (bitsPV m) (accPV a) (.int (v : Int)) (.bool fast) (.int (n : Int)) (tblPV tbl)
      (.bool false) (.bool vb) = x.map encResultPV :=
  h ▸ tie_encode a tbl v m fast n fuel vb ha hv ht (isBits_le_one hm) hf

theorem gen_encode_ok {m : List Nat} {fast : Bool} {n fuel : Nat} {vb : Bool} {r : PV} (hm : IsBits m)
    (hf : 2 * n + 3 ≤ fuel)
    (h : Gen.encode fuel (bitsPV m) (accPV a) (.int (v : Int)) (.bool fast) (.int (n : Int)) (tblPV tbl)
      (.bool false) (.bool vb) = .ok r) :
    ∃ s c, r = encResultPV (s, c) ∧ encode a tbl (v : Int) m fast n fuel = .ok (s, c) := by
  rw [gen_encode ha hv ht vb hm hf rfl] at h
  obtain ⟨⟨s, c⟩, he, hr⟩ := map_ok_inv h
  exact ⟨s, c, hr, he⟩

theorem gen_decode {s : List Char} {L : Nat} {fast : Bool} {chk : Option (List Char)} {fuel : Nat} (vb : Bool)
    (hc : ∀ c, chk = some c → c ≠ []) (hf : 4 * s.length + 2 * (chk.map List.length).getD 0 + 10 ≤ fuel)
    {x : R (List Nat)} (h : Dsw.decode a tbl (v : Int) s L fast chk = x) :
    Gen.decode fuel (cstr s) (.int (L : Int)) (accPV a) (.int (v : Int)) (.bool fast) (chkPV chk) (tblPV tbl)
      (.bool vb) = x.map bitsPV :=
  h ▸ tie_decode a tbl v s L fast chk fuel vb ha hv ht hc hf
end

theorem isAcgt_of_setVt {s c : List Char} {n : Nat} (h : setVt s n = .ok c) : IsAcgt s := by
  apply Classical.byContradiction
  intro hs
  rw [setVt_err n hs] at h
  cases h

theorem encode_ok_check {a : Acc} {tbl : Option Tbl} {v : Int} {bits : List Nat} {fast : Bool}
    {n fuel : Nat} {s : List Char} {c : Option (List Char)}
    (h : encode a tbl v bits fast n fuel = .ok (s, c)) :
    (n = 0 ∧ c = none) ∨ (0 < n ∧ ∃ c', c = some c' ∧ setVt s n = .ok c') := by
  have key : ∀ x : R (List Char),
      (do let s ← x
          if n > 0 then
            let c ← setVt s n
            pure (s, some c)
          else pure (s, none) : R (List Char × Option (List Char))) = .ok (s, c) →
      (n = 0 ∧ c = none) ∨ (0 < n ∧ ∃ c', c = some c' ∧ setVt s n = .ok c') := by
    intro x h
    cases x with
    | error e => cases h
    | ok s0 =>
      simp only [bind, Except.bind, pure, Except.pure] at h
      by_cases hv : n > 0
      · rw [if_pos hv] at h
        cases hc : setVt s0 n with
        | error e => rw [hc] at h; cases h
        | ok c0 =>
          rw [hc] at h
          simp only [Except.ok.injEq, Prod.mk.injEq] at h
          obtain ⟨rfl, rfl⟩ := h
          exact .inr ⟨hv, c0, rfl, hc⟩
      · rw [if_neg hv] at h
        simp only [Except.ok.injEq, Prod.mk.injEq] at h
        obtain ⟨rfl, rfl⟩ := h
        exact .inl ⟨by omega, rfl⟩
  cases fast with
  | false => exact key (encodeNormalLoop a tbl fuel v (bitToNumberStr bits)) h
  | true => exact key (encodeFastLoop a tbl fuel v bits) h

/-- every emitted nucleotide costs one unit of fuel. -/
theorem encode_length {a : Acc} {tbl : Option Tbl} {v : Int} {bits : List Nat} {fast : Bool}
    {n fuel : Nat} {s : List Char} {c : Option (List Char)} (hb : IsBits bits)
    (h : encode a tbl v bits fast n fuel = .ok (s, c)) : s.length + 1 ≤ fuel := by
  cases fast with
  | false => exact encodeLoop_length fuel v _ s (encode_normal_ok hb h).1
  | true => exact encodeLoop_length fuel v bits s ((encodeFastLoop_eq a tbl fuel v bits).symm.trans (encode_ok_inv h).1)

theorem encode_normal_mono {a : Acc} {tbl : Option Tbl} {v : Int} {bits : List Nat} {n fuel : Nat}
    {r : List Char × Option (List Char)} (hb : IsBits bits)
    (h : encode a tbl v bits false n fuel = .ok r) (d : Nat) :
    encode a tbl v bits false n (fuel + d) = .ok r := by
  rw [encode_normal_eq a tbl v bits n _ hb] at h ⊢
  cases he : encodeNat a tbl fuel v (bitToNumberInt bits) with
  | error e => rw [he] at h; cases h
  | ok s =>
    rw [he] at h
    rw [show encodeNat a tbl (fuel + d) v _ = .ok s from encodeLoop_mono fuel v _ s he d]
    exact h

theorem encode_total_fast (a : Acc) (tbl : Option Tbl) (v : Int) (bits : List Nat) (n fuel : Nat)
    (hb : IsBits bits) (hg : a.GoodFrom v) (h3 : a.NoDeg3From v) (hf : encodeFuel a bits ≤ fuel) :
    ∃ s c, encode a tbl v bits true n fuel = .ok (s, c) := by
  obtain ⟨s, hs⟩ := encodeFastLoop_total a tbl bits.length bits v fuel (Nat.le_refl _) hb hg h3 hf
  have hw := (encodeFastLoop_spec a tbl _ v bits s hb hs).1
  unfold encode
  simp only [if_true, hs, bind, Except.bind, pure, Except.pure]
  by_cases hv : n > 0
  · rw [if_pos hv, setVt_ok n (isAcgt_of_isWalk s v hw)]
    exact ⟨_, _, rfl⟩
  · rw [if_neg hv]
    exact ⟨_, _, rfl⟩

theorem check_length {s : List Char} {c : Option (List Char)} {n : Nat}
    (h : (n = 0 ∧ c = none) ∨ (0 < n ∧ ∃ c', c = some c' ∧ setVt s n = .ok c')) :
    (c.map List.length).getD 0 = n ∧ ∀ c', c = some c' → c'.length = n ∧ c' ≠ [] := by
  rcases h with ⟨h0, rfl⟩ | ⟨hn, c', rfl, hc⟩
  · exact ⟨h0.symm, fun _ h => by cases h⟩
  · have hl := setVt_length hn hc
    refine ⟨hl, fun c'' h => ?_⟩
    cases h
    refine ⟨hl, fun h => ?_⟩
    rw [h] at hl
    simp at hl
    omega

/-- the round trip behind C01: an `.ok` result of the model `encode` is decoded by the generated
`decode` to the message. -/
theorem decode_of_encode {a : Acc} {tbl : Option Tbl} {v : Nat} {m : List Nat} {fast : Bool} {n fuel : Nat}
    {s : List Char} {c : Option (List Char)}
    (ha : a.WF) (hv : v < a.size) (ht : TblOK tbl a) (hm : IsBits m)
    (he : encode a tbl (v : Int) m fast n fuel = .ok (s, c)) (fuel' : Nat) (vb' : Bool)
    (hf' : 4 * s.length + 2 * n + 10 ≤ fuel') :
    Gen.decode fuel' (cstr s) (.int (m.length : Int)) (accPV a) (.int (v : Int)) (.bool fast) (chkPV c)
      (tblPV tbl) (.bool vb') = .ok (bitsPV m) := by
  obtain ⟨hlen, hne⟩ := check_length (encode_ok_check he)
  have hdec : Dsw.decode a tbl (v : Int) s m.length fast c = .ok m := by
    cases fast with
    | false => exact C01_normal a tbl v m n fuel s c hm he
    | true => exact C01_fast a tbl v m n fuel s c hm he
  exact gen_decode ha hv ht vb' (fun c' hc => (hne c' hc).2) (by rw [hlen]; exact hf') hdec

theorem toBool_map {α β} (x : R α) (f : α → β) : (x.map f).toBool = x.toBool := by
  cases x <;> rfl

theorem ok_iff_of_dichotomy {α β} {x : R β} {P : Prop} {Q : α → Prop} {f : α → β} {e : PyErr}
    (h : (P → ∃ b, x = .ok (f b) ∧ Q b) ∧ (¬ P → x = .error e)) : (∃ y, x = .ok y) ↔ P := by
  constructor
  · intro ⟨y, hy⟩
    apply Classical.byContradiction
    intro hn
    rw [h.2 hn] at hy
    cases hy
  · intro hp
    obtain ⟨b, hb, _⟩ := h.1 hp
    exact ⟨_, hb⟩

/-! ### the concrete input of the examples

The GC-balanced order-2 accessor of the docstrings (`gcBalanced2`), start vertex 1 (`AC`), no table,
the message `01010101`; `vt_length = 5`.  The `example`s beside the theorems instantiate every
hypothesis on it (so no theorem is vacuous); where a hypothesis is "the generated `encode` returned
`r`", it is discharged by `gc_encode_normal` / `gc_encode_fast` (the tie plus kernel evaluation of the
model; the generated code itself is not evaluated). -/

theorem gc_wf : gcBalanced2.WF := by unfold Acc.WF; decide +kernel
theorem gc_lt : (1 : Nat) < gcBalanced2.size := by decide +kernel
theorem gc_good : gcBalanced2.GoodFrom ((1 : Nat) : Int) :=
  C03_goodFrom 2 2 _ (by decide) (by decide) (by decide) _ _
    connectCodingGraph_gcBalanced2 1 (by decide)

theorem noDeg3From_of_goodFrom {a : Acc} {v : Int} (hg : a.GoodFrom v)
    (h : ∀ u : Nat, u < a.size → a.outDeg (u : Int) ≠ 3) : a.NoDeg3From v := by
  intro u hu
  obtain ⟨⟨h0, h1⟩, _⟩ := hg u hu
  obtain ⟨k, rfl⟩ := Int.eq_ofNat_of_zero_le h0
  exact h k (by exact_mod_cast h1)

theorem gc_noDeg3 : gcBalanced2.NoDeg3From ((1 : Nat) : Int) :=
  noDeg3From_of_goodFrom gc_good (by decide +kernel)
theorem gc_distinct : AllDistinct gcBalanced2 none := fun v => distinctKeys_none _ v
theorem msg_bits : IsBits [0, 1, 0, 1, 0, 1, 0, 1] := by unfold IsBits; decide
theorem gc7_acgt : IsAcgt "TCTCTCT".toList := by unfold IsAcgt; decide +kernel
theorem gc7_walk : isWalk gcBalanced2 ((1 : Nat) : Int) "TCTCTCT".toList = true := by decide +kernel
theorem gc7_walk_fast : isWalk gcBalanced2 ((1 : Nat) : Int) "AGAGAGAG".toList = true := by decide +kernel

/-- a shuffle table for the table-independence example: every row is the permutation `3 1 0 2`. -/
def gcTable : Tbl := Array.replicate 16 #[3, 1, 0, 2]
theorem gcTable_ok : TblOK (some gcTable) gcBalanced2 := by
  intro t h
  cases h
  exact ⟨by decide +kernel, by decide +kernel⟩

/-- `encode([0,1,0,1,0,1,0,1], accessor, 1, vt_length=5)` of the generated code returns
`("TCTCTCT", "TAAGC")`. -/
theorem gc_encode_normal :
    Gen.encode 200 (bitsPV [0, 1, 0, 1, 0, 1, 0, 1]) (accPV gcBalanced2) (.int 1) (.bool false) (.int 5)
      PV.none (.bool false) (.bool false) = .ok (.tup [.str "TCTCTCT".toList, .str "TAAGC".toList]) :=
  (tie_encode gcBalanced2 none 1 _ false 5 200 false gc_wf gc_lt (tblOK_none _) (isBits_le_one msg_bits)
    (by decide)).trans
    (by rw [show encode gcBalanced2 none ((1 : Nat) : Int) [0, 1, 0, 1, 0, 1, 0, 1] false 5 200 =
          .ok ("TCTCTCT".toList, some "TAAGC".toList) by decide +kernel]; rfl)

/-- … without a check it returns `"TCTCTCT"`. -/
theorem gc_encode_normal0 :
    Gen.encode 200 (bitsPV [0, 1, 0, 1, 0, 1, 0, 1]) (accPV gcBalanced2) (.int 1) (.bool false) (.int 0)
      PV.none (.bool false) (.bool false) = .ok (.str "TCTCTCT".toList) :=
  (tie_encode gcBalanced2 none 1 _ false 0 200 false gc_wf gc_lt (tblOK_none _) (isBits_le_one msg_bits)
    (by decide)).trans
    (by rw [show encode gcBalanced2 none ((1 : Nat) : Int) [0, 1, 0, 1, 0, 1, 0, 1] false 0 200 =
          .ok ("TCTCTCT".toList, none) by decide +kernel]; rfl)

/-- … and with `is_faster=True` it returns `("AGAGAGAG", "AAATA")`. -/
theorem gc_encode_fast :
    Gen.encode 200 (bitsPV [0, 1, 0, 1, 0, 1, 0, 1]) (accPV gcBalanced2) (.int 1) (.bool true) (.int 5)
      PV.none (.bool false) (.bool false) = .ok (.tup [.str "AGAGAGAG".toList, .str "AAATA".toList]) :=
  (tie_encode gcBalanced2 none 1 _ true 5 200 false gc_wf gc_lt (tblOK_none _) (isBits_le_one msg_bits)
    (by decide)).trans
    (by rw [show encode gcBalanced2 none ((1 : Nat) : Int) [0, 1, 0, 1, 0, 1, 0, 1] true 5 200 =
          .ok ("AGAGAGAG".toList, some "AAATA".toList) by decide +kernel]; rfl)

theorem gc_set_vt : Gen.set_vt 12 (cstr "TCTCTCT".toList) (.int 5) = .ok (cstr "TAAGC".toList) :=
  (tie_set_vt _ 5 12 (by decide) (by decide)).trans
    (by rw [show setVt "TCTCTCT".toList 5 = .ok "TAAGC".toList by decide +kernel]; rfl)
theorem gc_set_vt' : Gen.set_vt 12 (cstr "TCTCTAT".toList) (.int 5) = .ok (cstr "GAAGC".toList) :=
  (tie_set_vt _ 5 12 (by decide) (by decide)).trans
    (by rw [show setVt "TCTCTAT".toList 5 = .ok "GAAGC".toList by decide +kernel]; rfl)

end SwCor

open SwCor

/-- both modes at once: whenever the generated `encode` returns `r`, `r` is the strand `s` (with the
check `c` iff `vt_length > 0`), the strand has fewer symbols than the encoder had fuel, and the
generated `decode` — same graph, start, table and mode, `bit_length = len(message)`, the returned
check — returns the message, for every fuel from `4·len(s) + 2·vt_length + 10` on and either
`verbose`. -/
theorem gen_C01_roundtrip (a : Acc) (tbl : Option Tbl) (v : Nat) (m : List Nat) (fast : Bool)
    (n fuel : Nat) (vb : Bool) (r : PV)
    (ha : a.WF) (hv : v < a.size) (ht : TblOK tbl a) (hm : IsBits m) (hf : 2 * n + 3 ≤ fuel)
    (h : Gen.encode fuel (bitsPV m) (accPV a) (.int (v : Int)) (.bool fast) (.int (n : Int)) (tblPV tbl)
      (.bool false) (.bool vb) = .ok r) :
    ∃ (s : List Char) (c : Option (List Char)), r = encResultPV (s, c) ∧ s.length + 1 ≤ fuel ∧
      (n = 0 → c = none) ∧ (0 < n → ∃ c', c = some c' ∧ c'.length = n) ∧
      ∀ (fuel' : Nat) (vb' : Bool), 4 * s.length + 2 * n + 10 ≤ fuel' →
        Gen.decode fuel' (cstr s) (.int (m.length : Int)) (accPV a) (.int (v : Int)) (.bool fast) (chkPV c)
          (tblPV tbl) (.bool vb') = .ok (bitsPV m) := by
  obtain ⟨s, c, hr, he⟩ := gen_encode_ok ha hv ht hm hf h
  have hck := encode_ok_check he
  obtain ⟨hlen, hne⟩ := check_length hck
  refine ⟨s, c, hr, encode_length hm he, ?_, ?_, decode_of_encode ha hv ht hm he⟩
  · intro h0
    rcases hck with ⟨_, hc⟩ | ⟨hn, _⟩
    · exact hc
    · omega
  · intro hn
    rcases hck with ⟨h0, _⟩ | ⟨_, c', hc, _⟩
    · omega
    · exact ⟨c', hc, (hne c' hc).1⟩

example (r : PV) (h : Gen.encode 200 (bitsPV [0, 1, 0, 1, 0, 1, 0, 1]) (accPV gcBalanced2) (.int 1) (.bool true)
      (.int 5) PV.none (.bool false) (.bool true) = .ok r) :
    ∃ (s : List Char) (c : Option (List Char)), r = encResultPV (s, c) ∧ s.length + 1 ≤ 200 ∧
      (5 = 0 → c = none) ∧ (0 < 5 → ∃ c', c = some c' ∧ c'.length = 5) ∧
      ∀ (fuel' : Nat) (vb' : Bool), 4 * s.length + 2 * 5 + 10 ≤ fuel' →
        Gen.decode fuel' (cstr s) (.int 8) (accPV gcBalanced2) (.int 1) (.bool true) (chkPV c) PV.none
          (.bool vb') = .ok (bitsPV [0, 1, 0, 1, 0, 1, 0, 1]) :=
  gen_C01_roundtrip gcBalanced2 none 1 [0, 1, 0, 1, 0, 1, 0, 1] true 5 200 true r gc_wf gc_lt (tblOK_none _)
    msg_bits (by decide +kernel) h

/-- arbitrary-precision mode (`is_faster=False`), any mixture of out-degrees, any table, with or
without check — `C01_normal` about the generated code. -/
theorem gen_C01_normal (a : Acc) (tbl : Option Tbl) (v : Nat) (m : List Nat) (n fuel : Nat) (vb : Bool)
    (r : PV) (ha : a.WF) (hv : v < a.size) (ht : TblOK tbl a) (hm : IsBits m) (hf : 2 * n + 3 ≤ fuel)
    (h : Gen.encode fuel (bitsPV m) (accPV a) (.int (v : Int)) (.bool false) (.int (n : Int)) (tblPV tbl)
      (.bool false) (.bool vb) = .ok r) :
    ∃ (s : List Char) (c : Option (List Char)), r = encResultPV (s, c) ∧ s.length + 1 ≤ fuel ∧
      (n = 0 → c = none) ∧ (0 < n → ∃ c', c = some c' ∧ c'.length = n) ∧
      ∀ (fuel' : Nat) (vb' : Bool), 4 * s.length + 2 * n + 10 ≤ fuel' →
        Gen.decode fuel' (cstr s) (.int (m.length : Int)) (accPV a) (.int (v : Int)) (.bool false) (chkPV c)
          (tblPV tbl) (.bool vb') = .ok (bitsPV m) :=
  gen_C01_roundtrip a tbl v m false n fuel vb r ha hv ht hm hf h

/-- the docstring round trip, through the generated code: `decode("TCTCTCT", 8, …, vt_check="TAAGC")`. -/
example : Gen.decode 48 (.str "TCTCTCT".toList) (.int 8) (accPV gcBalanced2) (.int 1) (.bool false)
    (.str "TAAGC".toList) PV.none (.bool true) = .ok (bitsPV [0, 1, 0, 1, 0, 1, 0, 1]) := by
  obtain ⟨s, c, hr, _, _, _, hd⟩ := gen_C01_normal gcBalanced2 none 1 _ 5 200 false _ gc_wf gc_lt (tblOK_none _)
    msg_bits (by decide +kernel) gc_encode_normal
  cases encResultPV_inj (r := ("TCTCTCT".toList, some "TAAGC".toList)) hr
  exact hd 48 true (by decide +kernel)

/-- fast mode (`is_faster=True`; an `.ok` result of `encode` already implies that no out-degree-3
vertex was met), including odd message lengths — `C01_fast` about the generated code. -/
theorem gen_C01_fast (a : Acc) (tbl : Option Tbl) (v : Nat) (m : List Nat) (n fuel : Nat) (vb : Bool)
    (r : PV) (ha : a.WF) (hv : v < a.size) (ht : TblOK tbl a) (hm : IsBits m) (hf : 2 * n + 3 ≤ fuel)
    (h : Gen.encode fuel (bitsPV m) (accPV a) (.int (v : Int)) (.bool true) (.int (n : Int)) (tblPV tbl)
      (.bool false) (.bool vb) = .ok r) :
    ∃ (s : List Char) (c : Option (List Char)), r = encResultPV (s, c) ∧ s.length + 1 ≤ fuel ∧
      (n = 0 → c = none) ∧ (0 < n → ∃ c', c = some c' ∧ c'.length = n) ∧
      ∀ (fuel' : Nat) (vb' : Bool), 4 * s.length + 2 * n + 10 ≤ fuel' →
        Gen.decode fuel' (cstr s) (.int (m.length : Int)) (accPV a) (.int (v : Int)) (.bool true) (chkPV c)
          (tblPV tbl) (.bool vb') = .ok (bitsPV m) :=
  gen_C01_roundtrip a tbl v m true n fuel vb r ha hv ht hm hf h

example : Gen.decode 52 (.str "AGAGAGAG".toList) (.int 8) (accPV gcBalanced2) (.int 1) (.bool true)
    (.str "AAATA".toList) PV.none (.bool false) = .ok (bitsPV [0, 1, 0, 1, 0, 1, 0, 1]) := by
  obtain ⟨s, c, hr, _, _, _, hd⟩ := gen_C01_fast gcBalanced2 none 1 _ 5 200 false _ gc_wf gc_lt (tblOK_none _)
    msg_bits (by decide +kernel) gc_encode_fast
  cases encResultPV_inj (r := ("AGAGAGAG".toList, some "AAATA".toList)) hr
  exact hd 52 false (by decide +kernel)

/-- the case `vt_length = 0` spelled out, either mode: `encode` returns a `str`, and `decode` of it
with `vt_check=None` returns the message; the decoder's fuel bound is in terms of the encoder's. -/
theorem gen_C01_nocheck (a : Acc) (tbl : Option Tbl) (v : Nat) (m : List Nat) (fast : Bool)
    (fuel fuel' : Nat) (vb vb' : Bool) (r : PV)
    (ha : a.WF) (hv : v < a.size) (ht : TblOK tbl a) (hm : IsBits m) (hf : 3 ≤ fuel)
    (hf' : 4 * fuel + 6 ≤ fuel')
    (h : Gen.encode fuel (bitsPV m) (accPV a) (.int (v : Int)) (.bool fast) (.int 0) (tblPV tbl)
      (.bool false) (.bool vb) = .ok r) :
    ∃ s : List Char, r = .str s ∧
      Gen.decode fuel' (.str s) (.int (m.length : Int)) (accPV a) (.int (v : Int)) (.bool fast) PV.none
        (tblPV tbl) (.bool vb') = .ok (bitsPV m) := by
  obtain ⟨s, c, hr, hl, h0, _, hd⟩ := gen_C01_roundtrip a tbl v m fast 0 fuel vb r ha hv ht hm (by omega) h
  have hc := h0 rfl
  subst hc
  exact ⟨s, hr, hd fuel' vb' (by omega)⟩

example : Gen.decode 806 (.str "TCTCTCT".toList) (.int 8) (accPV gcBalanced2) (.int 1) (.bool false) PV.none
    PV.none (.bool false) = .ok (bitsPV [0, 1, 0, 1, 0, 1, 0, 1]) := by
  obtain ⟨s, hr, hd⟩ := gen_C01_nocheck gcBalanced2 none 1 _ false 200 806 false false _ gc_wf gc_lt
    (tblOK_none _) msg_bits (by decide +kernel) (by decide +kernel) gc_encode_normal0
  cases hr
  exact hd

/-- the case `vt_length > 0` spelled out, either mode: `encode` returns the pair `(strand, check)`,
the check has `vt_length` symbols, and `decode` of the strand with that check returns the message. -/
theorem gen_C01_check (a : Acc) (tbl : Option Tbl) (v : Nat) (m : List Nat) (fast : Bool)
    (n fuel fuel' : Nat) (vb vb' : Bool) (r : PV)
    (ha : a.WF) (hv : v < a.size) (ht : TblOK tbl a) (hm : IsBits m) (hn : 0 < n) (hf : 2 * n + 3 ≤ fuel)
    (hf' : 4 * fuel + 2 * n + 6 ≤ fuel')
    (h : Gen.encode fuel (bitsPV m) (accPV a) (.int (v : Int)) (.bool fast) (.int (n : Int)) (tblPV tbl)
      (.bool false) (.bool vb) = .ok r) :
    ∃ s c : List Char, r = .tup [.str s, .str c] ∧ c.length = n ∧
      Gen.decode fuel' (.str s) (.int (m.length : Int)) (accPV a) (.int (v : Int)) (.bool fast) (.str c)
        (tblPV tbl) (.bool vb') = .ok (bitsPV m) := by
  obtain ⟨s, c, hr, hl, _, h1, hd⟩ := gen_C01_roundtrip a tbl v m fast n fuel vb r ha hv ht hm hf h
  obtain ⟨c', hc, hcl⟩ := h1 hn
  subst hc
  exact ⟨s, c', hr, hcl, hd fuel' vb' (by omega)⟩

example : Gen.decode 816 (.str "AGAGAGAG".toList) (.int 8) (accPV gcBalanced2) (.int 1) (.bool true)
    (.str "AAATA".toList) PV.none (.bool true) = .ok (bitsPV [0, 1, 0, 1, 0, 1, 0, 1]) := by
  obtain ⟨s, c, hr, _, hd⟩ := gen_C01_check gcBalanced2 none 1 _ true 5 200 816 false true _ gc_wf gc_lt
    (tblOK_none _) msg_bits (by decide +kernel) (by decide +kernel) (by decide +kernel) gc_encode_fast
  cases hr
  exact hd

/-- on a graph in which every vertex reachable from the start has an arc and can reach a branching
vertex, the generated `encode` returns in normal mode, for every fuel from `L·|V| + 1` (and
`2·vt_length + 3`) on — `C01_total_normal` about the generated code. -/
theorem gen_C01_total_normal (a : Acc) (tbl : Option Tbl) (v : Nat) (m : List Nat) (n fuel : Nat)
    (vb : Bool) (ha : a.WF) (hv : v < a.size) (ht : TblOK tbl a) (hm : IsBits m)
    (hg : a.GoodFrom (v : Int)) (hf : 2 * n + 3 ≤ fuel) (hfe : encodeFuel a m ≤ fuel) :
    ∃ (s : List Char) (c : Option (List Char)),
      Gen.encode fuel (bitsPV m) (accPV a) (.int (v : Int)) (.bool false) (.int (n : Int)) (tblPV tbl)
        (.bool false) (.bool vb) = .ok (encResultPV (s, c)) := by
  obtain ⟨s, c, h⟩ := C01_total_normal a tbl v m n hm hg
  have h' := encode_normal_mono hm h (fuel - encodeFuel a m)
  rw [Nat.add_sub_cancel' hfe] at h'
  exact ⟨s, c, gen_encode ha hv ht vb hm hf h'⟩

/-- `encodeFuel gcBalanced2 m = 8 · 16 + 1 = 129`. -/
example : ∃ (s : List Char) (c : Option (List Char)),
    Gen.encode 129 (bitsPV [0, 1, 0, 1, 0, 1, 0, 1]) (accPV gcBalanced2) (.int 1) (.bool false) (.int 5) PV.none
      (.bool false) (.bool false) = .ok (encResultPV (s, c)) :=
  gen_C01_total_normal gcBalanced2 none 1 _ 5 129 false gc_wf gc_lt (tblOK_none _) msg_bits gc_good
    (by decide +kernel) (by decide +kernel)

/-- same in fast mode on graphs without out-degree 3 — `C01_total_fast` about the generated code. -/
theorem gen_C01_total_fast (a : Acc) (tbl : Option Tbl) (v : Nat) (m : List Nat) (n fuel : Nat)
    (vb : Bool) (ha : a.WF) (hv : v < a.size) (ht : TblOK tbl a) (hm : IsBits m)
    (hg : a.GoodFrom (v : Int)) (h3 : a.NoDeg3From (v : Int)) (hf : 2 * n + 3 ≤ fuel)
    (hfe : encodeFuel a m ≤ fuel) :
    ∃ (s : List Char) (c : Option (List Char)),
      Gen.encode fuel (bitsPV m) (accPV a) (.int (v : Int)) (.bool true) (.int (n : Int)) (tblPV tbl)
        (.bool false) (.bool vb) = .ok (encResultPV (s, c)) := by
  obtain ⟨s, c, h⟩ := encode_total_fast a tbl v m n fuel hm hg h3 hfe
  exact ⟨s, c, gen_encode ha hv ht vb hm hf h⟩

example : ∃ (s : List Char) (c : Option (List Char)),
    Gen.encode 129 (bitsPV [0, 1, 0, 1, 0, 1, 0, 1]) (accPV gcBalanced2) (.int 1) (.bool true) (.int 5) PV.none
      (.bool false) (.bool false) = .ok (encResultPV (s, c)) :=
  gen_C01_total_fast gcBalanced2 none 1 _ 5 129 false gc_wf gc_lt (tblOK_none _) msg_bits gc_good gc_noDeg3
    (by decide +kernel) (by decide +kernel)

/-- totality and round trip together: on such a graph `decode(encode(m)) = m` for the generated code,
with fuels that depend on the inputs only. -/
theorem gen_C01_total_roundtrip (a : Acc) (tbl : Option Tbl) (v : Nat) (m : List Nat) (fast : Bool)
    (n fuel fuel' : Nat) (vb vb' : Bool) (ha : a.WF) (hv : v < a.size) (ht : TblOK tbl a) (hm : IsBits m)
    (hg : a.GoodFrom (v : Int)) (h3 : fast = true → a.NoDeg3From (v : Int)) (hf : 2 * n + 3 ≤ fuel)
    (hfe : encodeFuel a m ≤ fuel) (hf' : 4 * fuel + 2 * n + 6 ≤ fuel') :
    ∃ (s : List Char) (c : Option (List Char)),
      Gen.encode fuel (bitsPV m) (accPV a) (.int (v : Int)) (.bool fast) (.int (n : Int)) (tblPV tbl)
        (.bool false) (.bool vb) = .ok (encResultPV (s, c)) ∧
      Gen.decode fuel' (cstr s) (.int (m.length : Int)) (accPV a) (.int (v : Int)) (.bool fast) (chkPV c)
        (tblPV tbl) (.bool vb') = .ok (bitsPV m) := by
  have hex : ∃ s c, encode a tbl (v : Int) m fast n fuel = .ok (s, c) := by
    cases fast with
    | false =>
      obtain ⟨s, c, h⟩ := C01_total_normal a tbl v m n hm hg
      have h' := encode_normal_mono hm h (fuel - encodeFuel a m)
      rw [Nat.add_sub_cancel' hfe] at h'
      exact ⟨s, c, h'⟩
    | true => exact encode_total_fast a tbl v m n fuel hm hg (h3 rfl) hfe
  obtain ⟨s, c, he⟩ := hex
  have hl := encode_length hm he
  exact ⟨s, c, gen_encode ha hv ht vb hm hf he, decode_of_encode ha hv ht hm he fuel' vb' (by omega)⟩

example : ∃ (s : List Char) (c : Option (List Char)),
    Gen.encode 129 (bitsPV [0, 1, 0, 1, 0, 1, 0, 1]) (accPV gcBalanced2) (.int 1) (.bool true) (.int 5) PV.none
      (.bool false) (.bool false) = .ok (encResultPV (s, c)) ∧
    Gen.decode 532 (cstr s) (.int 8) (accPV gcBalanced2) (.int 1) (.bool true) (chkPV c) PV.none
      (.bool false) = .ok (bitsPV [0, 1, 0, 1, 0, 1, 0, 1]) :=
  gen_C01_total_roundtrip gcBalanced2 none 1 _ true 5 129 532 false false gc_wf gc_lt (tblOK_none _) msg_bits
    gc_good (fun _ => gc_noDeg3) (by decide +kernel) (by decide +kernel) (by decide +kernel)

/-- the empty and the all-zero message are encoded as the empty strand in normal mode and decoded
back — `C01_zero` about the generated code. -/
theorem gen_C01_zero (a : Acc) (tbl : Option Tbl) (v : Nat) (n fuel : Nat) (vb : Bool)
    (ha : a.WF) (hv : v < a.size) (ht : TblOK tbl a) (hf : 10 ≤ fuel) :
    Gen.encode fuel (bitsPV (List.replicate n 0)) (accPV a) (.int (v : Int)) (.bool false) (.int 0)
      (tblPV tbl) (.bool false) (.bool vb) = .ok (.str []) ∧
    Gen.decode fuel (.str []) (.int (n : Int)) (accPV a) (.int (v : Int)) (.bool false) PV.none (tblPV tbl)
      (.bool vb) = .ok (bitsPV (List.replicate n 0)) := by
  obtain ⟨h1, h2⟩ := C01_zero a tbl v n
  have hb : IsBits (List.replicate n 0) := by
    intro b hb; rw [List.eq_of_mem_replicate hb]; omega
  have h1' := encode_normal_mono hb h1 (fuel - 1)
  rw [Nat.add_sub_cancel' (by omega : 1 ≤ fuel)] at h1'
  exact ⟨gen_encode ha hv ht vb hb (by omega) h1', gen_decode (chk := none) ha hv ht vb (fun _ h => by cases h)
    (by simp only [List.length_nil, Option.map_none, Option.getD_none]; omega) h2⟩

example : Gen.encode 10 (bitsPV (List.replicate 8 0)) (accPV gcBalanced2) (.int 1) (.bool false) (.int 0)
      PV.none (.bool false) (.bool false) = .ok (.str []) ∧
    Gen.decode 10 (.str []) (.int 8) (accPV gcBalanced2) (.int 1) (.bool false) PV.none PV.none
      (.bool false) = .ok (bitsPV (List.replicate 8 0)) :=
  gen_C01_zero gcBalanced2 none 1 8 10 false gc_wf gc_lt (tblOK_none _) (by decide +kernel)

/-- normal mode: whatever the generated `encode` returns is the walk of the published scheme
(`IsEncoding`, stated with the documented digit `arcRank`) for the message value —
`C05_encode_meets_spec` about the generated code. -/
theorem gen_C05_encode_meets_spec (a : Acc) (tbl : Option Tbl) (v : Nat) (m : List Nat) (n fuel : Nat)
    (vb : Bool) (r : PV) (ha : a.WF) (hv : v < a.size) (ht : TblOK tbl a) (hm : IsBits m)
    (hd : AllDistinct a tbl) (hf : 2 * n + 3 ≤ fuel)
    (h : Gen.encode fuel (bitsPV m) (accPV a) (.int (v : Int)) (.bool false) (.int (n : Int)) (tblPV tbl)
      (.bool false) (.bool vb) = .ok r) :
    ∃ (s : List Char) (c : Option (List Char)), r = encResultPV (s, c) ∧
      IsEncoding a tbl (v : Int) (bitToNumberInt m) s := by
  obtain ⟨s, c, hr, he⟩ := gen_encode_ok ha hv ht hm hf h
  exact ⟨s, c, hr, C05_encode_meets_spec a tbl v m n fuel s c hm hd he⟩

/-- the strand the generated `encode` returns for `01010101` (value 85) meets the specification. -/
example : IsEncoding gcBalanced2 none 1 85 "TCTCTCT".toList := by
  obtain ⟨s, c, hr, hs⟩ := gen_C05_encode_meets_spec gcBalanced2 none 1 _ 5 200 false _ gc_wf gc_lt
    (tblOK_none _) msg_bits gc_distinct (by decide +kernel) gc_encode_normal
  cases encResultPV_inj (r := ("TCTCTCT".toList, some "TAAGC".toList)) hr
  exact hs

/-- the scheme determines what the generated `encode` returns: ANY strand meeting the specification
for the message value is the strand returned (`C05_spec_unique` applied to the generated code). -/
theorem gen_C05_spec_unique (a : Acc) (tbl : Option Tbl) (v : Nat) (m : List Nat) (n fuel : Nat)
    (vb : Bool) (r : PV) (s' : List Char) (ha : a.WF) (hv : v < a.size) (ht : TblOK tbl a) (hm : IsBits m)
    (hd : AllDistinct a tbl) (hf : 2 * n + 3 ≤ fuel)
    (h : Gen.encode fuel (bitsPV m) (accPV a) (.int (v : Int)) (.bool false) (.int (n : Int)) (tblPV tbl)
      (.bool false) (.bool vb) = .ok r)
    (h' : IsEncoding a tbl (v : Int) (bitToNumberInt m) s') :
    ∃ c : Option (List Char), r = encResultPV (s', c) := by
  obtain ⟨s, c, hr, hs⟩ := gen_C05_encode_meets_spec a tbl v m n fuel vb r ha hv ht hm hd hf h
  have := C05_spec_unique a tbl v _ s s' hd hs h'
  subst this
  exact ⟨c, hr⟩

example (r : PV) (h : Gen.encode 200 (bitsPV [0, 1, 0, 1, 0, 1, 0, 1]) (accPV gcBalanced2) (.int 1) (.bool false)
      (.int 5) PV.none (.bool false) (.bool false) = .ok r) :
    ∃ c : Option (List Char), r = encResultPV ("TCTCTCT".toList, c) :=
  gen_C05_spec_unique gcBalanced2 none 1 _ 5 200 false r _ gc_wf gc_lt (tblOK_none _) msg_bits gc_distinct
    (by decide +kernel) h
    (C05_encode_meets_spec gcBalanced2 none 1 [0, 1, 0, 1, 0, 1, 0, 1] 0 200 _ none msg_bits gc_distinct
      (by decide +kernel))

/-- the generated `decode` (normal mode, no check) of any walk returns the walk's mixed-radix value
big-endian at width `L` — `C05_decode_value` about the generated code. -/
theorem gen_C05_decode_value (a : Acc) (tbl : Option Tbl) (v : Nat) (s : List Char) (L fuel : Nat)
    (vb : Bool) (ha : a.WF) (hv : v < a.size) (ht : TblOK tbl a) (hd : AllDistinct a tbl)
    (hw : isWalk a (v : Int) s = true) (hf : 4 * s.length + 10 ≤ fuel) :
    Gen.decode fuel (cstr s) (.int (L : Int)) (accPV a) (.int (v : Int)) (.bool false) PV.none (tblPV tbl)
      (.bool vb) = .ok (bitsPV (numberToBitInt (walkValue a tbl (v : Int) s) L)) :=
  gen_decode (chk := none) ha hv ht vb (fun _ h => by cases h)
    (by simp only [Option.map_none, Option.getD_none]; omega)
    (C05_decode_value a tbl v s L hd hw)

example : Gen.decode 38 (cstr "TCTCTCT".toList) (.int 8) (accPV gcBalanced2) (.int 1) (.bool false) PV.none
    PV.none (.bool false) = .ok (bitsPV (numberToBitInt (walkValue gcBalanced2 none 1 "TCTCTCT".toList) 8)) :=
  gen_C05_decode_value gcBalanced2 none 1 _ 8 38 false gc_wf gc_lt (tblOK_none _) gc_distinct
    gc7_walk (by decide +kernel)
example : walkValue gcBalanced2 none 1 "TCTCTCT".toList = 85 := by decide +kernel

/-- fast mode: the strand the generated `encode` returns is a walk, and the bits it carries are the
message followed by at most one padding zero — `C05_fast_meets_spec` about the generated code. -/
theorem gen_C05_fast_meets_spec (a : Acc) (tbl : Option Tbl) (v : Nat) (m : List Nat) (n fuel : Nat)
    (vb : Bool) (r : PV) (ha : a.WF) (hv : v < a.size) (ht : TblOK tbl a) (hm : IsBits m)
    (hd : AllDistinct a tbl) (hf : 2 * n + 3 ≤ fuel)
    (h : Gen.encode fuel (bitsPV m) (accPV a) (.int (v : Int)) (.bool true) (.int (n : Int)) (tblPV tbl)
      (.bool false) (.bool vb) = .ok r) :
    ∃ (s : List Char) (c : Option (List Char)), r = encResultPV (s, c) ∧ isWalk a (v : Int) s = true ∧
      (walkBits a tbl (v : Int) s = m ∨ walkBits a tbl (v : Int) s = m ++ [0]) := by
  obtain ⟨s, c, hr, he⟩ := gen_encode_ok ha hv ht hm hf h
  exact ⟨s, c, hr, C05_fast_meets_spec a tbl v m n fuel s c hm hd he⟩

example : isWalk gcBalanced2 1 "AGAGAGAG".toList = true ∧
    (walkBits gcBalanced2 none 1 "AGAGAGAG".toList = [0, 1, 0, 1, 0, 1, 0, 1] ∨
      walkBits gcBalanced2 none 1 "AGAGAGAG".toList = [0, 1, 0, 1, 0, 1, 0, 1] ++ [0]) := by
  obtain ⟨s, c, hr, hs⟩ := gen_C05_fast_meets_spec gcBalanced2 none 1 _ 5 200 false _ gc_wf gc_lt
    (tblOK_none _) msg_bits gc_distinct (by decide +kernel) gc_encode_fast
  cases encResultPV_inj (r := ("AGAGAGAG".toList, some "AAATA".toList)) hr
  exact hs

/-- the generated `decode` in fast mode (no check) of a walk without out-degree-3 vertices whose bits
fit returns the carried bits, zero-padded to `L` — `C05_fast_decode_value` about the generated code. -/
theorem gen_C05_fast_decode_value (a : Acc) (tbl : Option Tbl) (v : Nat) (s : List Char) (L fuel : Nat)
    (vb : Bool) (ha : a.WF) (hv : v < a.size) (ht : TblOK tbl a) (hd : AllDistinct a tbl)
    (hw : isWalk a (v : Int) s = true)
    (h3 : ∀ i, i < s.length → a.outDeg (walkEnd a (v : Int) (s.take i)) ≠ 3)
    (hL : (walkBits a tbl (v : Int) s).length ≤ L) (hf : 4 * s.length + 10 ≤ fuel) :
    Gen.decode fuel (cstr s) (.int (L : Int)) (accPV a) (.int (v : Int)) (.bool true) PV.none (tblPV tbl)
      (.bool vb) =
      .ok (bitsPV (walkBits a tbl (v : Int) s ++
        List.replicate (L - (walkBits a tbl (v : Int) s).length) 0)) :=
  gen_decode (chk := none) ha hv ht vb (fun _ h => by cases h)
    (by simp only [Option.map_none, Option.getD_none]; omega)
    (C05_fast_decode_value a tbl v s L hd hw h3 hL)

example : Gen.decode 42 (cstr "AGAGAGAG".toList) (.int 10) (accPV gcBalanced2) (.int 1) (.bool true) PV.none
    PV.none (.bool false) =
    .ok (bitsPV (walkBits gcBalanced2 none 1 "AGAGAGAG".toList ++
      List.replicate (10 - (walkBits gcBalanced2 none 1 "AGAGAGAG".toList).length) 0)) :=
  gen_C05_fast_decode_value gcBalanced2 none 1 _ 10 42 false gc_wf gc_lt (tblOK_none _) gc_distinct
    gc7_walk_fast (by decide +kernel) (by decide +kernel) (by decide +kernel)

/-- normal mode, any string (foreign characters included), any requested length, `vt_check=None` or
a non-empty check: the generated `decode` returns a bit array of exactly the requested length iff the
string is a walk and the check matches; otherwise `ValueError` and nothing else — `C06_normal` about
the generated code. -/
theorem gen_C06_normal (a : Acc) (tbl : Option Tbl) (v : Nat) (s : List Char) (L : Nat)
    (chk : Option (List Char)) (fuel : Nat) (vb : Bool)
    (ha : a.WF) (hv : v < a.size) (ht : TblOK tbl a) (hc : ∀ c, chk = some c → c ≠ [])
    (hf : 4 * s.length + 2 * (chk.map List.length).getD 0 + 10 ≤ fuel) :
    (isWalk a (v : Int) s = true ∧ CheckOk s chk →
        ∃ bits, Gen.decode fuel (cstr s) (.int (L : Int)) (accPV a) (.int (v : Int)) (.bool false)
          (chkPV chk) (tblPV tbl) (.bool vb) = .ok (bitsPV bits) ∧ bits.length = L) ∧
    (¬ (isWalk a (v : Int) s = true ∧ CheckOk s chk) →
        Gen.decode fuel (cstr s) (.int (L : Int)) (accPV a) (.int (v : Int)) (.bool false)
          (chkPV chk) (tblPV tbl) (.bool vb) = .error .valueError) := by
  obtain ⟨h1, h2⟩ := C06_normal a tbl v s L chk
  refine ⟨fun h => ?_, fun h => gen_decode ha hv ht vb hc hf (h2 h)⟩
  obtain ⟨bits, hb, hl⟩ := h1 h
  exact ⟨bits, gen_decode ha hv ht vb hc hf hb, hl⟩

/-- a walk with its matching check is accepted … -/
example : ∃ bits, Gen.decode 48 (cstr "TCTCTCT".toList) (.int 8) (accPV gcBalanced2) (.int 1) (.bool false)
    (.str "TAAGC".toList) PV.none (.bool false) = .ok (bitsPV bits) ∧ bits.length = 8 :=
  (gen_C06_normal gcBalanced2 none 1 _ 8 (some "TAAGC".toList) 48 false gc_wf gc_lt (tblOK_none _)
    (by decide +kernel) (by decide +kernel)).1 ⟨gc7_walk, by unfold CheckOk; decide +kernel⟩
/-- … a string that leaves the graph is a `ValueError` … -/
example : Gen.decode 38 (cstr "TCTCTAT".toList) (.int 8) (accPV gcBalanced2) (.int 1) (.bool false) PV.none
    PV.none (.bool false) = .error .valueError :=
  (gen_C06_normal gcBalanced2 none 1 _ 8 none 38 false gc_wf gc_lt (tblOK_none _) (by decide +kernel)
    (by decide +kernel)).2 (fun h => absurd h.1 (by decide +kernel))
/-- … and so is a walk with a check that does not match. -/
example : Gen.decode 48 (cstr "TCTCTCT".toList) (.int 8) (accPV gcBalanced2) (.int 1) (.bool false)
    (.str "GAAGC".toList) PV.none (.bool false) = .error .valueError :=
  (gen_C06_normal gcBalanced2 none 1 _ 8 (some "GAAGC".toList) 48 false gc_wf gc_lt (tblOK_none _)
    (by decide +kernel) (by decide +kernel)).2 (fun h => absurd h.2 (by unfold CheckOk; decide +kernel))

/-- the same as an equivalence: the generated `decode` returns iff the string is a walk and the
check matches. -/
theorem gen_C06_normal_iff (a : Acc) (tbl : Option Tbl) (v : Nat) (s : List Char) (L : Nat)
    (chk : Option (List Char)) (fuel : Nat) (vb : Bool)
    (ha : a.WF) (hv : v < a.size) (ht : TblOK tbl a) (hc : ∀ c, chk = some c → c ≠ [])
    (hf : 4 * s.length + 2 * (chk.map List.length).getD 0 + 10 ≤ fuel) :
    (∃ x, Gen.decode fuel (cstr s) (.int (L : Int)) (accPV a) (.int (v : Int)) (.bool false)
      (chkPV chk) (tblPV tbl) (.bool vb) = .ok x) ↔ (isWalk a (v : Int) s = true ∧ CheckOk s chk) :=
  ok_iff_of_dichotomy (gen_C06_normal a tbl v s L chk fuel vb ha hv ht hc hf)

example : (∃ x, Gen.decode 48 (cstr "TCTCTCT".toList) (.int 8) (accPV gcBalanced2) (.int 1) (.bool false)
      (.str "TAAGC".toList) PV.none (.bool false) = .ok x) ↔
    (isWalk gcBalanced2 1 "TCTCTCT".toList = true ∧ CheckOk "TCTCTCT".toList (some "TAAGC".toList)) :=
  gen_C06_normal_iff gcBalanced2 none 1 _ 8 (some "TAAGC".toList) 48 false gc_wf gc_lt (tblOK_none _)
    (by decide +kernel) (by decide +kernel)

/-- fast mode (no out-degree-3 vertex reachable): the same dichotomy for every string whose walkable
prefix carries no more bits than requested — `C06_fast` about the generated code. -/
theorem gen_C06_fast (a : Acc) (tbl : Option Tbl) (v : Nat) (s : List Char) (L : Nat)
    (chk : Option (List Char)) (fuel : Nat) (vb : Bool)
    (ha : a.WF) (hv : v < a.size) (ht : TblOK tbl a) (hc : ∀ c, chk = some c → c ≠ [])
    (h3 : a.NoDeg3From (v : Int))
    (hL : (walkBits a tbl (v : Int) (walkablePrefix a (v : Int) s)).length ≤ L)
    (hf : 4 * s.length + 2 * (chk.map List.length).getD 0 + 10 ≤ fuel) :
    (isWalk a (v : Int) s = true ∧ CheckOk s chk →
        ∃ bits, Gen.decode fuel (cstr s) (.int (L : Int)) (accPV a) (.int (v : Int)) (.bool true)
          (chkPV chk) (tblPV tbl) (.bool vb) = .ok (bitsPV bits) ∧ bits.length = L) ∧
    (¬ (isWalk a (v : Int) s = true ∧ CheckOk s chk) →
        Gen.decode fuel (cstr s) (.int (L : Int)) (accPV a) (.int (v : Int)) (.bool true)
          (chkPV chk) (tblPV tbl) (.bool vb) = .error .valueError) := by
  obtain ⟨h1, h2⟩ := C06_fast a tbl v s L chk h3 hL
  refine ⟨fun h => ?_, fun h => gen_decode ha hv ht vb hc hf (h2 h)⟩
  obtain ⟨bits, hb, hl⟩ := h1 h
  exact ⟨bits, gen_decode ha hv ht vb hc hf hb, hl⟩

example : ∃ bits, Gen.decode 52 (cstr "AGAGAGAG".toList) (.int 8) (accPV gcBalanced2) (.int 1) (.bool true)
    (.str "AAATA".toList) PV.none (.bool false) = .ok (bitsPV bits) ∧ bits.length = 8 :=
  (gen_C06_fast gcBalanced2 none 1 _ 8 (some "AAATA".toList) 52 false gc_wf gc_lt (tblOK_none _)
    (by decide +kernel) gc_noDeg3 (by decide +kernel) (by decide +kernel)).1
    ⟨gc7_walk_fast, by unfold CheckOk; decide +kernel⟩
/-- the walkable prefix `AGAGA` of `AGAGATAG` carries five bits. -/
example : Gen.decode 42 (cstr "AGAGATAG".toList) (.int 8) (accPV gcBalanced2) (.int 1) (.bool true) PV.none
    PV.none (.bool false) = .error .valueError :=
  (gen_C06_fast gcBalanced2 none 1 _ 8 none 42 false gc_wf gc_lt (tblOK_none _)
    (by decide +kernel) gc_noDeg3 (by decide +kernel) (by decide +kernel)).2 (fun h => absurd h.1
      (by decide +kernel))

theorem gen_C06_fast_iff (a : Acc) (tbl : Option Tbl) (v : Nat) (s : List Char) (L : Nat)
    (chk : Option (List Char)) (fuel : Nat) (vb : Bool)
    (ha : a.WF) (hv : v < a.size) (ht : TblOK tbl a) (hc : ∀ c, chk = some c → c ≠ [])
    (h3 : a.NoDeg3From (v : Int))
    (hL : (walkBits a tbl (v : Int) (walkablePrefix a (v : Int) s)).length ≤ L)
    (hf : 4 * s.length + 2 * (chk.map List.length).getD 0 + 10 ≤ fuel) :
    (∃ x, Gen.decode fuel (cstr s) (.int (L : Int)) (accPV a) (.int (v : Int)) (.bool true)
      (chkPV chk) (tblPV tbl) (.bool vb) = .ok x) ↔ (isWalk a (v : Int) s = true ∧ CheckOk s chk) :=
  ok_iff_of_dichotomy (gen_C06_fast a tbl v s L chk fuel vb ha hv ht hc h3 hL hf)

example : (∃ x, Gen.decode 42 (cstr "AGAGAGAG".toList) (.int 8) (accPV gcBalanced2) (.int 1) (.bool true)
      PV.none PV.none (.bool false) = .ok x) ↔
    (isWalk gcBalanced2 1 "AGAGAGAG".toList = true ∧ CheckOk "AGAGAGAG".toList none) :=
  gen_C06_fast_iff gcBalanced2 none 1 _ 8 none 42 false gc_wf gc_lt (tblOK_none _)
    (by decide +kernel) gc_noDeg3 (by decide +kernel) (by decide +kernel)

/-- which strands the generated `decode` accepts does not depend on the shuffle table —
`C06_table_independent` about the generated code. -/
theorem gen_C06_table_independent (a : Acc) (tbl tbl' : Option Tbl) (v : Nat) (s : List Char) (L : Nat)
    (chk : Option (List Char)) (fuel : Nat) (vb : Bool)
    (ha : a.WF) (hv : v < a.size) (ht : TblOK tbl a) (ht' : TblOK tbl' a)
    (hc : ∀ c, chk = some c → c ≠ [])
    (hf : 4 * s.length + 2 * (chk.map List.length).getD 0 + 10 ≤ fuel) :
    (Gen.decode fuel (cstr s) (.int (L : Int)) (accPV a) (.int (v : Int)) (.bool false)
      (chkPV chk) (tblPV tbl) (.bool vb)).toBool =
    (Gen.decode fuel (cstr s) (.int (L : Int)) (accPV a) (.int (v : Int)) (.bool false)
      (chkPV chk) (tblPV tbl') (.bool vb)).toBool := by
  rw [gen_decode ha hv ht vb hc hf rfl, gen_decode ha hv ht' vb hc hf rfl, toBool_map, toBool_map]
  exact C06_table_independent a tbl tbl' v s L chk

example : (Gen.decode 48 (cstr "TCTCTCT".toList) (.int 8) (accPV gcBalanced2) (.int 1) (.bool false)
      (.str "TAAGC".toList) PV.none (.bool false)).toBool =
    (Gen.decode 48 (cstr "TCTCTCT".toList) (.int 8) (accPV gcBalanced2) (.int 1) (.bool false)
      (.str "TAAGC".toList) (accPV gcTable) (.bool false)).toBool :=
  gen_C06_table_independent gcBalanced2 none (some gcTable) 1 _ 8 (some "TAAGC".toList) 48 false gc_wf gc_lt
    (tblOK_none _) gcTable_ok (by decide +kernel) (by decide +kernel)

/-- length, flag symbol and digit symbols of what the generated `set_vt` returns (defined for the
empty strand too) — `C07_shape` about the generated code. -/
theorem gen_C07_shape (s : List Char) (n fuel : Nat) (hn : 1 ≤ n) (hs : IsAcgt s) (hf : 2 * n + 2 ≤ fuel) :
    ∃ c, Gen.set_vt fuel (cstr s) (.int (n : Int)) = .ok (cstr c) ∧ c.length = n ∧ IsAcgt c ∧
      c.head? = some (nucChar ((valuesOf s).sum % 4)) ∧
      kmerIdx c.tail = (ascentPositions (valuesOf s)).sum % 4 ^ (n - 1) := by
  obtain ⟨c, h, hr⟩ := C07_shape s n hn hs
  exact ⟨c, gen_set_vt hn hf h, hr⟩

example : ∃ c, Gen.set_vt 12 (cstr "TCTCTCT".toList) (.int 5) = .ok (cstr c) ∧ c.length = 5 ∧ IsAcgt c ∧
    c.head? = some (nucChar ((valuesOf "TCTCTCT".toList).sum % 4)) ∧
    kmerIdx c.tail = (ascentPositions (valuesOf "TCTCTCT".toList)).sum % 4 ^ (5 - 1) :=
  gen_C07_shape _ 5 12 (by decide +kernel) gc7_acgt (by decide +kernel)
/-- the empty strand has the check `AAA`. -/
example : ∃ c, Gen.set_vt 8 (cstr []) (.int 3) = .ok (cstr c) ∧ c.length = 3 ∧ IsAcgt c ∧
    c.head? = some (nucChar ((valuesOf []).sum % 4)) ∧
    kmerIdx c.tail = (ascentPositions (valuesOf [])).sum % 4 ^ (3 - 1) :=
  gen_C07_shape [] 3 8 (by decide +kernel) IsAcgt.nil (by decide +kernel)

/-- a strand with a foreign character has no check: the generated `set_vt` raises `ValueError` —
`C07_foreign` about the generated code (for `n ≥ 1`, the tie's contract). -/
theorem gen_C07_foreign (s : List Char) (n fuel : Nat) (hn : 1 ≤ n) (hs : ¬ IsAcgt s) (hf : 2 * n + 2 ≤ fuel) :
    Gen.set_vt fuel (cstr s) (.int (n : Int)) = .error .valueError := by
  exact gen_set_vt hn hf (C07_foreign s n hs)

example : Gen.set_vt 12 (cstr "TCNCT".toList) (.int 5) = .error .valueError :=
  gen_C07_foreign _ 5 12 (by decide +kernel) (by unfold IsAcgt; decide +kernel) (by decide +kernel)

/-- any single substitution changes the first symbol of the check the generated `set_vt` returns. -/
theorem gen_C07_subst (s : List Char) (n p : Nat) (x : Char) (fuel : Nat) (hn : 1 ≤ n) (hs : IsAcgt s)
    (hp : p < s.length) (hx : (nucIdx x).isSome = true) (hne : s[p]? ≠ some x) (hf : 2 * n + 2 ≤ fuel) :
    ∃ c c', Gen.set_vt fuel (cstr s) (.int (n : Int)) = .ok (cstr c) ∧
      Gen.set_vt fuel (cstr (s.set p x)) (.int (n : Int)) = .ok (cstr c') ∧ c.head? ≠ c'.head? := by
  obtain ⟨c, c', h, h', hr⟩ := C07_subst s n p x hn hs hp hx hne
  exact ⟨c, c', gen_set_vt hn hf h, gen_set_vt hn hf h', hr⟩

/-- `TCTCTCT` → `TCTCTAT`. -/
example : ∃ c c', Gen.set_vt 12 (cstr "TCTCTCT".toList) (.int 5) = .ok (cstr c) ∧
    Gen.set_vt 12 (cstr ("TCTCTCT".toList.set 5 'A')) (.int 5) = .ok (cstr c') ∧ c.head? ≠ c'.head? :=
  gen_C07_subst _ 5 5 'A' 12 (by decide +kernel) gc7_acgt (by decide +kernel)
    (by decide +kernel) (by decide +kernel)
    (by decide +kernel)

/-- any single insertion of C, G or T changes the first symbol of the check. -/
theorem gen_C07_insert (s : List Char) (n p : Nat) (x : Char) (fuel : Nat) (hn : 1 ≤ n) (hs : IsAcgt s)
    (hp : p ≤ s.length) (hx : x = 'C' ∨ x = 'G' ∨ x = 'T') (hf : 2 * n + 2 ≤ fuel) :
    ∃ c c', Gen.set_vt fuel (cstr s) (.int (n : Int)) = .ok (cstr c) ∧
      Gen.set_vt fuel (cstr (s.take p ++ [x] ++ s.drop p)) (.int (n : Int)) = .ok (cstr c') ∧
      c.head? ≠ c'.head? := by
  obtain ⟨c, c', h, h', hr⟩ := C07_insert s n p x hn hs hp hx
  exact ⟨c, c', gen_set_vt hn hf h, gen_set_vt hn hf h', hr⟩

example : ∃ c c', Gen.set_vt 12 (cstr "TCTCTCT".toList) (.int 5) = .ok (cstr c) ∧
    Gen.set_vt 12 (cstr ("TCTCTCT".toList.take 3 ++ ['G'] ++ "TCTCTCT".toList.drop 3)) (.int 5) = .ok (cstr c') ∧
    c.head? ≠ c'.head? :=
  gen_C07_insert _ 5 3 'G' 12 (by decide +kernel) gc7_acgt (by decide +kernel)
    (by decide +kernel) (by decide +kernel)

/-- any single deletion of C, G or T changes the first symbol of the check. -/
theorem gen_C07_delete (s : List Char) (n p : Nat) (fuel : Nat) (hn : 1 ≤ n) (hs : IsAcgt s)
    (hp : p < s.length) (hx : s[p]? = some 'C' ∨ s[p]? = some 'G' ∨ s[p]? = some 'T')
    (hf : 2 * n + 2 ≤ fuel) :
    ∃ c c', Gen.set_vt fuel (cstr s) (.int (n : Int)) = .ok (cstr c) ∧
      Gen.set_vt fuel (cstr (s.eraseIdx p)) (.int (n : Int)) = .ok (cstr c') ∧ c.head? ≠ c'.head? := by
  obtain ⟨c, c', h, h', hr⟩ := C07_delete s n p hn hs hp hx
  exact ⟨c, c', gen_set_vt hn hf h, gen_set_vt hn hf h', hr⟩

example : ∃ c c', Gen.set_vt 12 (cstr "TCTCTCT".toList) (.int 5) = .ok (cstr c) ∧
    Gen.set_vt 12 (cstr ("TCTCTCT".toList.eraseIdx 2)) (.int 5) = .ok (cstr c') ∧ c.head? ≠ c'.head? :=
  gen_C07_delete _ 5 2 12 (by decide +kernel) gc7_acgt (by decide +kernel)
    (by decide +kernel) (by decide +kernel)

/-- consequently the generated `decode` of any strand whose check (as the generated `set_vt` computes
it) differs in the first symbol from the supplied one raises `ValueError`, whatever the graph,
table, mode and requested length — `C07_decode_rejects` about the generated code. -/
theorem gen_C07_decode_rejects (a : Acc) (tbl : Option Tbl) (v : Nat) (s s' : List Char) (L n : Nat)
    (fast : Bool) (c c' : List Char) (fv fuel : Nat) (vb : Bool)
    (ha : a.WF) (hv : v < a.size) (ht : TblOK tbl a) (hn : 1 ≤ n) (hfv : 2 * n + 2 ≤ fv)
    (hc : Gen.set_vt fv (cstr s) (.int (n : Int)) = .ok (cstr c))
    (hc' : Gen.set_vt fv (cstr s') (.int (n : Int)) = .ok (cstr c')) (hne : c.head? ≠ c'.head?)
    (hf : 4 * s'.length + 2 * n + 10 ≤ fuel) :
    Gen.decode fuel (cstr s') (.int (L : Int)) (accPV a) (.int (v : Int)) (.bool fast) (.str c) (tblPV tbl)
      (.bool vb) = .error .valueError := by
  have hm := setVt_of_gen hn hfv hc
  have hm' := setVt_of_gen hn hfv hc'
  have hl := setVt_length hn hm
  have hcne : c ≠ [] := by
    intro h
    rw [h] at hl
    simp at hl
    omega
  exact gen_decode (chk := some c) ha hv ht vb (fun c0 h0 => by cases h0; exact hcne)
    (by simp only [Option.map_some, Option.getD_some, hl]; exact hf)
    (C07_decode_rejects a tbl v s s' L n fast c c' hm hm' hn hne)

/-- the neighbour `TCTCTAT` of `TCTCTCT` (check `GAAGC` instead of `TAAGC`) is rejected in both modes. -/
example (fast : Bool) : Gen.decode 48 (cstr "TCTCTAT".toList) (.int 8) (accPV gcBalanced2) (.int 1) (.bool fast)
    (.str "TAAGC".toList) PV.none (.bool false) = .error .valueError :=
  gen_C07_decode_rejects gcBalanced2 none 1 "TCTCTCT".toList _ 8 5 fast _ "GAAGC".toList 12 48 false gc_wf gc_lt
    (tblOK_none _) (by decide +kernel) (by decide +kernel) gc_set_vt gc_set_vt' (by decide +kernel)
      (by decide +kernel)

/-- C01 and C07 together, entirely about the generated code: if the generated `encode` returns the
strand `s` with the check `c` (`vt_length = n > 0`), then the generated `decode` rejects every
single-nucleotide substitution of `s` presented with `c` — in either mode, whatever `bit_length`. -/
theorem gen_C07_encode_subst_rejected (a : Acc) (tbl : Option Tbl) (v : Nat) (m : List Nat)
    (fast fast' : Bool) (n fuel fuel' L p : Nat) (x : Char) (vb vb' : Bool) (s c : List Char)
    (ha : a.WF) (hv : v < a.size) (ht : TblOK tbl a) (hm : IsBits m) (hn : 0 < n) (hf : 2 * n + 3 ≤ fuel)
    (h : Gen.encode fuel (bitsPV m) (accPV a) (.int (v : Int)) (.bool fast) (.int (n : Int)) (tblPV tbl)
      (.bool false) (.bool vb) = .ok (.tup [.str s, .str c]))
    (hp : p < s.length) (hx : (nucIdx x).isSome = true) (hne : s[p]? ≠ some x)
    (hf' : 4 * s.length + 2 * n + 10 ≤ fuel') :
    Gen.decode fuel' (cstr (s.set p x)) (.int (L : Int)) (accPV a) (.int (v : Int)) (.bool fast') (.str c)
      (tblPV tbl) (.bool vb') = .error .valueError := by
  obtain ⟨s0, c0, hr, he⟩ := gen_encode_ok ha hv ht hm hf h
  rcases encode_ok_check he with ⟨h0, _⟩ | ⟨_, c1, rfl, hsv⟩
  · omega
  · simp only [encResultPV, PV.tup.injEq, List.cons.injEq, PV.str.injEq, and_true] at hr
    obtain ⟨rfl, rfl⟩ := hr
    have hs := isAcgt_of_setVt hsv
    obtain ⟨d, d', hd, hd', hdd⟩ := C07_subst s n p x hn hs hp hx hne
    rw [hsv] at hd
    cases hd
    have hl := setVt_length hn hsv
    have hcne : c ≠ [] := by
      intro h
      rw [h] at hl
      simp at hl
      omega
    exact gen_decode (chk := some c) ha hv ht vb' (fun c0 h0 => by cases h0; exact hcne)
      (by simp only [Option.map_some, Option.getD_some, hl, List.length_set]; exact hf')
      (C07_decode_rejects a tbl v s (s.set p x) L n fast' c d' hsv hd' hn hdd)

example (fast' : Bool) (L : Nat) :
    Gen.decode 48 (cstr ("TCTCTCT".toList.set 5 'A')) (.int (L : Int)) (accPV gcBalanced2) (.int 1) (.bool fast')
      (.str "TAAGC".toList) PV.none (.bool true) = .error .valueError :=
  gen_C07_encode_subst_rejected gcBalanced2 none 1 _ false fast' 5 200 48 L 5 'A' false true _ _ gc_wf gc_lt
    (tblOK_none _) msg_bits (by decide +kernel) (by decide +kernel) gc_encode_normal (by decide +kernel)
      (by decide +kernel) (by decide +kernel)
    (by decide +kernel)

end Dsw.Tie
