import DswModel.Tie.NpLemmas
import DswModel.Tie.BuildDefs
import DswModel.Tie.OpDna
import DswModel.Tie.GzArith
import DswModel.Lemmas.Vt
/-!
# Translation tie — `find_vertices` (dsw/spiderweb.py)

`Dsw.Gen.find_vertices` computes the model function
`Dsw.findVertices` for EVERY filter: the filter object is represented by the table of its answers on the `4^k`
k-mers (`tablePV`), which are the only strings the function asks about; the mask cell `i` is the filter's verdict
on the `i`-th k-mer, and `ValueError` is raised exactly when no k-mer is accepted.
-/
namespace Dsw.Tie.FindV
open Dsw Dsw.Py Dsw.Tie

theorem kmer_beq (k i j : Nat) : (numberToDnaInt j k == numberToDnaInt i k) = decide (j = i) := by
  by_cases h : j = i
  · subst h; simp
  · have hne : numberToDnaInt j k ≠ numberToDnaInt i k := fun he =>
      h (by rw [← kmerIdx_numberToDnaInt j k, ← kmerIdx_numberToDnaInt i k, he])
    simp [h, hne]

/-- looking a k-mer up in the key column of the table. -/
theorem findIdxEq_kmers (k i : Nat) : ∀ (n s : Nat), s ≤ i → i < s + n →
    findIdxEq (.str (numberToDnaInt i k)) ((List.range' s n).map fun j => PV.str (numberToDnaInt j k)) s = some i
  | 0, s, h1, h2 => absurd h2 (Nat.not_lt.mpr h1)
  | n + 1, s, h1, h2 => by
    rw [List.range'_succ, List.map_cons, findIdxEq_cons, eqb_str, kmer_beq]
    by_cases h : s = i
    · rw [decide_eq_true h, if_pos rfl, h]
    · rw [decide_eq_false h, if_neg Bool.false_ne_true]
      exact findIdxEq_kmers k i n (s + 1) (Nat.lt_of_le_of_ne h1 h) (by rwa [Nat.add_assoc, Nat.add_comm 1 n])
/-- `bio_filter.valid(kmer_i)`. -/
theorem pyCallMethod_table (k : Nat) (P : List Char → Bool) (name : String) {i : Nat} (hi : i < 4 ^ k) :
    pyCallMethod (tablePV k P) name [.str (numberToDnaInt i k)] = .ok (.bool (P (numberToDnaInt i k))) := by
  have hfind := findIdxEq_kmers k i (4 ^ k) 0 (Nat.zero_le _) (by omega)
  rw [← List.range_eq_range'] at hfind
  simp only [pyCallMethod, tablePV, hfind]
  congr 1
  rw [List.getD_eq_getElem?_getD, List.getElem?_map, List.getElem?_range hi]
  rfl

/-- `numpy.zeros(shape=(n,), dtype=bool)`. -/
theorem npZerosBool_tup_nat (n : Nat) :
    npZerosBool (.tup [.int (n : Int)]) = .ok (.arr (List.replicate n (.bool false))) := by
  have h : ¬ ((n : Int) < 0) := by omega
  simp only [npZerosBool, npFullBool, h, if_false, Int.toNat_natCast]

/-- `a[i] = b` on a boolean array. -/
theorem pySetItem_boolArr {l : List PV} {i : Nat} (hi : i < l.length) {c : Bool} (hc : l.getD i .none = .bool c)
    (b : Bool) : pySetItem (.arr l) (.int (i : Int)) (.bool b) = .ok (.arr (l.set i (.bool b))) := by
  simp only [pySetItem, asInt?_int, asInt?_bool, normIndex_natCast hi, hc]
  cases b <;> rfl

theorem npSum_bools (l : List Bool) : npSum (.arr (l.map .bool)) = .ok (.int ((l.filter id).length : Int)) := by
  simp only [npSum, mapM_asInt?_bools, foldl_bools]

/-- `valid_rate == 0`. -/
theorem eqb_rat_zero (c : Nat) (n : Int) : PV.eqb (.rat (c : Int) n) (.int 0) = decide (c = 0) := by
  simp only [PV.eqb, Int.zero_mul]
  by_cases h : c = 0
  · subst h; rfl
  · simp [h]

/-- the mask after `i` iterations: the first `i` cells are the verdicts, the others still `False`. -/
abbrev cells (k : Nat) (P : List Char → Bool) (i : Nat) : List PV :=
  filled (fun j => PV.bool (P (numberToDnaInt j k))) (.bool false) (4 ^ k) i

theorem cells_getD (k : Nat) (P : List Char → Bool) {i : Nat} (hi : i < 4 ^ k) :
    (cells k P i).getD i .none = .bool false := by
  rw [List.getD_eq_getElem?_getD, filled_getElem? _ _ _ _ hi, if_neg (Nat.lt_irrefl i)]
  rfl

theorem cells_full (k : Nat) (P : List Char → Bool) :
    cells k P (4 ^ k) = ((List.range (4 ^ k)).map fun j => P (numberToDnaInt j k)).map .bool := by
  rw [cells, filled_full, List.map_map]
  rfl

theorem pyLen_cells (k : Nat) (P : List Char → Bool) (i : Nat) :
    pyLen (.arr (cells k P i)) = .ok (.int ((4 ^ k : Nat) : Int)) := by
  simp only [pyLen, filled_length]

/-- the loop invariant as a record equation (the other fields are free). -/
def Inv (k : Nat) (P : List Char → Bool) (verbose : Bool) (i : Nat) (e : Gen.find_vertices.Env) : Prop :=
  e = { e with
    observed_length := .int (k : Int), bio_filter := tablePV k P, verbose := .bool verbose,
    vertices := .arr (cells k P i) }

theorem for1_body_spec (k : Nat) (P : List Char → Bool) (verbose : Bool) (fuel : Nat) (hf : 2 * k + 2 ≤ fuel)
    (i : Nat) (hi : i < 4 ^ k) (e : Gen.find_vertices.Env) (h : Inv k P verbose i e) :
    ∃ e', Gen.find_vertices.for1_body fuel (.int (i : Int)) e = .ok (.norm e') ∧ Inv k P verbose (i + 1) e' := by
  have hfuel : Nat.log2 i + 2 ≤ fuel := Nat.le_trans (log2_lt_of_lt_four_pow hi) hf
  have hset := pySetItem_boolArr (l := cells k P i) (i := i) (by rw [filled_length]; exact hi) (cells_getD k P hi)
    (P (numberToDnaInt i k))
  rw [h]
  simp only [Gen.find_vertices.for1_body, tie_number_to_dna_int i k fuel hfuel, cstr, bnd_ok,
    pyCallMethod_table k P _ hi, hset, filled_set, ite_self]
  exact ⟨_, rfl, rfl⟩

/-- the result: the model's mask, or `ValueError` when it is empty. -/
theorem result_eq (k : Nat) (P : List Char → Bool) :
    (findVertices k P).map (maskPV false) =
      if ((List.range (4 ^ k)).map fun j => P (numberToDnaInt j k)).filter id = [] then .error .valueError
      else .ok (.arr (cells k P (4 ^ k))) := by
  have htl : (Array.map (fun i => P (numberToDnaInt i k)) (Array.range (4 ^ k))).toList =
      (List.range (4 ^ k)).map fun j => P (numberToDnaInt j k) := by
    rw [Array.toList_map, Array.toList_range]
  simp only [findVertices, Mask.count, htl, List.length_eq_zero_iff]
  split
  · rfl
  · simp only [R_map_ok, maskPV, htl, cells_full, Bool.false_eq_true, if_false]

theorem k3_spec (k : Nat) (P : List Char → Bool) (verbose : Bool) (fuel : Nat) (e : Gen.find_vertices.Env)
    (h : Inv k P verbose (4 ^ k) e) :
    callResult (Gen.find_vertices.k3 fuel e) = (findVertices k P).map (maskPV false) := by
  have hpos : 0 < 4 ^ k := Nat.pow_pos (by decide)
  rw [result_eq, h]
  simp only [Gen.find_vertices.k3, pyLen_cells, bnd_ok]
  simp only [cells_full, npSum_bools, bnd_ok, pyTrueDiv_nat_pos _ hpos, pyEq_def, eqb_rat_zero,
    List.length_eq_zero_iff]
  by_cases hc : ((List.range (4 ^ k)).map fun j => P (numberToDnaInt j k)).filter id = []
  · simp only [hc, decide_true, if_true, seq_error, callResult_error]
  · simp only [hc, decide_false, if_false, Bool.false_eq_true, seq_norm, Gen.find_vertices.k2,
      Gen.find_vertices.k1, bnd_ok, ite_self, callResult_ret]

theorem k4_spec (k : Nat) (P : List Char → Bool) (verbose : Bool) (fuel : Nat) (hf : 2 * k + 2 ≤ fuel)
    (e : Gen.find_vertices.Env) (h : Inv k P verbose 0 e) :
    callResult (Gen.find_vertices.k4 fuel e) = (findVertices k P).map (maskPV false) := by
  rw [h]
  simp only [Gen.find_vertices.k4, pyLen_cells, bnd_ok, pyRange1_nat, pyIter_list]
  apply callResult_seq_of_norm (Inv k P verbose (4 ^ k))
  · exact GzTie.forLoop_range_inv (Inv k P verbose) (4 ^ k)
      (fun i hi e he => for1_body_spec k P verbose fuel hf i hi e he) rfl
  · intro e' he'
    exact k3_spec k P verbose fuel e' he'

end Dsw.Tie.FindV

namespace Dsw.Tie
open Dsw Dsw.Py

theorem tie_find_vertices (k : Nat) (P : List Char → Bool) (fuel : Nat) (verbose : Bool) (hf : 2 * k + 2 ≤ fuel) :
    Gen.find_vertices fuel (.int (k : Int)) (tablePV k P) (.bool verbose) = (findVertices k P).map (maskPV false) := by
  simp only [Gen.find_vertices, Gen.find_vertices.body, DnaTie.len_nuc, bnd_ok, pyPow_four_nat, pyInt_int,
    FindV.npZerosBool_tup_nat, ite_self]
  apply callResult_seq_of_norm (FindV.Inv k P verbose 0)
  · refine ⟨_, rfl, ?_⟩
    rw [FindV.Inv, FindV.cells, filled_zero]
  · intro e' he'
    exact FindV.k4_spec k P verbose fuel hf e' he'

end Dsw.Tie
