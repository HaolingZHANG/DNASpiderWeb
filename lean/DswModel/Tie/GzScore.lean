import DswModel.Tie.GzViews
import DswModel.Tie.GzScoreLib
/-!
# Translation tie — `calculate_intersection_score` (dsw/graphized.py)

`Dsw.Gen.calculate_intersection_score` computes the model
function `Dsw.calculateIntersectionScore`: for every vertex of the latter map, the pairwise union sizes of the
leaf sets of its successors (substitution), optionally the unions with the leaf sets two steps on (insertion)
and with the vertex's own leaf set (deletion), accumulated into the `4^k × 4` score table.
-/
namespace Dsw.Tie
open Dsw Dsw.Py

namespace GzS

abbrev SEnv := Gen.calculate_intersection_score.Env

/-- one pair of successors (substitution). -/
def pstep (cur : Nat) (lat : List Nat) (mb : List (List Nat)) (sc : Array (Array Nat)) (ij : Nat × Nat) :
    Array (Array Nat) :=
  let s := unionCount (mb.getD ij.1 []) (mb.getD ij.2 [])
  addScore (addScore sc cur (lat.getD ij.1 0 % 4) s) cur (lat.getD ij.2 0 % 4) s

/-- one vertex two steps on (insertion). -/
def wstep (m : LMap) (k cur : Nat) (mb : List (List Nat)) (fi : Nat × Nat) (sc : Array (Array Nat)) (w : Nat) :
    Array (Array Nat) :=
  addScore sc cur (fi.1 % 4) (unionCount (mb.getD fi.2 []) (leafMap m (k - 1) [w]))

/-- one successor (insertion). -/
def istep (m : LMap) (k cur : Nat) (mb : List (List Nat)) (sc : Array (Array Nat)) (fi : Nat × Nat) :
    Array (Array Nat) :=
  match m.get? fi.1 with
  | Option.none => sc
  | some ls => ls.foldl (wstep m k cur mb fi) sc

/-- one successor (deletion). -/
def dstep (cur : Nat) (mb : List (List Nat)) (db : List Nat) (sc : Array (Array Nat)) (fi : Nat × Nat) :
    Array (Array Nat) :=
  addScore sc cur (fi.1 % 4) (unionCount (mb.getD fi.2 []) db)

def delPart (m : LMap) (k : Nat) (del : Bool) (cur : Nat) (lat : List Nat) (mb : List (List Nat))
    (sc : Array (Array Nat)) : Array (Array Nat) :=
  if del then lat.zipIdx.foldl (dstep cur mb (leafMap m (k - 1) [cur])) sc else sc

def insPart (m : LMap) (k : Nat) (ins : Bool) (cur : Nat) (lat : List Nat) (mb : List (List Nat))
    (sc : Array (Array Nat)) : Array (Array Nat) :=
  if ins then lat.zipIdx.foldl (istep m k cur mb) sc else sc

/-- one vertex of the latter map. -/
def vstep (m : LMap) (k : Nat) (ins del : Bool) (sc : Array (Array Nat)) (p : Nat × List Nat) :
    Array (Array Nat) :=
  let mb := p.2.map fun w => leafMap m (k - 1) [w]
  delPart m k del p.1 p.2 mb (insPart m k ins p.1 p.2 mb ((pairsBelow mb.length).foldl (pstep p.1 p.2 mb) sc))

theorem calc_eq (m : LMap) (k : Nat) (ins del : Bool) :
    calculateIntersectionScore m k ins del =
      m.foldl (vstep m k ins del) (Array.replicate (4 ^ k) (Array.replicate 4 0)) := rfl

/-- what the loop over the vertices keeps: the arguments, the constants, the score table (a record equation: the other
fields are free). -/
def Outer (m : LMap) (k : Nat) (ins del : Bool) (sc : Array (Array Nat)) (e : SEnv) : Prop :=
  ShapeS (4 ^ k) sc ∧ e = { e with
    latter_map := lmapPV m, depth := .int ((k : Int) - 1), nucleotides := .str ['A', 'C', 'G', 'T'],
    has_insertion := .bool ins, has_deletion := .bool del, scores := scoresPV sc }

/-- … and, inside one vertex, the vertex and the leaf sets of its successors. -/
def St (m : LMap) (k : Nat) (ins del : Bool) (cur : Nat) (mb : List (List Nat)) (sc : Array (Array Nat))
    (e : SEnv) : Prop :=
  ShapeS (4 ^ k) sc ∧ e = { e with
    latter_map := lmapPV m, depth := .int ((k : Int) - 1), nucleotides := .str ['A', 'C', 'G', 'T'],
    has_insertion := .bool ins, has_deletion := .bool del, scores := scoresPV sc,
    current_index := .int (cur : Int), mutate_branches := .list (mb.map idxArrPV) }

/-- … and, inside the insertion loop, the position `fi.2` of the successor `fi.1` being looked at. -/
def StI (m : LMap) (k : Nat) (ins del : Bool) (cur : Nat) (mb : List (List Nat)) (fi : Nat × Nat)
    (sc : Array (Array Nat)) (e : SEnv) : Prop :=
  St m k ins del cur mb sc e ∧ e.index = .int (fi.2 : Int)

/-- … and, inside the deletion loop, the leaf set `db` of the vertex itself. -/
def StD (m : LMap) (k : Nat) (ins del : Bool) (cur : Nat) (mb : List (List Nat)) (db : List Nat)
    (sc : Array (Array Nat)) (e : SEnv) : Prop :=
  St m k ins del cur mb sc e ∧ e.delete_branch = .list [idxArrPV db]

theorem exists_weaken {ε} {r : R (Flow ε)} {P Q : ε → Prop} (hPQ : ∀ e, P e → Q e)
    (h : ∃ e', r = .ok (.norm e') ∧ P e') : ∃ e', r = .ok (.norm e') ∧ Q e' := by
  obtain ⟨e', h1, h2⟩ := h
  exact ⟨e', h1, hPQ e' h2⟩

theorem foldl_append_map {α β} (f : α → β) (l : List α) (init : List β) :
    l.foldl (fun acc x => acc ++ [f x]) init = init ++ l.map f := by
  rw [GzV.foldl_append_flatMap (fun x => [f x]), ← List.map_eq_flatMap]

/-! ### `mutate_branches.append(obtain_leaf_vertices(…))` (`for2`) -/

theorem for2_spec (m : LMap) (k : Nat) (ins del : Bool) (cur fuel w : Nat) (mb : List (List Nat))
    (sc : Array (Array Nat)) (e : SEnv) (h : St m k ins del cur mb sc e) :
    ∃ e', Gen.calculate_intersection_score.for2_body fuel (.int (w : Int)) e = .ok (.norm e') ∧
      St m k ins del cur (mb ++ [leafMap m (k - 1) [w]]) sc e' := by
  rw [h.2]
  simp only [Gen.calculate_intersection_score.for2_body, leaf_call, bnd_ok, pyAppend_list]
  refine ⟨_, rfl, h.1, ?_⟩
  simp only [List.map_append, List.map_cons, List.map_nil]

/-! ### the pairs of successors (`for3`) -/

theorem for3_spec {m : LMap} {k : Nat} (ins del : Bool) {cur : Nat} {lat : List Nat} {mb : List (List Nat)}
    (hget : LMap.get? m cur = some lat) (hcur : cur < 4 ^ k) (hlen : mb.length = lat.length) (fuel : Nat)
    (ij : Nat × Nat) (hij : ij.1 < mb.length ∧ ij.2 < mb.length) (sc : Array (Array Nat)) (e : SEnv)
    (h : St m k ins del cur mb sc e) :
    ∃ e', Gen.calculate_intersection_score.for3_body fuel (pairPV ij) e = .ok (.norm e') ∧
      St m k ins del cur mb (pstep cur lat mb sc ij) e' := by
  obtain ⟨h7, h⟩ := h
  have h7' := h7.addScore cur (lat.getD ij.1 0 % 4) (unionCount (mb.getD ij.1 []) (mb.getD ij.2 []))
  rw [h]
  simp only [Gen.calculate_intersection_score.for3_body, pairPV, pyUnpack_two_tup, bnd_ok, List.getD_cons_zero,
    List.getD_cons_succ, pyIndex_branches hij.1, pyIndex_branches hij.2, union_len]
  rw [addAt_expr hget hcur h7 (hlen ▸ hij.1), addAt_expr hget hcur h7' (hlen ▸ hij.2)]
  exact ⟨_, rfl, h7'.addScore _ _ _, rfl⟩

/-! ### insertion (`for5`, `for4`) -/

theorem for5_spec {m : LMap} {k : Nat} (ins del : Bool) {cur : Nat} {lat : List Nat} {mb : List (List Nat)}
    (hget : LMap.get? m cur = some lat) (hcur : cur < 4 ^ k) (hlen : mb.length = lat.length) (fuel : Nat)
    (fi : Nat × Nat) (hfi : fi.2 < lat.length ∧ lat.getD fi.2 0 = fi.1) (w : Nat) (sc : Array (Array Nat))
    (e : SEnv) (h : StI m k ins del cur mb fi sc e) :
    ∃ e', Gen.calculate_intersection_score.for5_body fuel (.int (w : Int)) e = .ok (.norm e') ∧
      StI m k ins del cur mb fi (wstep m k cur mb fi sc w) e' := by
  obtain ⟨⟨h7, h⟩, hi⟩ := h
  rw [h]
  simp only [Gen.calculate_intersection_score.for5_body, leaf_call, bnd_ok, hi,
    pyIndex_branches (hlen ▸ hfi.1), union_len]
  rw [addAt_expr hget hcur h7 hfi.1, hfi.2]
  exact ⟨_, rfl, ⟨h7.addScore _ _ _, rfl⟩, rfl⟩

theorem for4_spec {m : LMap} {k : Nat} (ins del : Bool) {cur : Nat} {lat : List Nat} {mb : List (List Nat)}
    (hget : LMap.get? m cur = some lat) (hcur : cur < 4 ^ k) (hlen : mb.length = lat.length) (fuel : Nat)
    (fi : Nat × Nat) (hfi : fi ∈ lat.zipIdx) (sc : Array (Array Nat)) (e : SEnv)
    (h : St m k ins del cur mb sc e) :
    ∃ e', Gen.calculate_intersection_score.for4_body fuel (.tup [.int (fi.2 : Int), .int (fi.1 : Int)]) e =
        .ok (.norm e') ∧ St m k ins del cur mb (istep m k cur mb sc fi) e' := by
  obtain ⟨h7, h⟩ := h
  rw [h]
  simp only [Gen.calculate_intersection_score.for4_body, pyUnpack_two_tup, bnd_ok, List.getD_cons_zero,
    List.getD_cons_succ, GzV.pyIn_lmapPV, istep]
  cases hg : LMap.get? m fi.1 with
  | none =>
    simp only [Option.isSome_none, Bool.false_eq_true, ↓reduceIte]
    exact ⟨_, rfl, h7, rfl⟩
  | some ls =>
    simp only [Option.isSome_some, ↓reduceIte, GzV.pyIndex_lmapPV hg, bnd_ok, pyIter_natsPV]
    refine exists_weaken (P := StI m k ins del cur mb fi (ls.foldl (wstep m k cur mb fi) sc)) (fun e h => h.1) ?_
    exact forLoop_rel_map (StI m k ins del cur mb fi) (wstep m k cur mb fi) (fun (n : Nat) => PV.int (n : Int))
      (fun w _ st e he => for5_spec ins del hget hcur hlen fuel fi (mem_zipIdx' hfi) w st e he) ⟨⟨h7, rfl⟩, rfl⟩

/-! ### deletion (`for6`) -/

theorem for6_spec {m : LMap} {k : Nat} (ins del : Bool) {cur : Nat} {lat : List Nat} {mb : List (List Nat)}
    (hget : LMap.get? m cur = some lat) (hcur : cur < 4 ^ k) (hlen : mb.length = lat.length) (fuel : Nat)
    (db : List Nat) (fi : Nat × Nat) (hfi : fi ∈ lat.zipIdx) (sc : Array (Array Nat)) (e : SEnv)
    (h : StD m k ins del cur mb db sc e) :
    ∃ e', Gen.calculate_intersection_score.for6_body fuel (.int (fi.2 : Int)) e = .ok (.norm e') ∧
      StD m k ins del cur mb db (dstep cur mb db sc fi) e' := by
  obtain ⟨⟨h7, h⟩, hd⟩ := h
  obtain ⟨hf1, hf2⟩ := mem_zipIdx' hfi
  rw [h]
  simp only [Gen.calculate_intersection_score.for6_body, bnd_ok, hd, pyIndex_branches (hlen ▸ hf1), union_len_list]
  rw [addAt_expr hget hcur h7 hf1, hf2]
  exact ⟨_, rfl, ⟨h7.addScore _ _ _, rfl⟩, rfl⟩

/-! ### the rest of one vertex (`k3`, `k4`, `k5`) -/

theorem k2_spec (fuel : Nat) (e : SEnv) : Gen.calculate_intersection_score.k2 fuel e = .ok (.norm e) := by
  simp only [Gen.calculate_intersection_score.k2, bnd_ok, ite_self]

theorem k3_spec {m : LMap} {k : Nat} (ins del : Bool) {cur : Nat} {lat : List Nat} {mb : List (List Nat)}
    (hget : LMap.get? m cur = some lat) (hcur : cur < 4 ^ k) (hlen : mb.length = lat.length) (fuel : Nat)
    (sc : Array (Array Nat)) (e : SEnv) (h : St m k ins del cur mb sc e) :
    ∃ e', Gen.calculate_intersection_score.k3 fuel e = .ok (.norm e') ∧
      Outer m k ins del (delPart m k del cur lat mb sc) e' := by
  obtain ⟨h7, h⟩ := h
  rw [h]
  simp only [Gen.calculate_intersection_score.k3, truthy_bool, bnd_ok, delPart]
  cases del with
  | false =>
    simp only [Bool.false_eq_true, ↓reduceIte, seq_norm, k2_spec]
    exact ⟨_, rfl, h7, rfl⟩
  | true =>
    simp only [↓reduceIte, leaf_call, bnd_ok, pyLen_list, List.length_map, hlen, pyRange1_nat,
      pyIter_list, range_eq_zipIdx]
    refine seq_norm_exists (Q := Outer m k ins true (lat.zipIdx.foldl (dstep cur mb (leafMap m (k - 1) [cur])) sc)) ?_
      (fun e1 g => ⟨e1, k2_spec fuel e1, g⟩)
    refine seq_norm_exists (Q := StD m k ins true cur mb (leafMap m (k - 1) [cur])
      (lat.zipIdx.foldl (dstep cur mb (leafMap m (k - 1) [cur])) sc)) ?_ ?_
    · exact forLoop_rel_map (StD m k ins true cur mb (leafMap m (k - 1) [cur]))
        (dstep cur mb (leafMap m (k - 1) [cur])) (fun (fi : Nat × Nat) => PV.int (fi.2 : Int))
        (fun fi hfi st e he => for6_spec ins true hget hcur hlen fuel _ fi hfi st e he)
        ⟨⟨h7, rfl⟩, rfl⟩
    · intro e1 g
      exact ⟨_, rfl, g.1.1, by rw [g.1.2]⟩

theorem k4_spec {m : LMap} {k : Nat} (ins del : Bool) {cur : Nat} {lat : List Nat} {mb : List (List Nat)}
    (hget : LMap.get? m cur = some lat) (hcur : cur < 4 ^ k) (hlen : mb.length = lat.length) (fuel : Nat)
    (sc : Array (Array Nat)) (e : SEnv) (h : St m k ins del cur mb sc e) :
    ∃ e', Gen.calculate_intersection_score.k4 fuel e = .ok (.norm e') ∧
      Outer m k ins del (delPart m k del cur lat mb (insPart m k ins cur lat mb sc)) e' := by
  obtain ⟨h7, h⟩ := h
  rw [h]
  simp only [Gen.calculate_intersection_score.k4, truthy_bool, bnd_ok, insPart]
  cases ins with
  | false =>
    simp only [Bool.false_eq_true, ↓reduceIte, seq_norm]
    exact k3_spec false del hget hcur hlen fuel sc _ ⟨h7, rfl⟩
  | true =>
    simp only [↓reduceIte, GzV.pyIndex_lmapPV hget, bnd_ok, pyEnumerate_natsPV, pyIter_list, enumFrom_nats]
    refine seq_norm_exists (Q := St m k true del cur mb (lat.zipIdx.foldl (istep m k cur mb) sc)) ?_
      (fun e1 g => k3_spec true del hget hcur hlen fuel _ e1 g)
    exact forLoop_rel_map (St m k true del cur mb) (istep m k cur mb)
      (fun (fi : Nat × Nat) => PV.tup [.int (fi.2 : Int), .int (fi.1 : Int)])
      (fun fi hfi st e he => for4_spec true del hget hcur hlen fuel fi hfi st e he) ⟨h7, rfl⟩

theorem k5_spec {m : LMap} {k : Nat} (ins del : Bool) {cur : Nat} {lat : List Nat} {mb : List (List Nat)}
    (hget : LMap.get? m cur = some lat) (hcur : cur < 4 ^ k) (hlen : mb.length = lat.length) (fuel : Nat)
    (sc : Array (Array Nat)) (e : SEnv) (h : St m k ins del cur mb sc e) :
    ∃ e', Gen.calculate_intersection_score.k5 fuel e = .ok (.norm e') ∧
      Outer m k ins del (delPart m k del cur lat mb (insPart m k ins cur lat mb
        ((pairsBelow mb.length).foldl (pstep cur lat mb) sc))) e' := by
  obtain ⟨h7, h⟩ := h
  rw [h]
  simp only [Gen.calculate_intersection_score.k5, pyLen_list, List.length_map, bnd_ok]
  rw [combinations_range]
  simp only [bnd_ok, pyIter_list]
  refine seq_norm_exists (Q := St m k ins del cur mb ((pairsBelow mb.length).foldl (pstep cur lat mb) sc)) ?_
    (fun e1 g => k4_spec ins del hget hcur hlen fuel _ e1 g)
  exact forLoop_rel_map (St m k ins del cur mb) (pstep cur lat mb) pairPV
    (fun ij hij st e he => for3_spec ins del hget hcur hlen fuel ij (mem_pairsBelow hij) st e he) ⟨h7, rfl⟩

/-! ### one vertex (`for1`) -/

theorem for1_spec {m : LMap} {k : Nat} (ins del : Bool) (hm : LMap.KeysNodup m) (hk : ∀ p ∈ m, p.1 < 4 ^ k)
    (fuel i : Nat) (p : Nat × List Nat) (hp : p ∈ m) (sc : Array (Array Nat)) (e : SEnv)
    (h : Outer m k ins del sc e) :
    ∃ e', Gen.calculate_intersection_score.for1_body fuel (.tup [.int (i : Int), .int (p.1 : Int)]) e =
        .ok (.norm e') ∧ Outer m k ins del (vstep m k ins del sc p) e' := by
  have hget := get?_of_mem hm hp
  obtain ⟨h7, h⟩ := h
  rw [h]
  simp only [Gen.calculate_intersection_score.for1_body, pyUnpack_two_tup, bnd_ok, List.getD_cons_zero,
    List.getD_cons_succ, GzV.pyIndex_lmapPV hget, pyIter_natsPV, vstep]
  refine seq_norm_exists (Q := St m k ins del p.1 (p.2.map fun w => leafMap m (k - 1) [w]) sc) ?_
    (fun e1 g => k5_spec ins del hget (hk p hp) (List.length_map _) fuel sc e1 g)
  rw [← List.nil_append (p.2.map fun w => leafMap m (k - 1) [w]), ← foldl_append_map]
  exact forLoop_rel_map (fun mb (e : SEnv) => St m k ins del p.1 mb sc e)
    (fun mb (w : Nat) => mb ++ [leafMap m (k - 1) [w]]) (fun (n : Nat) => PV.int (n : Int))
    (fun w _ st e he => for2_spec m k ins del p.1 fuel w st sc e he)
    ⟨h7, rfl⟩

end GzS

open GzS in
theorem tie_calculate_intersection_score (m : LMap) (k fuel : Nat) (ins del verbose : Bool)
    (hm : LMap.KeysNodup m) (hk : ∀ p ∈ m, p.1 < 4 ^ k) :
    Gen.calculate_intersection_score fuel (lmapPV m) (.int (k : Int)) (.bool ins) (.bool del) (.bool verbose) =
      .ok (scoresPV (calculateIntersectionScore m k ins del)) := by
  rw [calc_eq]
  simp only [Gen.calculate_intersection_score, Gen.calculate_intersection_score.body, keys_expr, bnd_ok,
    npSub_int, pyLen_ACGT4, pyPow_four_nat, npZeros2_scores, pyEnumerate_list, pyIter_list]
  apply callResult_seq_of_norm (Outer m k ins del
    (m.foldl (vstep m k ins del) (Array.replicate (4 ^ k) (Array.replicate 4 0))))
  · exact forLoop_rel_enum (Outer m k ins del) (vstep m k ins del) (fun p => PV.int (p.1 : Int)) 0
      (fun i p hp st e he => for1_spec ins del hm hk fuel i p hp st e he)
      ⟨ShapeS_init _, rfl⟩
  · intro e' h
    rw [h.2]
    simp only [Gen.calculate_intersection_score.k6, callResult_ret]

end Dsw.Tie
