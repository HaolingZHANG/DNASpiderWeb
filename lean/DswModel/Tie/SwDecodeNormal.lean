import DswModel.Tie.SwDecodeNp
import DswModel.Tie.OpAdd
import DswModel.Tie.OpMul
import DswModel.Tie.OpBits
/-!
# Translation tie — `decode` (dsw/spiderweb.py): normal mode

The walk loop (`decode.for1_body`, model `decodeWalk`), the Horner loop (`decode.for2_body`, model
`hornerStr`) and the final `number_to_bit` (`decode.k4`).
-/
namespace Dsw.Tie.DecodeTie
open Dsw Dsw.Py Dsw.Tie

theorem ent_inR {a : Acc} (ha : a.WF) {v : Int} (h : InR a v) {j : Nat} (hj : j ∈ a.live v) :
    InR a (a.ent v j) :=
  ha.ent_of_live h.1 h.2 hj

/-- one step of `decodeWalk`: the recorded pair (if any) and the next vertex. -/
def walkStep (a : Acc) (tbl : Option Tbl) (v : Int) (c : Char) : R (List (Nat × Nat) × Int) :=
  if (a.live v).length > 1 then
    match livePos a v c with
    | Option.none => .error .valueError
    | some p => .ok ([((a.live v).length, posToDigit tbl v (a.live v) p)], a.ent v ((nucIdx c).getD 0))
  else if (a.live v).length = 1 then
    if c = nucChar ((a.live v).getD 0 0) then .ok ([], a.ent v ((nucIdx c).getD 0)) else .error .valueError
  else .error .valueError

theorem decodeWalk_cons (a : Acc) (tbl : Option Tbl) (v : Int) (c : Char) (s : List Char) :
    decodeWalk a tbl v (c :: s) =
      match walkStep a tbl v c with
      | .error err => .error err
      | .ok (l, v') => (decodeWalk a tbl v' s).map (l ++ ·) := by
  unfold walkStep
  rw [decodeWalk]
  by_cases h1 : (a.live v).length > 1
  · simp only [h1, if_true]
    cases livePos a v c with
    | none => rfl
    | some p => rfl
  · simp only [h1, if_false]
    by_cases h2 : (a.live v).length = 1
    · simp only [h2, if_true]
      by_cases h3 : c = nucChar ((a.live v).getD 0 0)
      · simp only [h3, if_true]
        cases decodeWalk a tbl (a.ent v ((nucIdx (nucChar ((a.live v).getD 0 0))).getD 0)) s <;> rfl
      · simp only [h3, if_false]
    · simp only [h2, if_false]

theorem walkStep_ok {a : Acc} (ha : a.WF) {tbl : Option Tbl} {v : Int} (h : InR a v) {c : Char}
    {l : List (Nat × Nat)} {v' : Int} (hs : walkStep a tbl v c = .ok (l, v')) :
    InR a v' ∧ l.length ≤ 1 ∧ ∀ p ∈ l, 1 ≤ p.1 ∧ p.1 ≤ 4 ∧ p.2 < p.1 := by
  unfold walkStep at hs
  by_cases h1 : (a.live v).length > 1
  · simp only [h1, if_true] at hs
    cases hp : livePos a v c with
    | none => rw [hp] at hs; cases hs
    | some p =>
      rw [hp] at hs
      injection hs with hs
      injection hs with hl hv
      obtain ⟨j, hc, hj, _, hlt⟩ := livePos_some hp
      subst hl hv
      refine ⟨by rw [hc]; exact ent_inR ha h hj, by simp, ?_⟩
      intro q hq
      simp only [List.mem_singleton] at hq
      subst hq
      exact ⟨by simp only; omega, live_length_le a v, posToDigit_lt tbl v _ hlt⟩
  · simp only [h1, if_false] at hs
    by_cases h2 : (a.live v).length = 1
    · simp only [h2, if_true] at hs
      by_cases h3 : c = nucChar ((a.live v).getD 0 0)
      · rw [if_pos h3] at hs
        injection hs with hs
        injection hs with hl hv
        subst hl hv
        have hmem : (a.live v).getD 0 0 ∈ a.live v := by
          rw [getD_eq_getElem (by omega)]; exact List.getElem_mem _
        have hc : nucIdx c = some ((a.live v).getD 0 0) := by
          rw [h3]; exact Dsw.nucIdx_nucChar _ (live_lt_four a v hmem)
        refine ⟨by rw [hc]; exact ent_inR ha h hmem, by simp, by simp⟩
      · rw [if_neg h3] at hs; cases hs
    · simp only [h2, if_false] at hs; cases hs

theorem decodeWalk_bounds {a : Acc} (ha : a.WF) (tbl : Option Tbl) :
    ∀ (s : List Char) (v : Int), InR a v → ∀ saved, decodeWalk a tbl v s = .ok saved →
      saved.length ≤ s.length ∧ ∀ p ∈ saved, 1 ≤ p.1 ∧ p.1 ≤ 4 ∧ p.2 < p.1 := by
  intro s
  induction s with
  | nil =>
    intro v _ saved h
    rw [decodeWalk] at h
    injection h with h
    subst h
    simp
  | cons c s ih =>
    intro v hv saved h
    rw [decodeWalk_cons] at h
    cases hs : walkStep a tbl v c with
    | error err => rw [hs] at h; cases h
    | ok r =>
      obtain ⟨l, v'⟩ := r
      rw [hs] at h
      simp only at h
      obtain ⟨hv', hl1, hl⟩ := walkStep_ok ha hv hs
      cases hd : decodeWalk a tbl v' s with
      | error err => rw [hd] at h; cases h
      | ok rest =>
        rw [hd] at h
        injection h with h
        subst h
        obtain ⟨i1, i2⟩ := ih v' hv' rest hd
        refine ⟨by simp only [List.length_append, List.length_cons]; omega, ?_⟩
        intro p hp
        rcases List.mem_append.mp hp with hp | hp
        · exact hl p hp
        · exact i2 p hp

theorem hornerStr_spec (saved : List (Nat × Nat)) (h : ∀ p ∈ saved, 1 ≤ p.1 ∧ p.1 ≤ 4 ∧ p.2 < p.1) :
    (hornerStr saved).Canonical ∧ (hornerStr saved).toNat < 4 ^ saved.length := by
  induction saved with
  | nil => exact ⟨Dec.canonical_zero, by decide⟩
  | cons dn rest ih =>
    obtain ⟨hc, hv⟩ := ih (fun p hp => h p (by simp [hp]))
    obtain ⟨h1, h4, h2⟩ := h dn (by simp)
    obtain ⟨m1, m2⟩ := calculusMultiplication_spec (hornerStr rest) dn.1 hc (by omega)
    obtain ⟨a1, a2⟩ := calculusAddition_spec _ dn.2 m1 (by omega)
    rw [hornerStr_cons]
    refine ⟨a1, ?_⟩
    rw [a2, m2, List.length_cons, Nat.pow_succ]
    have e1 : (hornerStr rest).toNat * dn.1 + dn.1 ≤ 4 ^ rest.length * dn.1 := by
      have := Nat.mul_le_mul_right dn.1 (show (hornerStr rest).toNat + 1 ≤ 4 ^ rest.length from hv)
      rw [Nat.add_mul, Nat.one_mul] at this
      exact this
    have e2 : 4 ^ rest.length * dn.1 ≤ 4 ^ rest.length * 4 := Nat.mul_le_mul_left _ h4
    omega

/-- `saved_values`. -/
def savedPV (l : List (Nat × Nat)) : PV := .list (l.map fun p => PV.tup [.int (p.1 : Int), .int (p.2 : Int)])

/-- relation between the model state (current vertex, pairs recorded so far) and the fields the walk loop
reads (record-equation relation, see README.md, step 1). -/
def WalkRel (a : Acc) (tbl : Option Tbl) (verbose : Bool) (L : Nat) (v : Int) (acc : List (Nat × Nat))
    (e : Gen.decode.Env) : Prop :=
  e = { e with accessor := accPV a, vertex_index := .int v, nucleotides := .str ['A', 'C', 'G', 'T'],
               shuffles := tblPV tbl, verbose := .bool verbose, saved_values := savedPV acc,
               quotient := .str ['0'], bit_length := .int (L : Int) }

-- `k3`: `if verbose: monitor(...)`, the last statement of the walk loop's body
theorem k3_spec (fuel : Nat) (e : Gen.decode.Env) (b : Bool) (h : e.verbose = .bool b) :
    Gen.decode.k3 fuel e = .ok (.norm e) := by
  simp only [Gen.decode.k3, h, truthy_bool, bnd_ok]
  cases b <;> rfl

theorem savedPV_append (acc : List (Nat × Nat)) (d n : Nat) :
    PV.list ((acc.map fun p => PV.tup [.int (p.1 : Int), .int (p.2 : Int)]) ++ [.tup [.int (d : Int), .int (n : Int)]]) =
      savedPV (acc ++ [(d, n)]) := by
  simp [savedPV]

/-- `accessor[vertex_index][nucleotides.index(nucleotide)]`, the way the generated code spells it. -/
theorem next_vertex_spec {a : Acc} (ha : a.WF) {v : Int} (hv : InR a v) {c : Char} {j : Nat}
    (hc : nucIdx c = some j) :
    (bnd (pyIndex (accPV a) (.int v)) fun t => bnd (pyIndexOf (.str ['A', 'C', 'G', 'T']) (.str [c])) fun u =>
      pyIndex t u) = .ok (.int (a.ent v j)) := by
  rw [acc_index_nuc ha hv.1 hv.2 hc, hc]
  rfl

-- `k1`: `saved_values.append((len(used_indices), remainder))` and the move to the next vertex
theorem k1_spec (fuel : Nat) {a : Acc} (ha : a.WF) {tbl : Option Tbl} (verbose : Bool) (L : Nat) {v : Int}
    (hv : InR a v) (acc : List (Nat × Nat)) (e : Gen.decode.Env) (hr : WalkRel a tbl verbose L v acc e)
    (used : List Nat) (d : Nat) {c : Char} {j : Nat} (hc : nucIdx c = some j)
    (h1 : e.used_indices = idxPV used) (h2 : e.remainder = .int (d : Int)) (h3 : e.nucleotide = .str [c]) :
    ∃ e', Gen.decode.k1 fuel e = .ok (.norm e') ∧
      WalkRel a tbl verbose L (a.ent v j) (acc ++ [(used.length, d)]) e' := by
  rw [hr]
  simp only [Gen.decode.k1, h1, h2, h3, pyLen_idxPV, bnd_ok, savedPV,
    pyAppend_list, savedPV_append, next_vertex_spec ha hv hc]
  exact ⟨_, rfl, rfl⟩

-- `k2`: in the `len(used_indices) > 1` branch, from `if shuffles is not None:` to the end (ends in `k1`)
theorem k2_spec (fuel : Nat) {a : Acc} (ha : a.WF) {tbl : Option Tbl} (ht : TblOK tbl a) (verbose : Bool) (L : Nat)
    {v : Int} (hv : InR a v) (acc : List (Nat × Nat)) (e : Gen.decode.Env)
    (hr : WalkRel a tbl verbose L v acc e) {p : Nat} (hp : p < (a.live v).length) {c : Char} {j : Nat}
    (hc : nucIdx c = some j)
    (h1 : e.used_indices = idxPV (a.live v)) (h2 : e.remainder = .int (p : Int)) (h3 : e.nucleotide = .str [c]) :
    ∃ e', Gen.decode.k2 fuel e = .ok (.norm e') ∧
      WalkRel a tbl verbose L (a.ent v j)
        (acc ++ [((a.live v).length, posToDigit tbl v (a.live v) p)]) e' := by
  rw [hr]
  cases tbl with
  | none =>
    simp only [Gen.decode.k2, tblPV_none, pyIsNone_none, Bool.not_true, bnd_ok, Bool.false_eq_true, if_false,
      seq_norm]
    exact k1_spec fuel ha verbose L hv acc _ (by rfl) _ p hc h1 h2 h3
  | some t =>
    simp only [Gen.decode.k2, pyIsNone_tblPV, Option.isNone_some, Bool.not_false, bnd_ok, if_true, h1, h2,
      shuffles_posToDigit ht hv.1 hv.2 (fun j hj => live_lt_four a v hj) hp, seq_norm]
    exact k1_spec fuel ha verbose L hv acc _ (by rfl) _ _ hc rfl rfl h3

theorem for1_body_spec (fuel : Nat) {a : Acc} (ha : a.WF) {tbl : Option Tbl} (ht : TblOK tbl a)
    (verbose : Bool) (L : Nat) {v : Int} (hv : InR a v) (acc : List (Nat × Nat)) (e : Gen.decode.Env)
    (hr : WalkRel a tbl verbose L v acc e) (i : Nat) (c : Char) :
    match walkStep a tbl v c with
    | .error err => Gen.decode.for1_body fuel (.tup [.int (i : Int), .str [c]]) e = .error err
    | .ok (l, v') => ∃ e', Gen.decode.for1_body fuel (.tup [.int (i : Int), .str [c]]) e = .ok (.norm e') ∧
        WalkRel a tbl verbose L v' (acc ++ l) e' := by
  rw [hr]
  have hu4 : ∀ j ∈ a.live v, j < 4 := fun j hj => live_lt_four a v hj
  unfold walkStep
  simp only [Gen.decode.for1_body, pyUnpack_two_tup, bnd_ok, getD_cons_zero', getD_cons_one', used_spec ha hv,
    pyLen_idxPV, pyGt_nat_one, pyEq_def, eqb_nat_lit_one]
  by_cases h1 : 1 < (a.live v).length
  · simp only [h1, decide_true, if_true, pyMap_nucs hu4, bnd_ok, pyIn_nucs]
    cases hp : livePos a v c with
    | none => simp only [Option.isSome_none, Bool.false_eq_true, if_false, seq_error]
    | some p =>
      obtain ⟨j, hc, hj, _, hlt⟩ := livePos_some hp
      simp only [Option.isSome_some, if_true, pyIndexOf_nucs hp, hc, Option.getD_some]
      exact seq_norm_exists (k2_spec fuel ha ht verbose L hv acc _ (by rfl) hlt hc (by rfl) (by rfl) (by rfl))
        (fun e1 h1 => ⟨e1, k3_spec fuel e1 verbose (congrArg (·.verbose) h1), h1⟩)
  · simp only [h1, decide_false, Bool.false_eq_true, if_false]
    by_cases h2 : (a.live v).length = 1
    · obtain ⟨j0, hl⟩ := List.length_eq_one_iff.mp h2
      have hj0 : j0 < 4 := hu4 j0 (by rw [hl]; exact List.mem_singleton_self j0)
      have hc0 : nucIdx (nucChar j0) = some j0 := nucIdx_nucChar hj0
      simp only [hl, List.length_singleton, decide_true, if_true, pyIndex_idxPV_cons_zero, pyIndex_ACGT hj0,
        bnd_ok, eqb_char_str, List.getD_cons_zero]
      by_cases h3 : c = nucChar j0
      · subst h3
        simp only [decide_true, if_true, next_vertex_spec ha hv hc0, bnd_ok, seq_norm, hc0, Option.getD_some,
          List.append_nil]
        exact ⟨_, k3_spec fuel _ verbose rfl, rfl⟩
      · simp only [h3, decide_false, Bool.false_eq_true, if_false, seq_error]
    · simp only [h2, decide_false, Bool.false_eq_true, if_false, seq_error]
theorem for1_loop (fuel : Nat) {a : Acc} (ha : a.WF) {tbl : Option Tbl} (ht : TblOK tbl a)
    (verbose : Bool) (L : Nat) : ∀ (s : List Char) (n : Nat) (v : Int), InR a v →
      ∀ (acc : List (Nat × Nat)) (e : Gen.decode.Env), WalkRel a tbl verbose L v acc e →
      match decodeWalk a tbl v s with
      | .error err =>
        forLoop (Gen.decode.for1_body fuel) (enumFrom n (s.map fun c => PV.str [c])) e = .error err
      | .ok saved => ∃ e' v', forLoop (Gen.decode.for1_body fuel) (enumFrom n (s.map fun c => PV.str [c])) e =
          .ok (.norm e') ∧ WalkRel a tbl verbose L v' (acc ++ saved) e' := by
  intro s
  induction s with
  | nil =>
    intro n v _ acc e hr
    rw [decodeWalk]
    exact ⟨e, v, rfl, by simpa using hr⟩
  | cons c s ih =>
    intro n v hv acc e hr
    rw [decodeWalk_cons]
    have hb := for1_body_spec fuel ha ht verbose L hv acc e hr n c
    cases hs : walkStep a tbl v c with
    | error err =>
      rw [hs] at hb
      exact forLoop_cons_error hb _
    | ok r =>
      obtain ⟨l, v'⟩ := r
      rw [hs] at hb
      obtain ⟨e1, hb1, hr1⟩ := hb
      have hv' := (walkStep_ok ha hv hs).1
      have := ih (n + 1) v' hv' (acc ++ l) e1 hr1
      simp only [List.map_cons, enumFrom_cons, forLoop_cons_norm hb1]
      cases hd : decodeWalk a tbl v' s with
      | error err => rw [hd] at this; exact this
      | ok rest =>
        rw [hd] at this
        simpa only [R_map_ok, List.append_assoc] using this

/-- invariant of the Horner loop: `quotient` is the decimal string `q`, a list of digits; `bit_length` is untouched. -/
def HornerRel (L : Nat) (q : Dec) (e : Gen.decode.Env) : Prop :=
  e.quotient = dstr q ∧ e.bit_length = .int (L : Int) ∧ Digits q

theorem for2_body_spec (fuel : Nat) (hf : 3 ≤ fuel) (L i : Nat) (dn : Nat × Nat) (hd : dn.1 < 10) (hn : dn.2 < 10)
    (q : Dec) (e : Gen.decode.Env) (hr : HornerRel L q e) :
    ∃ e', Gen.decode.for2_body fuel (.tup [.int (i : Int), .tup [.int (dn.1 : Int), .int (dn.2 : Int)]]) e =
        .ok (.norm e') ∧ HornerRel L (calculusAddition (calculusMultiplication q dn.1) dn.2) e' := by
  obtain ⟨hquo, hbl, hdig⟩ := hr
  have hm : Digits (calculusMultiplication q dn.1) := BitsTie.Digits_calculusMultiplication hdig hd
  have hmul : Gen.calculus_multiplication fuel (dstr q) (.str [digitChar dn.1]) =
      .ok (dstr (calculusMultiplication q dn.1)) := tie_calculus_multiplication q dn.1 fuel hdig hd (by omega)
  have hadd : Gen.calculus_addition fuel (dstr (calculusMultiplication q dn.1)) (.str [digitChar dn.2]) =
      .ok (dstr (calculusAddition (calculusMultiplication q dn.1) dn.2)) :=
    tie_calculus_addition _ dn.2 fuel hm hn hf
  simp only [Gen.decode.for2_body, pyUnpack_two_tup, bnd_ok, getD_cons_zero', getD_cons_one', hquo,
    pyStr_digit hd, hmul, pyStr_digit hn, hadd]
  exact ⟨_, rfl, rfl, hbl, BitsTie.Digits_calculusAddition hm hn⟩

theorem for2_loop (fuel : Nat) (hf : 3 ≤ fuel) (L : Nat) (saved : List (Nat × Nat))
    (hs : ∀ p ∈ saved, p.1 < 10 ∧ p.2 < 10) (q : Dec) (e : Gen.decode.Env) (h0 : HornerRel L q e) :
    ∃ e', forLoop (Gen.decode.for2_body fuel)
        (enumFrom 0 (saved.map fun p => PV.tup [.int (p.1 : Int), .int (p.2 : Int)])) e = .ok (.norm e') ∧
      HornerRel L (saved.foldl (fun q dn => calculusAddition (calculusMultiplication q dn.1) dn.2) q) e' :=
  forLoop_rel_enum (HornerRel L) (fun q dn => calculusAddition (calculusMultiplication q dn.1) dn.2)
    (fun p => PV.tup [.int (p.1 : Int), .int (p.2 : Int)]) 0
    (fun i p hp q e hr => for2_body_spec fuel hf L i p (hs p hp).1 (hs p hp).2 q e hr) h0

/-- `k4`: `binary_message = array(number_to_bit(quotient, bit_length))`. -/
theorem k4_spec (fuel L : Nat) (q : Dec) (hq : q.Canonical) (hfuel : digitsFuel q + 1 ≤ fuel)
    (e : Gen.decode.Env) (hquo : e.quotient = dstr q) (hbl : e.bit_length = .int (L : Int)) :
    ∃ e', Gen.decode.k4 fuel e = .ok (.norm e') ∧ e'.binary_message = bitsPV (numberToBitInt q.toNat L) := by
  simp only [Gen.decode.k4, hquo, hbl,
    tie_number_to_bit_str q L fuel _ hq.digits (numberToBitStr_eq q hq L) hfuel, bnd_ok, npArray_natsPV]
  exact ⟨_, rfl, rfl⟩

/-- `k5`: the Horner loop over `saved_values[::-1]`, then `k4`. -/
theorem k5_spec (fuel : Nat) (hf : 3 ≤ fuel) (L : Nat) (saved : List (Nat × Nat))
    (hs : ∀ p ∈ saved, p.1 < 10 ∧ p.2 < 10) (hcan : (hornerStr saved).Canonical)
    (hfuel : digitsFuel (hornerStr saved) + 1 ≤ fuel)
    (e : Gen.decode.Env) (hsv : e.saved_values = savedPV saved) (hquo : e.quotient = .str ['0'])
    (hbl : e.bit_length = .int (L : Int)) :
    ∃ e', Gen.decode.k5 fuel e = .ok (.norm e') ∧
      e'.binary_message = bitsPV (numberToBitInt (hornerStr saved).toNat L) := by
  simp only [Gen.decode.k5, hsv, savedPV, pyReverse_list, bnd_ok, pyEnumerate_list, pyIter_list,
    ← List.map_reverse]
  refine seq_norm_exists (for2_loop fuel hf L saved.reverse
    (fun p hp => hs p (List.mem_reverse.mp hp)) [0] e ⟨by rw [hquo, str_lit_zero], hbl, by simp⟩) ?_
  intro e1 h1
  exact k4_spec fuel L _ hcan hfuel e1 h1.1 h1.2.1

end Dsw.Tie.DecodeTie
