import DswModel.Tie.OpLemmas
import DswModel.Tie.OpAdd
import DswModel.Tie.OpMul
import DswModel.Tie.OpDiv
/-!
# Translation tie — `dna_to_number`, `number_to_dna`

The generated definitions compute the model functions `dnaToNumberStr`, `dnaToNumberInt`,
`numberToDnaStr`, `numberToDnaInt` (a character outside `ACGT` is `ValueError` on both sides).

`dna_to_number`: the `map(nucleotides.index, …)` is `nucValues` (`mapM_index`); both `for` loops are left
folds (`forLoop_rel_map`).  `number_to_dna`: the two `while` loops are those of `number_to_bit` in base 4
(`whileLoop_digitsStr`, `whileLoop_digitsNat`); `k1` is `padDna`.
-/
namespace Dsw.Tie
open Dsw Dsw.Py

namespace DnaTie

theorem nucValues_lt {s : List Char} {vs : List Nat} (h : nucValues s = .ok vs) : ∀ v ∈ vs, v < 4 := by
  by_cases hd : ∀ c ∈ s, (nucIdx c).isSome = true
  · rw [nucValues_ok s hd] at h
    exact Except.ok.inj h ▸ nucVals_lt s
  · rw [nucValues_error s hd] at h
    cases h

/-- `str(len(nucleotides))`. -/
theorem len_nuc_str : (bnd (pyLen (.str ['A', 'C', 'G', 'T'])) fun t => pyStr t) = .ok (dstr [4]) := rfl

/-- `len(nucleotides)`. -/
theorem len_nuc : pyLen (.str ['A', 'C', 'G', 'T']) = .ok (.int 4) := rfl

theorem pyTypeIs_dstr_str (n : Dec) : pyTypeIs (dstr n) "str" = true := rfl

/-- `map(nucleotides.index, dna_sequence)` is `nucValues`. -/
theorem mapM_index (s : List Char) :
    mapM' (fun x => pyIndexOf (.str ['A', 'C', 'G', 'T']) x) (s.map fun c => PV.str [c]) =
      (nucValues s).map fun vs => vs.map fun (n : Nat) => PV.int (n : Int) := by
  show mapM' (fun x => pyStrIndex (.str ['A', 'C', 'G', 'T']) x) (s.map fun c => PV.str [c]) = _
  induction s with
  | nil => rfl
  | cons c s ih =>
    rw [List.map_cons, mapM'_cons, pyStrIndex_ACGT, nucValues, ih]
    cases nucIdx c with
    | none => rfl
    | some j =>
      simp only [bnd_ok]
      cases nucValues s <;> rfl

/-- string path: the environment holds the decimal string `st`. -/
def StrRel (st : Dec) (e : Gen.dna_to_number.Env) : Prop :=
  e.nucleotides = .str ['A', 'C', 'G', 'T'] ∧ e.decimal_number = dstr st ∧ Digits st

theorem for1_body_spec (fuel : Nat) (hf : 3 ≤ fuel) (v : Nat) (hv : v < 10) (st : Dec)
    (e : Gen.dna_to_number.Env) (hr : StrRel st e) :
    ∃ e', Gen.dna_to_number.for1_body fuel (.int (v : Int)) e = .ok (.norm e') ∧
      StrRel (calculusAddition (calculusMultiplication st 4) v) e' := by
  obtain ⟨hnuc, hdec, hdig⟩ := hr
  have hm : Digits (calculusMultiplication st 4) := BitsTie.Digits_calculusMultiplication hdig (by decide)
  simp only [Gen.dna_to_number.for1_body, hnuc, hdec, len_nuc_str, bnd_ok,
    tie_calculus_multiplication st 4 fuel hdig (by decide) (Nat.le_of_succ_le hf), pyStr_digit hv, ← dstr_singleton,
    tie_calculus_addition _ v fuel hm hv hf]
  exact ⟨_, rfl, rfl, rfl, BitsTie.Digits_calculusAddition hm hv⟩

/-- integer path: the environment holds the number `st`. -/
def IntRel (st : Nat) (e : Gen.dna_to_number.Env) : Prop :=
  e.decimal_number = .int (st : Int)

theorem for2_body_spec (fuel : Nat) (v : Nat) (st : Nat) (e : Gen.dna_to_number.Env) (hr : IntRel st e) :
    ∃ e', Gen.dna_to_number.for2_body fuel (.int (v : Int)) e = .ok (.norm e') ∧ IntRel (st * 4 + v) e' := by
  have hcast : ((st : Int) * 4 + (v : Int)) = ((st * 4 + v : Nat) : Int) := by push_cast; rfl
  have hdec : e.decimal_number = .int (st : Int) := hr
  simp only [Gen.dna_to_number.for2_body, hdec, pyMul_int, pyAdd_int, bnd_ok, hcast]
  exact ⟨_, rfl, rfl⟩

def nucsPV (l : List Nat) : PV := .list (l.map fun j => PV.str [nucChar j])

/-- the environment of both loops (as one equation, like `BitsTie.LoopRel`): the number still to convert, the
letters so far, the alphabet, the width. -/
def LoopRel (L : Nat) (v : PV) (acc : List Nat) (e : Gen.number_to_dna.Env) : Prop :=
  e = { e with decimal_number := v, one_array := nucsPV acc, nucleotides := .str ['A', 'C', 'G', 'T'],
               dna_length := .int (L : Int) }

theorem while1_cond_spec (fuel L : Nat) (n : Dec) (acc : List Nat) (e : Gen.number_to_dna.Env) (hn : Digits n)
    (h : LoopRel L (dstr n) acc e) :
    Gen.number_to_dna.while1_cond fuel e = .ok (!decide (n = [0])) := by
  rw [h]
  simp only [Gen.number_to_dna.while1_cond, pyNe_def, str_lit_zero, eqb_dstr hn (show Digits [0] by simp)]

theorem while1_body_spec (fuel L : Nat) (n : Dec) (acc : List Nat) (e : Gen.number_to_dna.Env) (hn : Digits n)
    (h : LoopRel L (dstr n) acc e) :
    ∃ e', Gen.number_to_dna.while1_body fuel e = .ok (.norm e') ∧
      LoopRel L (dstr (calculusDivision n 4).1) ((calculusDivision n 4).2.toNat :: acc) e' := by
  rw [h]
  obtain ⟨_, r, hr, h2⟩ := BitsTie.calculusDivision_digits hn (b := 4) (by decide) (by decide)
  have hint : pyInt (dstr [r]) = .ok (.int (r : Int)) := pyInt_digit (Nat.lt_trans hr (by decide))
  simp only [Gen.number_to_dna.while1_body, len_nuc_str, bnd_ok,
    tie_calculus_division n 4 fuel hn (by decide), h2, pyUnpack_two_tup, getD_cons_zero', getD_cons_one',
    hint, pyIndex_ACGT hr, nucsPV, pyInsert_list_zero, Dec.toNat_single]
  exact ⟨_, rfl, rfl⟩

theorem while2_cond_spec (fuel L n : Nat) (acc : List Nat) (e : Gen.number_to_dna.Env)
    (h : LoopRel L (.int (n : Int)) acc e) :
    Gen.number_to_dna.while2_cond fuel e = .ok (decide (0 < n)) := by
  rw [h]
  simp only [Gen.number_to_dna.while2_cond, pyGt_nat_zero]

theorem while2_body_spec (fuel L n : Nat) (acc : List Nat) (e : Gen.number_to_dna.Env)
    (h : LoopRel L (.int (n : Int)) acc e) :
    ∃ e', Gen.number_to_dna.while2_body fuel e = .ok (.norm e') ∧
      LoopRel L (.int ((n / 4 : Nat) : Int)) (n % 4 :: acc) e' := by
  rw [h]
  simp only [Gen.number_to_dna.while2_body, len_nuc, bnd_ok, pyDivmod_nat_four,
    pyUnpack_two_tup, getD_cons_zero', getD_cons_one', pyIndex_ACGT (Nat.mod_lt n (by decide)),
    nucsPV, pyInsert_list_zero]
  exact ⟨_, rfl, rfl⟩

/-- `k1`: join the letters, pad on the left with `A`. -/
theorem k1_spec (fuel : Nat) (one : List Nat) (L : Nat) (e : Gen.number_to_dna.Env) {v : PV}
    (h : LoopRel L v one e) :
    Gen.number_to_dna.k1 fuel e = .ok (.ret (cstr (padDna one L))) := by
  rw [h]
  simp only [Gen.number_to_dna.k1, nucsPV, pyJoin_empty_chars nucChar one, bnd_ok,
    pyIndex_str_cons_zero, pyLen_str, pySub_int, pyMul_str_int, replicateList_singleton,
    toNat_sub_natCast, pyAdd_str, List.length_map, padDna, cstr]

end DnaTie

open DnaTie

theorem tie_dna_to_number_str (s : List Char) (fuel : Nat) (hf : 3 ≤ fuel) :
    Gen.dna_to_number fuel (cstr s) (.bool true) = (dnaToNumberStr s).map dstr := by
  simp only [Gen.dna_to_number, Gen.dna_to_number.body, cstr, pyMap_str, mapM_index, dnaToNumberStr]
  cases hnv : nucValues s with
  | error err => rfl
  | ok vs =>
    simp only [R_map_ok, bnd_ok, pyList_list, truthy_bool, if_true, pyIter_list]
    have hvs : ∀ v ∈ vs, v < 10 := fun v hv => Nat.lt_trans (nucValues_lt hnv v hv) (by decide)
    apply callResult_seq_of_norm
      (StrRel (vs.foldl (fun n v => calculusAddition (calculusMultiplication n 4) v) [0]))
    · exact forLoop_rel_map StrRel _ (fun (n : Nat) => PV.int (n : Int))
        (fun a ha st e hr => for1_body_spec fuel hf a (hvs a ha) st e hr) ⟨rfl, rfl, Digits_singleton.mpr (by decide)⟩
    · intro e' h
      simp only [Gen.dna_to_number.k1, h.2.1, callResult_ret]

theorem tie_dna_to_number_int (s : List Char) (fuel : Nat) :
    Gen.dna_to_number fuel (cstr s) (.bool false) = (dnaToNumberInt s).map (fun (n : Nat) => PV.int (n : Int)) := by
  simp only [Gen.dna_to_number, Gen.dna_to_number.body, cstr, pyMap_str, mapM_index, dnaToNumberInt]
  cases hnv : nucValues s with
  | error err => rfl
  | ok vs =>
    simp only [R_map_ok, bnd_ok, pyList_list, truthy_bool, Bool.false_eq_true, if_false, pyIter_list]
    apply callResult_seq_of_norm (IntRel (vs.foldl (fun n v => n * 4 + v) 0))
    · exact forLoop_rel_map IntRel _ (fun (n : Nat) => PV.int (n : Int))
        (fun a _ st e hr => for2_body_spec fuel a st e hr) rfl
    · intro e' h
      have h' : e'.decimal_number = .int ((vs.foldl (fun n v => n * 4 + v) 0 : Nat) : Int) := h
      simp only [Gen.dna_to_number.k1, h', callResult_ret]

theorem tie_number_to_dna_str (n : Dec) (L fuel : Nat) (r : List Char) (hn : Digits n)
    (h : numberToDnaStr n L = .ok r) (hf : digitsFuel n + 1 ≤ fuel) :
    Gen.number_to_dna fuel (dstr n) (.int L) = .ok (cstr r) := by
  unfold numberToDnaStr at h
  cases hl : digitsStrLoop 4 (digitsFuel n) n [] with
  | error err => rw [hl] at h; cases h
  | ok one =>
    rw [hl] at h
    injection h with h
    subst h
    simp only [Gen.number_to_dna, Gen.number_to_dna.body, pyTypeIs_dstr_str, bnd_ok, if_true]
    apply callResult_seq_of_norm (LoopRel L (dstr [0]) one)
    · exact whileLoop_digitsStr (by decide) (by decide) (fun n => LoopRel L (dstr n)) (while1_cond_spec fuel L)
        (while1_body_spec fuel L) (digitsFuel n) n [] one fuel _ hn rfl hl (by omega)
    · intro e' h'
      rw [k1_spec fuel one L e' h']; rfl

theorem tie_number_to_dna_int (n L fuel : Nat) (hf : Nat.log2 n + 2 ≤ fuel) :
    Gen.number_to_dna fuel (.int n) (.int L) = .ok (cstr (numberToDnaInt n L)) := by
  simp only [Gen.number_to_dna, Gen.number_to_dna.body, pyTypeIs_int_str, pyTypeIs_int_int, bnd_ok,
    Bool.false_eq_true, if_false, if_true]
  apply callResult_seq_of_norm (LoopRel L (.int ((0 : Nat) : Int)) (digitsNat 4 n []))
  · exact whileLoop_digitsNat (by decide) (fun n => LoopRel L (.int (n : Int))) (while2_cond_spec fuel L)
      (while2_body_spec fuel L) (Nat.log2 n + 1) n [] fuel _ rfl Nat.lt_log2_self (by omega)
  · intro e' h'
    rw [k1_spec fuel _ L e' h']; rfl

theorem tie_number_to_dna_other (v L : PV) (fuel : Nat) (h1 : ∀ s, v ≠ .str s) (h2 : ∀ i, v ≠ .int i)
    (h3 : v ≠ .unbound) :
    Gen.number_to_dna fuel v L = .error .valueError := by
  cases v with
  | str s => exact absurd rfl (h1 s)
  | int i => exact absurd rfl (h2 i)
  | list l => rfl
  | tup l => rfl
  | bool b => rfl
  | none => rfl
  | unbound => exact absurd rfl h3
  | arr l => rfl
  | set l => rfl
  | dict ks vs => rfl
  | rat n d => rfl

end Dsw.Tie
