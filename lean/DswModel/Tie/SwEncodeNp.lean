import DswModel.Tie.SwDecodeNp
/-!
# Translation tie — `encode`: the NumPy part

The idioms of `Tie/NpLemmas.lean` for a vertex given as a `Nat` below `a.size`, as the generated `encode`
has it.
-/
namespace Dsw.Tie
open Dsw Dsw.Py

namespace EncNp

@[simp] theorem asInt?_arr (l : List PV) : (PV.arr l).asInt? = Option.none := rfl
@[simp] theorem pyLen_arr (l : List PV) : pyLen (.arr l) = .ok (.int l.length) := rfl
@[simp] theorem pyIter_arr (l : List PV) : pyIter (.arr l) = .ok l := rfl

open DecodeTie

theorem pyIndex_idxPV {l : List Nat} {i : Nat} (h : i < l.length) :
    pyIndex (idxPV l) (.int i) = .ok (.int ((l.getD i 0 : Nat) : Int)) :=
  pyIndex_nats_nat h

theorem pyIndex_idxPV_zero {l : List Nat} (h : 0 < l.length) :
    pyIndex (idxPV l) (.int 0) = .ok (.int ((l.getD 0 0 : Nat) : Int)) :=
  pyIndex_nats_nat h

theorem pyLen_bitsPV (bits : List Nat) : pyLen (bitsPV bits) = .ok (.int bits.length) :=
  Dsw.Tie.pyLen_bitsPV bits

theorem pyIndex_bitsPV {bits : List Nat} {i : Nat} (h : i < bits.length) :
    pyIndex (bitsPV bits) (.int i) = .ok (.int ((bits.getD i 0 : Nat) : Int)) :=
  pyIndex_nats_nat h

@[simp] theorem npAdd_str (s t : List Char) : npAdd (.str s) (.str t) = .ok (.str (s ++ t)) := rfl
@[simp] theorem npAdd_int (a b : Int) : npAdd (.int a) (.int b) = .ok (.int (a + b)) := rfl
@[simp] theorem npMul_int (a b : Int) : npMul (.int a) (.int b) = .ok (.int (a * b)) := rfl

theorem pyIsNone_accPV (t : Acc) : pyIsNone (accPV t) = false := rfl
theorem pyIsNone_tblPV_none : pyIsNone (tblPV Option.none) = true := rfl
theorem pyIsNone_tblPV_some (t : Tbl) : pyIsNone (tblPV (some t)) = false := rfl

/-- `accessor[v][j]`. -/
theorem ent_spec (a : Acc) (ha : a.WF) {v : Nat} (hv : v < a.size) {j : Nat} (hj : j < 4) :
    (bnd (pyIndex (accPV a) (.int v)) fun t => pyIndex t (.int j)) = .ok (.int (a.ent v j)) :=
  acc_index_index ha (inR_natCast hv).1 (inR_natCast hv).2 hj

theorem ent_live (a : Acc) (ha : a.WF) {v : Nat} (hv : v < a.size) {j : Nat} (hj : j ∈ a.live v) :
    ∃ w : Nat, a.ent v j = (w : Int) ∧ w < a.size := by
  have := ha.ent_of_live (inR_natCast hv).1 (inR_natCast hv).2 hj
  exact ⟨(a.ent v j).toNat, by omega, by omega⟩

end EncNp

end Dsw.Tie
