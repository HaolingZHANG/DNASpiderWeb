import DswModel.Tie.SwFind
import DswModel.Tie.SwValid
import DswModel.Tie.SwCoding
import DswModel.Tie.GzArith
import DswModel.Tie.GzViews
import DswModel.Tie.GzScore
import DswModel.Tie.SwEncode
import DswModel.Tie.SwCorollaries
import DswModel.Tie.RepCorollaries
import DswModel.Props.C02
import DswModel.Props.C03
import DswModel.Props.C03b
import DswModel.Props.C04
import DswModel.Props.C11
import DswModel.Props.C13
import DswModel.Props.C14
import DswModel.Props.C19
import DswModel.Props.EndToEnd
/-!
# C02, C03, C04, C11, C13, C14 and C19 about the generated definitions of `dsw/spiderweb.py` and `dsw/graphized.py`

The theorems of `Props/C02 … C19, EndToEnd` about the model, composed with the ties: every theorem here speaks about
`Gen.*`, what the Python source computes as translated. Results of one generated function are fed to the next as values
of the embeddings (`maskPV false m`, `.tup [d, accPV a]`, `lmapPV lm`); every `.ok` result has that form
(`gen_C11_mask`, `gen_C03_holds`, `gen_C14_latter_map_content`) and the embeddings are injective, so nothing is lost.
`connect_coding_graph` returns `(d, accessor)`, where `d` is an index array for threshold 1 and a mask otherwise;
`Listed d t v` is how "a retained start vertex" is said on that value.

Not transported:
* `C14_matrix_roundtrip`, `C14_matrix_content`, `C14_illegal_matrix`, `C13_wfdb_matrix` — the matrix converters
  (`accessor_to_adjacency_matrix`, `adjacency_matrix_to_accessor`) have no tie;
* the filter here is an arbitrary predicate behind a table (`tablePV k P`); `gen_C02_whole` takes the model-level
  configuration `c : FilterCfg`. The generated `LocalBioFilter` is put in front in `Tie/BfPipeline.lean`, and
  `C02_ctor_partial` is in `Tie/BfCorollaries.lean`;
* `C13_wfdb_remove_nasty_arc`;
* `C03_pure` (the input mask is not modified) — an aliasing fact; values of the embedding are immutable;
* `C03_trimLoop`, `C13_wfdb_setEnt`, `C13_idx_of_kmer`, `C13_kmer_of_idx` — model-internal functions and index
  arithmetic with no generated counterpart of their own (the k-mer conversions are C16, `Tie/Corollaries.lean`);
* threshold `0` of `connect_coding_graph` — the model theorems need `1 ≤ t`. (`C03_statement` also assumes `t ≤ 4`,
  which its proof does not use; `gen_C03_holds` does not assume it.)
-/
namespace Dsw.Tie
open Dsw Dsw.Py

/-- `v` is one of the vertices listed by the vertex description `d` that
`connect_coding_graph(…, threshold=t)` returns: an entry of the index array for threshold 1, otherwise a
truthy cell of the mask. -/
def Listed (d : PV) (t v : Nat) : Prop :=
  ∃ items, d = .arr items ∧
    if t = 1 then PV.int (v : Int) ∈ items else v < items.length ∧ (items.getD v .none).truthy = true

namespace GraphCor
open SwCor RepCor

theorem map_error_inv {α β : Type} {x : R α} {f : α → β} {e : PyErr} (h : x.map f = .error e) : x = .error e := by
  cases x with
  | error e' => rw [R_map_error] at h; cases h; rfl
  | ok a => cases h

theorem ok_of_tie {α : Type} {g : R PV} {x : R α} {emb : α → PV} {a : α} (tie : g = x.map emb) (h : x = .ok a) :
    g = .ok (emb a) := by
  rw [tie, h]
  rfl

theorem arr_map_inj {α : Type} {f : α → PV} (hf : ∀ x y, f x = f y → x = y) {l l' : List α}
    (h : PV.arr (l.map f) = .arr (l'.map f)) : l = l' :=
  (List.map_inj_right hf).mp (PV.arr.inj h)

theorem accPV_inj {a b : Acc} (h : accPV a = accPV b) : a = b :=
  Array.toList_inj.mp (arr_map_inj (f := fun r : Array Int => PV.arr (r.toList.map fun (x : Int) => PV.int x))
    (fun _ _ hr => Array.toList_inj.mp (arr_map_inj (fun _ _ => PV.int.inj) hr)) h)

theorem maskPV_false_inj {m m' : Mask} (h : maskPV false m = maskPV false m') : m = m' :=
  Array.toList_inj.mp (arr_map_inj (f := PV.bool) (fun _ _ => PV.bool.inj) h)

theorem idxArrPV_mem {vs : List Nat} {v : Nat} :
    PV.int (v : Int) ∈ vs.map (fun (w : Nat) => PV.int (w : Int)) ↔ v ∈ vs := by
  rw [List.mem_map]
  constructor
  · rintro ⟨w, hw, he⟩
    exact Int.ofNat.inj (PV.int.inj he) ▸ hw
  · intro h
    exact ⟨v, h, rfl⟩

theorem listed_iff {d : PV} {vs : List Nat} {n t v : Nat} (hd : Denotes d vs n t) (hvs : ∀ w ∈ vs, w < n) :
    Listed d t v ↔ v ∈ vs := by
  unfold Denotes at hd
  unfold Listed
  by_cases ht : t = 1
  · rw [if_pos ht] at hd
    subst hd
    simp only [ht, if_true, idxArrPV]
    constructor
    · rintro ⟨items, he, hmem⟩
      rw [← PV.arr.inj he] at hmem
      exact idxArrPV_mem.mp hmem
    · intro h
      exact ⟨_, rfl, idxArrPV_mem.mpr h⟩
  · rw [if_neg ht] at hd
    obtain ⟨items, rfl, hlen, hcell⟩ := hd
    simp only [ht, if_false]
    constructor
    · rintro ⟨items', he, hlt, htr⟩
      rw [← PV.arr.inj he, hlen] at hlt
      rw [← PV.arr.inj he, hcell v hlt] at htr
      exact of_decide_eq_true htr
    · intro h
      have hlt := hvs v h
      exact ⟨items, rfl, hlen ▸ hlt, by rw [hcell v hlt]; exact decide_eq_true h⟩

section ccg
variable {k t : Nat} {m : Mask} {asInt : Bool} {fuel : Nat} {verbose : Bool}

theorem ccg_of_ok (hm : m.size = 4 ^ k) (hf : 4 ^ k + 2 ≤ fuel) {r : PV}
    (h : Gen.connect_coding_graph fuel (.int (k : Int)) (maskPV asInt m) (.int (t : Int)) (.bool verbose) = .ok r) :
    ∃ vs a d, connectCodingGraph k m t = .ok (vs, a) ∧ r = .tup [d, accPV a] ∧ Denotes d vs (4 ^ k) t := by
  have tie := tie_connect_coding_graph k t m asInt fuel verbose hm hf
  split at tie
  · rw [tie] at h; cases h
  · next vs a hc =>
    obtain ⟨d, hd, hden⟩ := tie
    rw [hd] at h
    cases h
    exact ⟨vs, a, d, hc, rfl, hden⟩

theorem ccg_of_error (hm : m.size = 4 ^ k) (hf : 4 ^ k + 2 ≤ fuel) {e : PyErr}
    (h : Gen.connect_coding_graph fuel (.int (k : Int)) (maskPV asInt m) (.int (t : Int)) (.bool verbose) = .error e) :
    connectCodingGraph k m t = .error e := by
  have tie := tie_connect_coding_graph k t m asInt fuel verbose hm hf
  split at tie
  · next e' hc => rw [tie] at h; cases h; exact hc
  · obtain ⟨d, hd, -⟩ := tie
    rw [hd] at h
    cases h

theorem ccg_of_model_ok (hm : m.size = 4 ^ k) (hf : 4 ^ k + 2 ≤ fuel) {vs : List Nat} {a : Acc}
    (h : connectCodingGraph k m t = .ok (vs, a)) :
    ∃ d, Gen.connect_coding_graph fuel (.int (k : Int)) (maskPV asInt m) (.int (t : Int)) (.bool verbose) =
      .ok (.tup [d, accPV a]) ∧ Denotes d vs (4 ^ k) t := by
  have tie := tie_connect_coding_graph k t m asInt fuel verbose hm hf
  rw [h] at tie
  exact tie

theorem ccg_of_model_error (hm : m.size = 4 ^ k) (hf : 4 ^ k + 2 ≤ fuel) {e : PyErr}
    (h : connectCodingGraph k m t = .error e) :
    Gen.connect_coding_graph fuel (.int (k : Int)) (maskPV asInt m) (.int (t : Int)) (.bool verbose) = .error e := by
  have tie := tie_connect_coding_graph k t m asInt fuel verbose hm hf
  rw [h] at tie
  exact tie

end ccg

/-- C03 for every threshold `1 ≤ t` at once (`C03_t1` and `C03_gfp`; the bound `t ≤ 4` of `C03_statement`
is not used). -/
theorem model_C03 (k t : Nat) (m : Mask) (hm : m.size = 4 ^ k) (hk : 1 ≤ k) (ht : 1 ≤ t) :
    (∀ vs a, connectCodingGraph k m t = .ok (vs, a) →
        ∃ s : Mask, IsLargestClosed k t m s ∧ a = inducedAccessor k s ∧ vs = s.indices ∧
          vs = obtainVertices a ∧ vs ≠ []) ∧
    (∀ e, connectCodingGraph k m t = .error e →
        e = .valueError ∧ ∀ s : Mask, s.size = 4 ^ k → s.Sub m → ClosedFor k t s → s.indices = []) := by
  by_cases h1 : t = 1
  · subst h1; exact C03_t1 k m hm hk
  · exact C03_gfp k t m hm hk (Nat.lt_of_le_of_ne ht (Ne.symm h1))

theorem indices_lt {s : Mask} {n : Nat} (hs : s.size = n) : ∀ w ∈ s.indices, w < n := by
  intro w hw
  rw [← hs]
  exact Trim.Mask.lt_size_of_getD (Trim.Mask.mem_indices.1 hw)

theorem ccg_facts {k t : Nat} {m : Mask} {asInt : Bool} {fuel : Nat} {verbose : Bool} {d : PV} {a : Acc}
    (hk : 1 ≤ k) (hm : m.size = 4 ^ k) (ht : 1 ≤ t) (hf : 4 ^ k + 2 ≤ fuel)
    (h : Gen.connect_coding_graph fuel (.int (k : Int)) (maskPV asInt m) (.int (t : Int)) (.bool verbose) =
      .ok (.tup [d, accPV a])) :
    ∃ vs, connectCodingGraph k m t = .ok (vs, a) ∧ Denotes d vs (4 ^ k) t ∧ (∀ v, Listed d t v ↔ v ∈ vs) ∧
      (∀ v ∈ vs, v < 4 ^ k) ∧ WFdB k a := by
  obtain ⟨vs, a', d', hc, he, hden⟩ := ccg_of_ok hm hf h
  -- the returned tuple is `(d, a)`: the embedding of accessors is injective
  have hl := PV.tup.inj he
  simp only [List.cons.injEq, and_true] at hl
  obtain ⟨rfl, ha⟩ := hl
  rw [← accPV_inj ha] at hc
  obtain ⟨s, ⟨hs, -, -, -⟩, -, hvs, -, -⟩ := (model_C03 k t m hm hk ht).1 vs a hc
  have hlt : ∀ v ∈ vs, v < 4 ^ k := by rw [hvs]; exact indices_lt hs
  exact ⟨vs, hc, hden, fun v => listed_iff hden hlt, hlt, C13_wfdb_coding_graph k m t vs a hc⟩

theorem keysNodup_latterMap (a : Acc) : LMap.KeysNodup (accessorToLatterMap a) := by
  unfold LMap.KeysNodup accessorToLatterMap
  rw [List.map_map]
  have : ((fun p : Nat × List Nat => p.1) ∘ fun v : Nat => (v, a.liveEntries (v : Int))) = id := rfl
  rw [this, List.map_id]
  exact GzV.nodup_obtainVertices a

theorem keys_lt_latterMap {k : Nat} {a : Acc} (h : a.size = 4 ^ k) : ∀ p ∈ accessorToLatterMap a, p.1 < 4 ^ k := by
  intro p hp
  simp only [accessorToLatterMap, List.mem_map] at hp
  obtain ⟨v, hv, rfl⟩ := hp
  rw [← h]
  exact mem_obtainVertices_lt hv

/-- a latter map of an accessor of `n` rows has at most `4·n` arcs (the fuel of `remove_useless`). -/
theorem arcs_latterMap_le (a : Acc) : (accessorToLatterMap a).arcs ≤ 4 * a.size := by
  have hrow : ∀ vs : List Nat, LMap.arcs (vs.map fun (v : Nat) => (v, a.liveEntries (v : Int))) ≤ 4 * vs.length := by
    intro vs
    rw [UselessSpec.arcs_eq_sum, List.map_map]
    induction vs with
    | nil => exact Nat.le_refl 0
    | cons v vs ih =>
      rw [List.map_cons, List.sum_cons, List.length_cons, Nat.mul_succ, Nat.add_comm]
      exact Nat.add_le_add ih (by
        show (a.liveEntries (v : Int)).length ≤ 4
        rw [Acc.liveEntries, List.length_map]; exact live_length_le a v)
  have hlen : (obtainVertices a).length ≤ a.size :=
    Nat.le_trans (List.length_filter_le _ _) (Nat.le_of_eq List.length_range)
  exact Nat.le_trans (hrow _) (Nat.mul_le_mul_left 4 hlen)

theorem encode_mono {a : Acc} {tbl : Option Tbl} {v : Int} {bits : List Nat} {fast : Bool} {n fuel : Nat}
    {r : List Char × Option (List Char)} (hb : IsBits bits)
    (h : encode a tbl v bits fast n fuel = .ok r) (d : Nat) :
    encode a tbl v bits fast n (fuel + d) = .ok r := by
  cases fast with
  | false => exact encode_normal_mono hb h d
  | true =>
    obtain ⟨s, c⟩ := r
    have hs : encodeFastLoop a tbl fuel v bits = .ok s := (encode_ok_inv h).1
    unfold encode at h ⊢
    simp only [if_true] at h ⊢
    rw [hs] at h
    rw [encodeFastLoop_eq] at hs ⊢
    rw [encodeLoop_mono _ _ _ _ hs d]
    exact h

theorem genEncode_of_model {k : Nat} {a : Acc} {tbl : Option Tbl} {v : Nat} {bits : List Nat} {fast : Bool}
    {fuel : Nat} {vb : Bool} {s : List Char} (hw : WFdB k a) (hv : v < 4 ^ k) (ht : TblOK tbl a)
    (hb : IsBits bits) (hf : bits.length * 4 ^ k + 3 ≤ fuel)
    (h : encode a tbl (v : Int) bits fast 0 (encodeFuel a bits) = .ok (s, none)) :
    Gen.encode fuel (bitsPV bits) (accPV a) (.int (v : Int)) (.bool fast) (.int 0) (tblPV tbl)
      (.bool false) (.bool vb) = .ok (cstr s) := by
  have hsz : a.size = 4 ^ k := hw.1
  obtain ⟨d, rfl⟩ : ∃ d, fuel = encodeFuel a bits + d :=
    Nat.exists_eq_add_of_le (by rw [encodeFuel, hsz]; exact Nat.le_trans (Nat.add_le_add_left (by decide) _) hf)
  exact (tie_encode a tbl v bits fast 0 _ vb hw.wf (hsz ▸ hv) ht (isBits_le_one hb)
    (Nat.le_trans (Nat.le_add_left 3 _) hf)).trans (by rw [encode_mono hb h d]; rfl)
end GraphCor

open SwCor RepCor GraphCor

/-- for EVERY filter predicate `P` and observed length `k`: what the generated `find_vertices` returns is the
boolean mask of `4^k` cells whose cell `i` is `P (i-th k-mer)` (as a model mask `m`, and cell by cell on the
returned NumPy array), and then some k-mer is accepted; it raises `ValueError` (and nothing else) exactly when
`P` accepts no k-mer (`C11_mask` about the generated code). -/
theorem gen_C11_mask (k : Nat) (P : List Char → Bool) (fuel : Nat) (verbose : Bool) (hf : 2 * k + 2 ≤ fuel) :
    (∀ r, Gen.find_vertices fuel (.int (k : Int)) (tablePV k P) (.bool verbose) = .ok r →
        ∃ m : Mask, r = maskPV false m ∧ m.size = 4 ^ k ∧
          (∀ i, i < 4 ^ k → m.getD i false = P (kmerOf k i)) ∧
          (∀ i : Nat, i < 4 ^ k → pyIndex r (.int (i : Int)) = .ok (.bool (P (kmerOf k i)))) ∧
          ∃ i, i < 4 ^ k ∧ P (kmerOf k i) = true) ∧
    (∀ e, Gen.find_vertices fuel (.int (k : Int)) (tablePV k P) (.bool verbose) = .error e →
        e = .valueError ∧ ∀ i, i < 4 ^ k → P (kmerOf k i) = false) := by
  rw [tie_find_vertices k P fuel verbose hf]
  refine ⟨fun r h => ?_, fun e h => (C11_mask k P).2 e (map_error_inv h)⟩
  obtain ⟨m, hm, rfl⟩ := map_ok_inv h
  obtain ⟨hs, hc, hex⟩ := (C11_mask k P).1 m hm
  refine ⟨m, rfl, hs, hc, fun i hi => ?_, hex⟩
  rw [SwValid.pyIndex_maskPV false (by rw [hs]; exact hi), hc i hi]
  rfl

/-- … hence the call returns iff some k-mer is accepted, and raises `ValueError` iff none is. -/
theorem gen_C11_mask_iff (k : Nat) (P : List Char → Bool) (fuel : Nat) (verbose : Bool) (hf : 2 * k + 2 ≤ fuel) :
    ((∃ r, Gen.find_vertices fuel (.int (k : Int)) (tablePV k P) (.bool verbose) = .ok r) ↔
        ∃ i, i < 4 ^ k ∧ P (kmerOf k i) = true) ∧
    (Gen.find_vertices fuel (.int (k : Int)) (tablePV k P) (.bool verbose) = .error .valueError ↔
        ∀ i, i < 4 ^ k → P (kmerOf k i) = false) := by
  obtain ⟨h1, h2⟩ := gen_C11_mask k P fuel verbose hf
  cases hr : Gen.find_vertices fuel (.int (k : Int)) (tablePV k P) (.bool verbose) with
  | ok r =>
    obtain ⟨m, -, -, -, -, i, hi, hp⟩ := h1 r hr
    refine ⟨⟨fun _ => ⟨i, hi, hp⟩, fun _ => ⟨r, rfl⟩⟩, ⟨fun h => (by cases h), fun h => ?_⟩⟩
    rw [h i hi] at hp
    cases hp
  | error e =>
    obtain ⟨rfl, hall⟩ := h2 e hr
    refine ⟨⟨fun ⟨r, h⟩ => (by cases h), fun ⟨i, hi, hp⟩ => ?_⟩, ⟨fun _ => hall, fun _ => rfl⟩⟩
    rw [hall i hi] at hp
    cases hp

/-- the GC-balanced 2-mers: the filter "no homopolymer run above 1, GC content exactly one half". -/
def GraphCor.gcFilter : List Char → Bool :=
  fun x => ({ k := 2, run := some 1, gc := some ⟨1, 1, 1⟩ } : FilterCfg).valid x true

theorem GraphCor.gc_find : findVertices 2 gcFilter = .ok gcMask := by decide +kernel

/-- `find_vertices(2, filter)` of the generated code returns the GC-balanced mask. -/
theorem GraphCor.gc_find_gen : Gen.find_vertices 6 (.int 2) (tablePV 2 gcFilter) (.bool false) = .ok (maskPV false gcMask) :=
  (tie_find_vertices 2 gcFilter 6 false (by decide)).trans (by rw [gc_find]; rfl)

example : ∃ m : Mask, maskPV false gcMask = maskPV false m ∧ m.size = 4 ^ 2 ∧
    (∀ i, i < 4 ^ 2 → m.getD i false = gcFilter (kmerOf 2 i)) ∧
    (∀ i : Nat, i < 4 ^ 2 → pyIndex (maskPV false gcMask) (.int (i : Int)) = .ok (.bool (gcFilter (kmerOf 2 i)))) ∧
    ∃ i, i < 4 ^ 2 ∧ gcFilter (kmerOf 2 i) = true :=
  (gen_C11_mask 2 gcFilter 6 false (by decide)).1 _ gc_find_gen

/-- the filter that accepts nothing: `ValueError`. -/
example : Gen.find_vertices 6 (.int 2) (tablePV 2 fun _ => false) (.bool true) = .error .valueError :=
  (gen_C11_mask_iff 2 (fun _ => false) 6 true (by decide)).2.2 (fun _ _ => rfl)

/-- the accessor the generated `connect_valid_graph` returns for a mask of `4^k` cells (boolean or 0/1
integers) has `4^k` rows and an arc from `u` to `w` exactly when both are marked and `w` is a shift-successor
of `u`, stored in the column of `w`'s last nucleotide; it raises `ValueError` exactly for the empty mask, and
for `None` (`C11_valid_graph` about the generated code). -/
theorem gen_C11_valid_graph (k : Nat) (m : Mask) (asInt : Bool) (fuel : Nat) (verbose : Bool) (hk : 1 ≤ k)
    (hm : m.size = 4 ^ k) :
    (∀ r, Gen.connect_valid_graph fuel (.int (k : Int)) (maskPV asInt m) (.bool verbose) = .ok r →
        ∃ a : Acc, r = accPV a ∧ a.size = 4 ^ k ∧
          (∀ u j : Nat, u < 4 ^ k → j < 4 →
            a.ent (u : Int) j = if m.getD u false = true ∧ m.getD ((u * 4 + j) % 4 ^ k) false = true
                        then (((u * 4 + j) % 4 ^ k : Nat) : Int) else -1) ∧
          (∀ u j, u < 4 ^ k → j < 4 → ((u * 4 + j) % 4 ^ k) % 4 = j) ∧
          ∃ i, i < 4 ^ k ∧ m.getD i false = true) ∧
    (∀ e, Gen.connect_valid_graph fuel (.int (k : Int)) (maskPV asInt m) (.bool verbose) = .error e →
        e = .valueError ∧ ∀ i, i < 4 ^ k → m.getD i false = false) ∧
    Gen.connect_valid_graph fuel (.int (k : Int)) .none (.bool verbose) = .error .valueError := by
  rw [tie_connect_valid_graph k m asInt fuel verbose hm]
  obtain ⟨h1, h2, -⟩ := C11_valid_graph k m hk hm
  refine ⟨fun r h => ?_, fun e h => h2 e (map_error_inv h), tie_connect_valid_graph_none k fuel verbose⟩
  obtain ⟨a, ha, rfl⟩ := map_ok_inv h
  exact ⟨a, rfl, h1 a ha⟩

theorem GraphCor.gc_valid_gen :
    Gen.connect_valid_graph 0 (.int 2) (maskPV false gcMask) (.bool false) = .ok (accPV gcBalanced2) :=
  (tie_connect_valid_graph 2 gcMask false 0 false (by decide)).trans
    (by rw [show connectValidGraph 2 (some gcMask) = .ok gcBalanced2 from rfl]; rfl)

example : ∃ a : Acc, accPV gcBalanced2 = accPV a ∧ a.size = 4 ^ 2 ∧
    (∀ u j : Nat, u < 4 ^ 2 → j < 4 →
      a.ent (u : Int) j = if gcMask.getD u false = true ∧ gcMask.getD ((u * 4 + j) % 4 ^ 2) false = true
                  then (((u * 4 + j) % 4 ^ 2 : Nat) : Int) else -1) ∧
    (∀ u j, u < 4 ^ 2 → j < 4 → ((u * 4 + j) % 4 ^ 2) % 4 = j) ∧
    ∃ i, i < 4 ^ 2 ∧ gcMask.getD i false = true :=
  (gen_C11_valid_graph 2 gcMask false 0 false (by decide) (by decide)).1 _ gc_valid_gen

/-- for every mask of `4^k` cells (boolean or 0/1 integers) and every threshold `1 ≤ t`: what the generated
`connect_coding_graph` returns is the model's result — the tuple `(d, accessor)` where the accessor is the
sub-graph induced on the LARGEST closed subset `s` of the mask (`IsLargestClosed`), the vertex description `d`
denotes exactly `s` (`Denotes`, `Listed`), and `s` is exactly the set of vertices that have arcs, and is not
empty; it raises `ValueError` (and nothing else — in particular no loop runs out of the fuel `4^k + 2`)
exactly when every closed subset of the mask is empty (`C03_holds` = `C03_t1` + `C03_gfp` about the generated
code). -/
theorem gen_C03_holds (k t : Nat) (m : Mask) (asInt : Bool) (fuel : Nat) (verbose : Bool)
    (hm : m.size = 4 ^ k) (hk : 1 ≤ k) (ht : 1 ≤ t) (hf : 4 ^ k + 2 ≤ fuel) :
    (∀ r, Gen.connect_coding_graph fuel (.int (k : Int)) (maskPV asInt m) (.int (t : Int)) (.bool verbose) = .ok r →
        ∃ (s : Mask) (d : PV), r = .tup [d, accPV (inducedAccessor k s)] ∧
          connectCodingGraph k m t = .ok (s.indices, inducedAccessor k s) ∧
          IsLargestClosed k t m s ∧ Denotes d s.indices (4 ^ k) t ∧
          (∀ v, Listed d t v ↔ s.getD v false = true) ∧
          s.indices = (List.range (4 ^ k)).filter
            (fun (v : Nat) => decide ((inducedAccessor k s).live (v : Int) ≠ [])) ∧
          s.indices ≠ []) ∧
    (∀ e, Gen.connect_coding_graph fuel (.int (k : Int)) (maskPV asInt m) (.int (t : Int)) (.bool verbose) = .error e →
        e = .valueError ∧ ∀ s : Mask, s.size = 4 ^ k → s.Sub m → ClosedFor k t s → s.indices = []) := by
  obtain ⟨h1, h2⟩ := model_C03 k t m hm hk ht
  refine ⟨fun r h => ?_, fun e h => h2 e (ccg_of_error hm hf h)⟩
  obtain ⟨vs, a, d, hc, rfl, hden⟩ := ccg_of_ok hm hf h
  obtain ⟨s, hs, rfl, rfl, hv, hne⟩ := h1 vs a hc
  refine ⟨s, d, rfl, hc, hs, hden, fun v => ?_, ?_, hne⟩
  · rw [listed_iff hden (indices_lt hs.1)]
    exact Trim.Mask.mem_indices
  · rw [← C14_vertices k _ (C13_wfdb_induced k s)]
    exact hv

/-- … hence the call raises `ValueError` iff the mask has no non-empty closed subset, and returns otherwise. -/
theorem gen_C03_error_iff (k t : Nat) (m : Mask) (asInt : Bool) (fuel : Nat) (verbose : Bool)
    (hm : m.size = 4 ^ k) (hk : 1 ≤ k) (ht : 1 ≤ t) (hf : 4 ^ k + 2 ≤ fuel) :
    Gen.connect_coding_graph fuel (.int (k : Int)) (maskPV asInt m) (.int (t : Int)) (.bool verbose) =
        .error .valueError ↔
      ∀ s : Mask, s.size = 4 ^ k → s.Sub m → ClosedFor k t s → s.indices = [] := by
  obtain ⟨h1, h2⟩ := gen_C03_holds k t m asInt fuel verbose hm hk ht hf
  constructor
  · intro h
    exact (h2 _ h).2
  · intro hall
    cases hr : Gen.connect_coding_graph fuel (.int (k : Int)) (maskPV asInt m) (.int (t : Int)) (.bool verbose) with
    | error e => rw [(h2 e hr).1]
    | ok r =>
      obtain ⟨s, d, -, -, ⟨hs1, hs2, hs3, -⟩, -, -, -, hne⟩ := h1 r hr
      exact absurd (hall s hs1 hs2 hs3) hne

/-- `connect_coding_graph(2, mask, 2)` of the generated code on the GC-balanced mask returns `(d, accessor)` with
the GC-balanced accessor, `d` a mask denoting all eight vertices. -/
theorem GraphCor.gc_model : connectCodingGraph 2 gcMask 2 = .ok ([1, 2, 4, 7, 8, 11, 13, 14], gcBalanced2) :=
  connectCodingGraph_gcBalanced2

theorem GraphCor.gc_ccg : ∃ d, Gen.connect_coding_graph 18 (.int 2) (maskPV false gcMask) (.int 2) (.bool false) =
    .ok (.tup [d, accPV gcBalanced2]) ∧ Denotes d [1, 2, 4, 7, 8, 11, 13, 14] (4 ^ 2) 2 :=
  ccg_of_model_ok (k := 2) (t := 2) (by decide) (by decide) gc_model

theorem GraphCor.gc_listed {d : PV} (hd : Denotes d [1, 2, 4, 7, 8, 11, 13, 14] (4 ^ 2) 2) : Listed d 2 1 :=
  (listed_iff hd (by decide)).2 (by decide)

example : ∃ d, ∃ (s : Mask) (d' : PV), PV.tup [d, accPV gcBalanced2] = .tup [d', accPV (inducedAccessor 2 s)] ∧
    connectCodingGraph 2 gcMask 2 = .ok (s.indices, inducedAccessor 2 s) ∧
    IsLargestClosed 2 2 gcMask s ∧ Denotes d' s.indices (4 ^ 2) 2 ∧
    (∀ v, Listed d' 2 v ↔ s.getD v false = true) ∧
    s.indices = (List.range (4 ^ 2)).filter (fun (v : Nat) => decide ((inducedAccessor 2 s).live (v : Int) ≠ [])) ∧
    s.indices ≠ [] := by
  obtain ⟨d, hg, -⟩ := gc_ccg
  exact ⟨d, (gen_C03_holds 2 2 gcMask false 18 false (by decide) (by decide) (by decide) (by decide)).1 _ hg⟩

/-- order 1 with only `A` marked (as a 0/1 integer array): one marked successor, fewer than the threshold 2 — no
non-empty closed subset, `ValueError`. -/
example : Gen.connect_coding_graph 6 (.int 1) (maskPV true #[true, false, false, false]) (.int 2) (.bool false) =
    .error .valueError :=
  ccg_of_model_error (k := 1) (t := 2) (by decide) (by decide) (by decide +kernel)

/-- a smaller mask never yields a larger graph (`t ≥ 2`): if the generated `connect_coding_graph` returns
`(d, a)` for `m` and `m ⊆ m'`, it returns some `(d', a')` for `m'` (any array kind, fuel from `4^k + 2` on,
verbosity), every vertex `d` lists is listed by `d'`, and every arc of `a` is an arc of `a'` (`C03_mono` about
the generated code). -/
theorem gen_C03_mono (k t : Nat) (m m' : Mask) (asInt asInt' : Bool) (fuel fuel' : Nat) (verbose verbose' : Bool)
    (d : PV) (a : Acc) (hm : m.size = 4 ^ k) (hm' : m'.size = 4 ^ k) (hk : 1 ≤ k) (ht : 2 ≤ t)
    (hf : 4 ^ k + 2 ≤ fuel) (hf' : 4 ^ k + 2 ≤ fuel') (hsub : m.Sub m')
    (h : Gen.connect_coding_graph fuel (.int (k : Int)) (maskPV asInt m) (.int (t : Int)) (.bool verbose) =
      .ok (.tup [d, accPV a])) :
    ∃ d' a', Gen.connect_coding_graph fuel' (.int (k : Int)) (maskPV asInt' m') (.int (t : Int)) (.bool verbose') =
        .ok (.tup [d', accPV a']) ∧
      (∀ v, Listed d t v → Listed d' t v) ∧
      ∀ v j : Nat, v < 4 ^ k → j < 4 → 0 ≤ a.ent v j → a'.ent v j = a.ent v j := by
  have ht1 : 1 ≤ t := Nat.le_of_succ_le ht
  obtain ⟨vs, hc, -, hl, -, -⟩ := ccg_facts hk hm ht1 hf h
  obtain ⟨vs', a', hc', hmem, hent⟩ := C03_mono k t m m' hm hm' hk ht hsub vs a hc
  obtain ⟨d', hg', hden'⟩ := ccg_of_model_ok (asInt := asInt') (fuel := fuel') (verbose := verbose') hm' hf' hc'
  refine ⟨d', a', hg', fun v hv => ?_, fun v j hv hj => hent (v : Int) j (by exact_mod_cast hv) hj⟩
  obtain ⟨vs'', hc'', -, hl'', -, -⟩ := ccg_facts hk hm' ht1 hf' hg'
  rw [hc'] at hc''
  cases hc''
  exact (hl'' v).2 (hmem v ((hl v).1 hv))

theorem GraphCor.gc_sub_all : gcMask.Sub (Array.replicate 16 true) := by
  intro v hv
  have hlt : v < 16 := Trim.Mask.lt_size_of_getD hv
  simp [Mask.has, Array.getD_eq_getD_getElem?, hlt]

example : ∃ d, ∃ d' a', Gen.connect_coding_graph 20 (.int 2) (maskPV true (Array.replicate 16 true)) (.int 2)
      (.bool true) = .ok (.tup [d', accPV a']) ∧
    (∀ v, Listed d 2 v → Listed d' 2 v) ∧
    ∀ v j : Nat, v < 4 ^ 2 → j < 4 → 0 ≤ gcBalanced2.ent v j → a'.ent v j = gcBalanced2.ent v j := by
  obtain ⟨d, hg, -⟩ := gc_ccg
  exact ⟨d, gen_C03_mono 2 2 gcMask (Array.replicate 16 true) false true 18 20 false true d gcBalanced2 (by decide)
    (by decide) (by decide) (by decide) (by decide) (by decide) gc_sub_all hg⟩

/-- `remove_useless` on ARBITRARY latter maps (a `dict` with distinct keys, successor lists arbitrary) and any
threshold: the generated function returns (it does not run out of the fuel `arcs + 2`) a sub-map that is closed
for the threshold, and that sub-map is the largest one (`C03_remove_useless` about the generated code). -/
theorem gen_C03_remove_useless (m : LMap) (t fuel : Nat) (verbose : Bool) (hn : LMap.KeysNodup m)
    (hf : m.arcs + 2 ≤ fuel) :
    ∃ m', Gen.remove_useless fuel (lmapPV m) (.int (t : Int)) (.bool verbose) = .ok (lmapPV m') ∧
      m'.SubOf m ∧ m'.ClosedT t ∧ ∀ c : LMap, c.SubOf m → c.ClosedT t → c.keys.Nodup → c.SubOf m' := by
  obtain ⟨m', e, hs, hc, hmax⟩ := C03_remove_useless m t hn
  exact ⟨m', tie_remove_useless m m' t fuel verbose hn e hf, hs, hc, hmax⟩

example : ∃ m', Gen.remove_useless 7 (lmapPV [(0, [1, 2]), (1, []), (2, [3, 4]), (3, [0])]) (.int 1) (.bool false) =
      .ok (lmapPV m') ∧
    m'.SubOf [(0, [1, 2]), (1, []), (2, [3, 4]), (3, [0])] ∧ m'.ClosedT 1 ∧
    ∀ c : LMap, c.SubOf [(0, [1, 2]), (1, []), (2, [3, 4]), (3, [0])] → c.ClosedT 1 → c.keys.Nodup → c.SubOf m' :=
  gen_C03_remove_useless _ 1 7 false (by unfold LMap.KeysNodup; decide) (by decide)

namespace GraphCor

theorem lma_some_split {lm : LMap} {k t : Nat} {a : Acc} (h : latterMapToAccessor lm k (some t) = .ok a) :
    ∃ lm', removeUseless lm t = .ok lm' ∧ latterMapToAccessor lm' k none = .ok a := by
  have he : latterMapToAccessor lm k (some t) =
      (removeUseless lm t >>= fun lm' => latterMapToAccessor lm' k none) := rfl
  rw [he] at h
  cases hr : removeUseless lm t with
  | error e => rw [hr] at h; cases h
  | ok lm' => rw [hr] at h; exact ⟨lm', rfl, h⟩

theorem subOf_legal {lm lm' : LMap} {n : Nat} (hs : lm'.SubOf lm) (hn : LMap.KeysNodup lm)
    (hk : ∀ p ∈ lm, p.1 < n) : LMap.KeysNodup lm' ∧ ∀ p ∈ lm', p.1 < n := by
  refine ⟨hs.1.nodup hn, fun p hp => ?_⟩
  have h1 : p.1 ∈ lm.keys := hs.1.subset (List.mem_map.2 ⟨p, hp, rfl⟩)
  obtain ⟨q, hq, he⟩ := List.mem_map.1 h1
  rw [← he]
  exact hk q hq

end GraphCor

/-- trimming the latter map of the VALID graph to the same threshold gives the CODING graph (`t ≥ 2`): if the
generated `connect_coding_graph` returned `(d, a)` for the mask, then the generated `connect_valid_graph` returns
an accessor for it, `accessor_to_latter_map` turns that into a `dict`, and both
`latter_map_to_accessor(…, threshold=t)` and `remove_useless(…, t)` followed by `latter_map_to_accessor(…)`
return the accessor `a` (`C03_latter_map` about the generated code; `4·4^k + 2` units of fuel suffice for the
trimming loop). -/
theorem gen_C03_latter_map (k t : Nat) (m : Mask) (asInt : Bool) (gfuel : Nat) (gvb : Bool) (d : PV) (a : Acc)
    (f1 f2 fuel f3 : Nat) (vb : Bool) (hm : m.size = 4 ^ k) (hk : 1 ≤ k) (ht : 2 ≤ t) (hgf : 4 ^ k + 2 ≤ gfuel)
    (hf : 4 * 4 ^ k + 2 ≤ fuel)
    (hg : Gen.connect_coding_graph gfuel (.int (k : Int)) (maskPV asInt m) (.int (t : Int)) (.bool gvb) =
      .ok (.tup [d, accPV a])) :
    ∃ (valid : Acc) (lm lm' : LMap),
      Gen.connect_valid_graph f1 (.int (k : Int)) (maskPV asInt m) (.bool vb) = .ok (accPV valid) ∧
      Gen.accessor_to_latter_map f2 (accPV valid) (.bool vb) = .ok (lmapPV lm) ∧
      Gen.latter_map_to_accessor fuel (lmapPV lm) (.int (k : Int)) (.int (t : Int)) (.bool vb) = .ok (accPV a) ∧
      Gen.remove_useless fuel (lmapPV lm) (.int (t : Int)) (.bool vb) = .ok (lmapPV lm') ∧
      Gen.latter_map_to_accessor f3 (lmapPV lm') (.int (k : Int)) .none (.bool vb) = .ok (accPV a) := by
  have ht1 : 1 ≤ t := Nat.le_of_succ_le ht
  obtain ⟨vs, hc, -, -, -, -⟩ := ccg_facts hk hm ht1 hgf hg
  have hlma := C03_latter_map k t m hm hk ht vs a hc
  obtain ⟨s, ⟨-, hsub, -, -⟩, -, rfl, -, hne⟩ := (model_C03 k t m hm hk ht1).1 vs a hc
  have hcount : m.count > 0 := by
    obtain ⟨v, hv⟩ := List.exists_mem_of_ne_nil _ hne
    have hmv := hsub v (Trim.Mask.mem_indices.1 hv)
    exact (Mask.count_pos_iff m).2 ⟨v, Trim.Mask.lt_size_of_getD hmv, hmv⟩
  have hvalid : connectValidGraph k (some m) = .ok (inducedAccessor k m) := if_pos hcount
  have hsz := induced_size k m
  have hnd := keysNodup_latterMap (inducedAccessor k m)
  have hkeys := keys_lt_latterMap hsz
  have harcs : (accessorToLatterMap (inducedAccessor k m)).arcs + 2 ≤ fuel :=
    Nat.le_trans (Nat.add_le_add_right (hsz ▸ arcs_latterMap_le (inducedAccessor k m)) 2) hf
  obtain ⟨lm', hr, hplain⟩ := lma_some_split hlma
  obtain ⟨r', hr', hsubof, -, -⟩ := C03_remove_useless (accessorToLatterMap (inducedAccessor k m)) t hnd
  rw [hr] at hr'
  cases hr'
  obtain ⟨hnd', hkeys'⟩ := subOf_legal hsubof hnd hkeys
  exact ⟨inducedAccessor k m, accessorToLatterMap (inducedAccessor k m), lm',
    ok_of_tie (tie_connect_valid_graph k m asInt f1 vb hm) hvalid,
    tie_accessor_to_latter_map _ f2 vb (induced_wf k m),
    ok_of_tie (tie_latter_map_to_accessor_trim _ k t fuel vb hnd hkeys harcs) hlma,
    tie_remove_useless _ lm' t fuel vb hnd hr harcs,
    ok_of_tie (tie_latter_map_to_accessor_plain lm' k f3 vb hnd' hkeys') hplain⟩

example : ∃ d, ∃ (valid : Acc) (lm lm' : LMap),
    Gen.connect_valid_graph 0 (.int 2) (maskPV false gcMask) (.bool false) = .ok (accPV valid) ∧
    Gen.accessor_to_latter_map 0 (accPV valid) (.bool false) = .ok (lmapPV lm) ∧
    Gen.latter_map_to_accessor 66 (lmapPV lm) (.int 2) (.int 2) (.bool false) = .ok (accPV gcBalanced2) ∧
    Gen.remove_useless 66 (lmapPV lm) (.int 2) (.bool false) = .ok (lmapPV lm') ∧
    Gen.latter_map_to_accessor 0 (lmapPV lm') (.int 2) .none (.bool false) = .ok (accPV gcBalanced2) ∧
    Denotes d [1, 2, 4, 7, 8, 11, 13, 14] (4 ^ 2) 2 := by
  obtain ⟨d, hg, hd⟩ := gc_ccg
  obtain ⟨valid, lm, lm', h1, h2, h3, h4, h5⟩ := gen_C03_latter_map 2 2 gcMask false 18 false d gcBalanced2 0 0 66 0
    false (by decide) (by decide) (by decide) (by decide) (by decide) hg
  exact ⟨d, valid, lm, lm', h1, h2, h3, h4, h5, hd⟩

/-! ## C04 — encoding is total, dead-end free and tight on generated graphs

`(d, a)` is what the generated `connect_coding_graph` returned for some mask and threshold `1 ≤ t`, and the start
vertex `v` is one of the vertices `d` lists. -/

namespace GraphCor

theorem encode_isWalk {a : Acc} {tbl : Option Tbl} {v : Int} {bits : List Nat} {fast : Bool} {n fuel : Nat}
    {s : List Char} {c : Option (List Char)} (hb : IsBits bits)
    (h : encode a tbl v bits fast n fuel = .ok (s, c)) : isWalk a v s = true := by
  cases fast with
  | false => exact (encodeNat_spec a tbl _ _ _ _ (encode_normal_ok hb h).1).1
  | true => exact (encodeFastLoop_spec a tbl _ v bits s hb (encode_ok_inv h).1).1

end GraphCor

/-- normal mode (`is_faster=False`): on a graph the generated `connect_coding_graph` returned, from any listed
start vertex, for any message of bits and any table, the generated `encode` returns a strand — it does not
raise, and does not run out of fuel for any fuel from `L·4^k + 3` on (`L·4^k + 1` loop iterations as in the
model, two units for the calls `tie_encode` accounts for) — and the strand is a walk of the graph with at most
`L·4^k` nucleotides (`C04_terminates_normal` about the generated code). -/
theorem gen_C04_terminates_normal (k t : Nat) (m : Mask) (asInt : Bool) (gfuel : Nat) (gvb : Bool) (d : PV)
    (a : Acc) (v : Nat) (tbl : Option Tbl) (bits : List Nat) (fuel : Nat) (vb : Bool)
    (hk : 1 ≤ k) (hm : m.size = 4 ^ k) (ht : 1 ≤ t) (hgf : 4 ^ k + 2 ≤ gfuel)
    (hg : Gen.connect_coding_graph gfuel (.int (k : Int)) (maskPV asInt m) (.int (t : Int)) (.bool gvb) =
      .ok (.tup [d, accPV a]))
    (hv : Listed d t v) (htbl : TblOK tbl a) (hb : IsBits bits) (hf : bits.length * 4 ^ k + 3 ≤ fuel) :
    ∃ s, Gen.encode fuel (bitsPV bits) (accPV a) (.int (v : Int)) (.bool false) (.int 0) (tblPV tbl)
        (.bool false) (.bool vb) = .ok (cstr s) ∧
      isWalk a (v : Int) s = true ∧ s.length ≤ bits.length * 4 ^ k := by
  obtain ⟨vs, hc, -, hl, hlt, hw⟩ := ccg_facts hk hm ht hgf hg
  have hvs := (hl v).1 hv
  obtain ⟨s, he, hwalk, hlen⟩ := C04_terminates_normal k t m vs a v tbl bits hk hm ht hc hvs hb
  rw [hw.1] at hlen
  exact ⟨s, genEncode_of_model hw (hlt v hvs) htbl hb hf he, hwalk, hlen⟩

example : ∃ s, Gen.encode 131 (bitsPV [0, 1, 0, 1, 0, 1, 0, 1]) (accPV gcBalanced2) (.int 1) (.bool false) (.int 0)
      PV.none (.bool false) (.bool false) = .ok (cstr s) ∧
    isWalk gcBalanced2 1 s = true ∧ s.length ≤ 8 * 4 ^ 2 := by
  obtain ⟨d, hg, hd⟩ := gc_ccg
  exact gen_C04_terminates_normal 2 2 gcMask false 18 false d gcBalanced2 1 none _ 131 false (by decide)
    (by decide) (by decide) (by decide) hg (gc_listed hd) (tblOK_none _) msg_bits (by decide)

/-- fast mode (`is_faster=True`), on generated graphs without out-degree 3 in reach of the start vertex
(`C04_terminates_fast` about the generated code). -/
theorem gen_C04_terminates_fast (k t : Nat) (m : Mask) (asInt : Bool) (gfuel : Nat) (gvb : Bool) (d : PV)
    (a : Acc) (v : Nat) (tbl : Option Tbl) (bits : List Nat) (fuel : Nat) (vb : Bool)
    (hk : 1 ≤ k) (hm : m.size = 4 ^ k) (ht : 1 ≤ t) (hgf : 4 ^ k + 2 ≤ gfuel)
    (hg : Gen.connect_coding_graph gfuel (.int (k : Int)) (maskPV asInt m) (.int (t : Int)) (.bool gvb) =
      .ok (.tup [d, accPV a]))
    (hv : Listed d t v) (htbl : TblOK tbl a) (hb : IsBits bits) (h3 : a.NoDeg3From (v : Int))
    (hf : bits.length * 4 ^ k + 3 ≤ fuel) :
    ∃ s, Gen.encode fuel (bitsPV bits) (accPV a) (.int (v : Int)) (.bool true) (.int 0) (tblPV tbl)
        (.bool false) (.bool vb) = .ok (cstr s) ∧
      isWalk a (v : Int) s = true ∧ s.length ≤ bits.length * 4 ^ k := by
  obtain ⟨vs, hc, -, hl, hlt, hw⟩ := ccg_facts hk hm ht hgf hg
  have hvs := (hl v).1 hv
  obtain ⟨s, he, hwalk, hlen⟩ := C04_terminates_fast k t m vs a v tbl bits hk hm ht hc hvs hb h3
  rw [hw.1] at hlen
  exact ⟨s, genEncode_of_model hw (hlt v hvs) htbl hb hf he, hwalk, hlen⟩

example : ∃ s, Gen.encode 131 (bitsPV [0, 1, 0, 1, 0, 1, 0, 1]) (accPV gcBalanced2) (.int 1) (.bool true) (.int 0)
      PV.none (.bool false) (.bool true) = .ok (cstr s) ∧
    isWalk gcBalanced2 1 s = true ∧ s.length ≤ 8 * 4 ^ 2 := by
  obtain ⟨d, hg, hd⟩ := gc_ccg
  exact gen_C04_terminates_fast 2 2 gcMask false 18 false d gcBalanced2 1 none _ 131 true (by decide)
    (by decide) (by decide) (by decide) hg (gc_listed hd) (tblOK_none _) msg_bits gc_noDeg3 (by decide)

/-- tightness in normal mode, for ANY well-formed graph and table: whatever the generated `encode` returns is
a strand `s` (with a check iff `vt_length > 0`) that is a walk; if it is not empty, its last nucleotide is
emitted at a branching vertex, and the product of the out-degrees met before the last step does not exceed the
message value (`C04_tight_normal` about the generated code). -/
theorem gen_C04_tight_normal (a : Acc) (tbl : Option Tbl) (v : Nat) (bits : List Nat) (n fuel : Nat) (vb : Bool)
    (r : PV) (ha : a.WF) (hv : v < a.size) (ht : TblOK tbl a) (hb : IsBits bits) (hf : 2 * n + 3 ≤ fuel)
    (h : Gen.encode fuel (bitsPV bits) (accPV a) (.int (v : Int)) (.bool false) (.int (n : Int)) (tblPV tbl)
      (.bool false) (.bool vb) = .ok r) :
    ∃ (s : List Char) (c : Option (List Char)), r = encResultPV (s, c) ∧ isWalk a (v : Int) s = true ∧
      (s ≠ [] → 2 ≤ a.outDeg (walkEnd a (v : Int) s.dropLast) ∧
        ((radices a (v : Int) s.dropLast).filter (· > 1)).foldl (· * ·) 1 ≤ bitToNumberInt bits) := by
  obtain ⟨s, c, hr, he⟩ := gen_encode_ok ha hv ht hb hf h
  exact ⟨s, c, hr, encode_isWalk hb he, fun hs => C04_tight_normal a tbl v bits n fuel s c hb hs he⟩

example (r : PV) (h : Gen.encode 200 (bitsPV [0, 1, 0, 1, 0, 1, 0, 1]) (accPV gcBalanced2) (.int 1) (.bool false)
      (.int 5) PV.none (.bool false) (.bool false) = .ok r) :
    ∃ (s : List Char) (c : Option (List Char)), r = encResultPV (s, c) ∧ isWalk gcBalanced2 1 s = true ∧
      (s ≠ [] → 2 ≤ gcBalanced2.outDeg (walkEnd gcBalanced2 1 s.dropLast) ∧
        ((radices gcBalanced2 1 s.dropLast).filter (· > 1)).foldl (· * ·) 1 ≤
          bitToNumberInt [0, 1, 0, 1, 0, 1, 0, 1]) :=
  gen_C04_tight_normal gcBalanced2 none 1 _ 5 200 false r gc_wf gc_lt (tblOK_none _) msg_bits (by decide) h

/-- the hypothesis of the example is satisfiable: the generated `encode` returns `("TCTCTCT", "TAAGC")`. -/
example : ∃ r, Gen.encode 200 (bitsPV [0, 1, 0, 1, 0, 1, 0, 1]) (accPV gcBalanced2) (.int 1) (.bool false)
    (.int 5) PV.none (.bool false) (.bool false) = .ok r := ⟨_, gc_encode_normal⟩

/-- consequently an `L`-bit message needs at most `L` nucleotides when every vertex met has at least two arcs
(every threshold-2 graph) … (`C04_length_branching` about the generated code). -/
theorem gen_C04_length_branching (a : Acc) (tbl : Option Tbl) (v : Nat) (bits : List Nat) (n fuel : Nat)
    (vb : Bool) (r : PV) (ha : a.WF) (hv : v < a.size) (ht : TblOK tbl a) (hb : IsBits bits)
    (hf : 2 * n + 3 ≤ fuel)
    (h : Gen.encode fuel (bitsPV bits) (accPV a) (.int (v : Int)) (.bool false) (.int (n : Int)) (tblPV tbl)
      (.bool false) (.bool vb) = .ok r) :
    ∃ (s : List Char) (c : Option (List Char)), r = encResultPV (s, c) ∧
      ((∀ i, i < s.length → 2 ≤ a.outDeg (walkEnd a (v : Int) (s.take i))) → s.length ≤ bits.length) := by
  obtain ⟨s, c, hr, he⟩ := gen_encode_ok ha hv ht hb hf h
  exact ⟨s, c, hr, fun h2 => C04_length_branching a tbl v bits n fuel s c hb he h2⟩

/-- … and at most `⌈L/2⌉` when every vertex met has four arcs (the complete graph)
(`C04_length_complete` about the generated code). -/
theorem gen_C04_length_complete (a : Acc) (tbl : Option Tbl) (v : Nat) (bits : List Nat) (n fuel : Nat)
    (vb : Bool) (r : PV) (ha : a.WF) (hv : v < a.size) (ht : TblOK tbl a) (hb : IsBits bits)
    (hf : 2 * n + 3 ≤ fuel)
    (h : Gen.encode fuel (bitsPV bits) (accPV a) (.int (v : Int)) (.bool false) (.int (n : Int)) (tblPV tbl)
      (.bool false) (.bool vb) = .ok r) :
    ∃ (s : List Char) (c : Option (List Char)), r = encResultPV (s, c) ∧
      ((∀ i, i < s.length → a.outDeg (walkEnd a (v : Int) (s.take i)) = 4) → s.length ≤ (bits.length + 1) / 2) := by
  obtain ⟨s, c, hr, he⟩ := gen_encode_ok ha hv ht hb hf h
  exact ⟨s, c, hr, fun h4 => C04_length_complete a tbl v bits n fuel s c hb he h4⟩

/-- every vertex of the GC-balanced graph has exactly two arcs: the 8-bit message needs at most 8 nucleotides
(it needs 7). -/
example (r : PV) (h : Gen.encode 200 (bitsPV [0, 1, 0, 1, 0, 1, 0, 1]) (accPV gcBalanced2) (.int 1) (.bool false)
      (.int 5) PV.none (.bool false) (.bool false) = .ok r) :
    ∃ (s : List Char) (c : Option (List Char)), r = encResultPV (s, c) ∧
      ((∀ i, i < s.length → 2 ≤ gcBalanced2.outDeg (walkEnd gcBalanced2 1 (s.take i))) → s.length ≤ 8) :=
  gen_C04_length_branching gcBalanced2 none 1 _ 5 200 false r gc_wf gc_lt (tblOK_none _) msg_bits (by decide) h

example : ∀ i, i < "TCTCTCT".toList.length →
    2 ≤ gcBalanced2.outDeg (walkEnd gcBalanced2 1 ("TCTCTCT".toList.take i)) := by decide +kernel

/-- on the complete order-2 graph the 8-bit message needs at most 4 nucleotides. -/
example (r : PV) (h : Gen.encode 200 (bitsPV [0, 1, 0, 1, 0, 1, 0, 1]) (accPV (getCompleteAccessor 2)) (.int 1)
      (.bool false) (.int 0) PV.none (.bool false) (.bool false) = .ok r) :
    ∃ (s : List Char) (c : Option (List Char)), r = encResultPV (s, c) ∧
      ((∀ i, i < s.length → (getCompleteAccessor 2).outDeg (walkEnd (getCompleteAccessor 2) 1 (s.take i)) = 4) →
        s.length ≤ (8 + 1) / 2) :=
  gen_C04_length_complete (getCompleteAccessor 2) none 1 _ 0 200 false r (WFdB.wf (C13_complete 2 0 0
    (by decide) (by decide)).2) (by decide +kernel) (tblOK_none _) msg_bits (by decide) h

/-- tightness in fast mode, for ANY well-formed graph and table: the bits carried by the steps of the returned
strand total `L` or `L + 1`, and the last nucleotide is emitted at an information-carrying (2- or 4-way) vertex
(`C04_tight_fast` about the generated code). -/
theorem gen_C04_tight_fast (a : Acc) (tbl : Option Tbl) (v : Nat) (bits : List Nat) (n fuel : Nat) (vb : Bool)
    (r : PV) (ha : a.WF) (hv : v < a.size) (ht : TblOK tbl a) (hb : IsBits bits) (hf : 2 * n + 3 ≤ fuel)
    (h : Gen.encode fuel (bitsPV bits) (accPV a) (.int (v : Int)) (.bool true) (.int (n : Int)) (tblPV tbl)
      (.bool false) (.bool vb) = .ok r) :
    ∃ (s : List Char) (c : Option (List Char)), r = encResultPV (s, c) ∧ isWalk a (v : Int) s = true ∧
      (s ≠ [] →
        ((walkBits a tbl (v : Int) s).length = bits.length ∨ (walkBits a tbl (v : Int) s).length = bits.length + 1) ∧
        (a.outDeg (walkEnd a (v : Int) s.dropLast) = 2 ∨ a.outDeg (walkEnd a (v : Int) s.dropLast) = 4)) := by
  obtain ⟨s, c, hr, he⟩ := gen_encode_ok ha hv ht hb hf h
  exact ⟨s, c, hr, encode_isWalk hb he, fun hs => C04_tight_fast a tbl v bits n fuel s c hb hs he⟩

example (r : PV) (h : Gen.encode 200 (bitsPV [0, 1, 0, 1, 0, 1, 0, 1]) (accPV gcBalanced2) (.int 1) (.bool true)
      (.int 5) PV.none (.bool false) (.bool false) = .ok r) :
    ∃ (s : List Char) (c : Option (List Char)), r = encResultPV (s, c) ∧ isWalk gcBalanced2 1 s = true ∧
      (s ≠ [] →
        ((walkBits gcBalanced2 none 1 s).length = 8 ∨ (walkBits gcBalanced2 none 1 s).length = 8 + 1) ∧
        (gcBalanced2.outDeg (walkEnd gcBalanced2 1 s.dropLast) = 2 ∨
          gcBalanced2.outDeg (walkEnd gcBalanced2 1 s.dropLast) = 4)) :=
  gen_C04_tight_fast gcBalanced2 none 1 _ 5 200 false r gc_wf gc_lt (tblOK_none _) msg_bits (by decide) h

example : ∃ r, Gen.encode 200 (bitsPV [0, 1, 0, 1, 0, 1, 0, 1]) (accPV gcBalanced2) (.int 1) (.bool true)
    (.int 5) PV.none (.bool false) (.bool false) = .ok r := ⟨_, gc_encode_fast⟩

/-! ## C02 — every emitted strand obeys the constraints its graph was generated for

The whole write path on generated code: `find_vertices` (any filter `P`) → `connect_coding_graph` → `encode`. -/

namespace GraphCor

theorem find_of_gen {k : Nat} {P : List Char → Bool} {fuel : Nat} {verbose : Bool} {m : Mask}
    (hf : 2 * k + 2 ≤ fuel)
    (h : Gen.find_vertices fuel (.int (k : Int)) (tablePV k P) (.bool verbose) = .ok (maskPV false m)) :
    findVertices k P = .ok m ∧ m.size = 4 ^ k := by
  rw [tie_find_vertices k P fuel verbose hf] at h
  obtain ⟨m', hm', he⟩ := map_ok_inv h
  rw [maskPV_false_inj he]
  exact ⟨hm', ((C11_mask k P).1 m' hm').1⟩

end GraphCor

/-- generated graphs are sub-graphs of the valid graph of the mask, for EVERY threshold `1 ≤ t`: every arc of
the accessor the generated `connect_coding_graph` returns is a shift arc between two marked vertices, and every
vertex its description lists is a marked vertex (`C02_generated_subgraph` / `E2E_generated_subgraph` about the
generated code). -/
theorem gen_C02_generated_subgraph (k t : Nat) (m : Mask) (asInt : Bool) (fuel : Nat) (verbose : Bool) (d : PV)
    (a : Acc) (hk : 1 ≤ k) (hm : m.size = 4 ^ k) (ht : 1 ≤ t) (hf : 4 ^ k + 2 ≤ fuel)
    (h : Gen.connect_coding_graph fuel (.int (k : Int)) (maskPV asInt m) (.int (t : Int)) (.bool verbose) =
      .ok (.tup [d, accPV a])) :
    SubGraphOf k a m ∧ ∀ v, Listed d t v → v < 4 ^ k ∧ m.getD v false = true := by
  obtain ⟨vs, hc, -, hl, hlt, -⟩ := ccg_facts hk hm ht hf h
  obtain ⟨s, ⟨-, hsub, -, -⟩, rfl, rfl, -, -⟩ := (model_C03 k t m hm hk ht).1 vs a hc
  refine ⟨Windows.arcsIn_induced k s m hsub, fun v hv => ?_⟩
  have hvs := (hl v).1 hv
  exact ⟨hlt v hvs, hsub v (Trim.Mask.mem_indices.1 hvs)⟩

/-- the same under the name of the end-to-end corollary. -/
theorem gen_E2E_generated_subgraph (k t : Nat) (m : Mask) (asInt : Bool) (fuel : Nat) (verbose : Bool) (d : PV)
    (a : Acc) (hk : 1 ≤ k) (hm : m.size = 4 ^ k) (ht : 1 ≤ t) (hf : 4 ^ k + 2 ≤ fuel)
    (h : Gen.connect_coding_graph fuel (.int (k : Int)) (maskPV asInt m) (.int (t : Int)) (.bool verbose) =
      .ok (.tup [d, accPV a])) :
    SubGraphOf k a m ∧ ∀ v, Listed d t v → v < 4 ^ k ∧ m.getD v false = true :=
  gen_C02_generated_subgraph k t m asInt fuel verbose d a hk hm ht hf h

example : ∃ d, SubGraphOf 2 gcBalanced2 gcMask ∧ ∀ v, Listed d 2 v → v < 4 ^ 2 ∧ gcMask.getD v false = true := by
  obtain ⟨d, hg, -⟩ := gc_ccg
  exact ⟨d, gen_C02_generated_subgraph 2 2 gcMask false 18 false d gcBalanced2 (by decide) (by decide) (by decide)
    (by decide) hg⟩

/-- sentence 1 on the generated code, for EVERY filter predicate `P`, observed length, threshold, listed start
vertex, table, message, mode and `vt_length`: if the generated `find_vertices` returned the mask, the generated
`connect_coding_graph` returned `(d, a)` for that mask, and the generated `encode` returned `r` on that graph,
then `r` is a strand `s` (with a check iff `vt_length > 0`) that is a walk of the graph, and every window of the
observed length of `start k-mer ++ s` satisfies `P` — including the windows that overlap the virtual start
vertex (`C02_windows` composed with `tie_find_vertices`, `tie_connect_coding_graph`, `tie_encode`). -/
theorem gen_C02_windows (k t : Nat) (P : List Char → Bool) (m : Mask) (d : PV) (a : Acc) (v : Nat)
    (tbl : Option Tbl) (bits : List Nat) (fast : Bool) (n ffuel gfuel fuel : Nat) (fvb gvb vb : Bool) (r : PV)
    (hk : 1 ≤ k) (ht : 1 ≤ t) (hff : 2 * k + 2 ≤ ffuel) (hgf : 4 ^ k + 2 ≤ gfuel) (hf : 2 * n + 3 ≤ fuel)
    (hfind : Gen.find_vertices ffuel (.int (k : Int)) (tablePV k P) (.bool fvb) = .ok (maskPV false m))
    (hg : Gen.connect_coding_graph gfuel (.int (k : Int)) (maskPV false m) (.int (t : Int)) (.bool gvb) =
      .ok (.tup [d, accPV a]))
    (hv : Listed d t v) (htbl : TblOK tbl a) (hb : IsBits bits)
    (henc : Gen.encode fuel (bitsPV bits) (accPV a) (.int (v : Int)) (.bool fast) (.int (n : Int)) (tblPV tbl)
      (.bool false) (.bool vb) = .ok r) :
    ∃ (s : List Char) (c : Option (List Char)), r = encResultPV (s, c) ∧ isWalk a (v : Int) s = true ∧
      ∀ i, i + k ≤ (kmerOf k v ++ s).length → P (((kmerOf k v ++ s).drop i).take k) = true := by
  obtain ⟨hfv, hm⟩ := find_of_gen hff hfind
  obtain ⟨hsub, hlist⟩ := gen_C02_generated_subgraph k t m false gfuel gvb d a hk hm ht hgf hg
  obtain ⟨vs, -, -, hl, hlt, hw⟩ := ccg_facts hk hm ht hgf hg
  have hv4 : v < 4 ^ k := hlt v ((hl v).1 hv)
  obtain ⟨s, c, hr, he⟩ := gen_encode_ok hw.wf (hw.1 ▸ hv4) htbl hb hf henc
  have hw := encode_isWalk hb he
  exact ⟨s, c, hr, hw, C02_windows k P m a v s hk hfv hsub hv4 (hlist v hv).2 hw⟩

example (r : PV) (h : Gen.encode 200 (bitsPV [0, 1, 0, 1, 0, 1, 0, 1]) (accPV gcBalanced2) (.int 1) (.bool true)
      (.int 5) PV.none (.bool false) (.bool false) = .ok r) :
    ∃ (s : List Char) (c : Option (List Char)), r = encResultPV (s, c) ∧ isWalk gcBalanced2 1 s = true ∧
      ∀ i, i + 2 ≤ (kmerOf 2 1 ++ s).length → gcFilter (((kmerOf 2 1 ++ s).drop i).take 2) = true := by
  obtain ⟨d, hg, hd⟩ := gc_ccg
  exact gen_C02_windows 2 2 gcFilter gcMask d gcBalanced2 1 none _ true 5 6 18 200 false false false r (by decide)
    (by decide) (by decide) (by decide) (by decide) gc_find_gen hg (gc_listed hd) (tblOK_none _) msg_bits h

/-- sentence 2 on the generated code: for a window-decidable built-in filter configuration `c` with consistent GC
thresholds (the table handed to `find_vertices` holds the answers of `c.valid · true` on the k-mers), the whole
strand the generated `encode` returns — alone and prefixed with the start k-mer — passes the whole-sequence
check (`C02_whole` composed with the three ties). -/
theorem gen_C02_whole (c : FilterCfg) (t : Nat) (m : Mask) (d : PV) (a : Acc) (v : Nat)
    (tbl : Option Tbl) (bits : List Nat) (fast : Bool) (n ffuel gfuel fuel : Nat) (fvb gvb vb : Bool) (r : PV)
    (hc : c.WindowDecidable) (hgc : c.GcConsistent) (ht : 1 ≤ t) (hff : 2 * c.k + 2 ≤ ffuel)
    (hgf : 4 ^ c.k + 2 ≤ gfuel) (hf : 2 * n + 3 ≤ fuel)
    (hfind : Gen.find_vertices ffuel (.int (c.k : Int)) (tablePV c.k fun x => c.valid x true) (.bool fvb) =
      .ok (maskPV false m))
    (hg : Gen.connect_coding_graph gfuel (.int (c.k : Int)) (maskPV false m) (.int (t : Int)) (.bool gvb) =
      .ok (.tup [d, accPV a]))
    (hv : Listed d t v) (htbl : TblOK tbl a) (hb : IsBits bits)
    (henc : Gen.encode fuel (bitsPV bits) (accPV a) (.int (v : Int)) (.bool fast) (.int (n : Int)) (tblPV tbl)
      (.bool false) (.bool vb) = .ok r) :
    ∃ (s : List Char) (ck : Option (List Char)), r = encResultPV (s, ck) ∧
      c.valid s false = true ∧ c.valid (kmerOf c.k v ++ s) false = true := by
  have hk := hc.1
  obtain ⟨hfv, hm⟩ := find_of_gen hff hfind
  obtain ⟨hsub, hlist⟩ := gen_C02_generated_subgraph c.k t m false gfuel gvb d a hk hm ht hgf hg
  obtain ⟨vs, -, -, hl, hlt, hw⟩ := ccg_facts hk hm ht hgf hg
  have hv4 : v < 4 ^ c.k := hlt v ((hl v).1 hv)
  obtain ⟨s, ck, hr, he⟩ := gen_encode_ok hw.wf (hw.1 ▸ hv4) htbl hb hf henc
  exact ⟨s, ck, hr, C02_whole c m a v s hc hgc hfv hsub hv4 (hlist v hv).2 (encode_isWalk hb he)⟩

example (r : PV) (h : Gen.encode 200 (bitsPV [0, 1, 0, 1, 0, 1, 0, 1]) (accPV gcBalanced2) (.int 1) (.bool false)
      (.int 5) PV.none (.bool false) (.bool false) = .ok r) :
    ∃ (s : List Char) (ck : Option (List Char)), r = encResultPV (s, ck) ∧
      ({ k := 2, run := some 1, gc := some ⟨1, 1, 1⟩ } : FilterCfg).valid s false = true ∧
      ({ k := 2, run := some 1, gc := some ⟨1, 1, 1⟩ } : FilterCfg).valid (kmerOf 2 1 ++ s) false = true := by
  obtain ⟨d, hg, hd⟩ := gc_ccg
  exact gen_C02_whole { k := 2, run := some 1, gc := some ⟨1, 1, 1⟩ } 2 gcMask d gcBalanced2 1 none _ false 5 6 18
    200 false false false r ⟨by decide, fun r hr => by cases hr; decide, fun ms hms => by cases hms⟩
    (fun g hg => by cases hg; decide) (by decide) (by decide) (by decide) (by decide) gc_find_gen hg
    (gc_listed hd) (tblOK_none _) msg_bits h

/-- the whole write path, total form: for any filter predicate `P`, observed length `k ≥ 1`, threshold `t ≥ 1`,
listed start vertex, table and message of `L` bits, if the generated `find_vertices` and `connect_coding_graph`
returned the mask and `(d, a)`, then the generated `encode` (normal mode, any fuel from `L·4^k + 3` on) RETURNS a
strand `s` such that (1) `s` is a walk of the graph, (2) every window of `start k-mer ++ s` satisfies `P`, (3) `s`
has at most `L·4^k` nucleotides (`E2E_write_read` without the decoding clause, which is `gen_C01_roundtrip`). -/
theorem gen_E2E_write (k t : Nat) (P : List Char → Bool) (m : Mask) (d : PV) (a : Acc) (v : Nat)
    (tbl : Option Tbl) (bits : List Nat) (ffuel gfuel fuel : Nat) (fvb gvb vb : Bool)
    (hk : 1 ≤ k) (ht : 1 ≤ t) (hff : 2 * k + 2 ≤ ffuel) (hgf : 4 ^ k + 2 ≤ gfuel)
    (hf : bits.length * 4 ^ k + 3 ≤ fuel)
    (hfind : Gen.find_vertices ffuel (.int (k : Int)) (tablePV k P) (.bool fvb) = .ok (maskPV false m))
    (hg : Gen.connect_coding_graph gfuel (.int (k : Int)) (maskPV false m) (.int (t : Int)) (.bool gvb) =
      .ok (.tup [d, accPV a]))
    (hv : Listed d t v) (htbl : TblOK tbl a) (hb : IsBits bits) :
    ∃ s, Gen.encode fuel (bitsPV bits) (accPV a) (.int (v : Int)) (.bool false) (.int 0) (tblPV tbl)
        (.bool false) (.bool vb) = .ok (cstr s) ∧
      isWalk a (v : Int) s = true ∧
      (∀ i, i + k ≤ (kmerOf k v ++ s).length → P (((kmerOf k v ++ s).drop i).take k) = true) ∧
      s.length ≤ bits.length * 4 ^ k := by
  obtain ⟨hfv, hm⟩ := find_of_gen hff hfind
  obtain ⟨s, he, hw, hl⟩ := gen_C04_terminates_normal k t m false gfuel gvb d a v tbl bits fuel vb hk hm ht hgf hg
    hv htbl hb hf
  obtain ⟨hsub, hlist⟩ := gen_C02_generated_subgraph k t m false gfuel gvb d a hk hm ht hgf hg
  exact ⟨s, he, hw, C02_windows k P m a v s hk hfv hsub (hlist v hv).1 (hlist v hv).2 hw, hl⟩

example : ∃ s, Gen.encode 131 (bitsPV [0, 1, 0, 1, 0, 1, 0, 1]) (accPV gcBalanced2) (.int 1) (.bool false) (.int 0)
      PV.none (.bool false) (.bool false) = .ok (cstr s) ∧
    isWalk gcBalanced2 1 s = true ∧
    (∀ i, i + 2 ≤ (kmerOf 2 1 ++ s).length → gcFilter (((kmerOf 2 1 ++ s).drop i).take 2) = true) ∧
    s.length ≤ 8 * 4 ^ 2 := by
  obtain ⟨d, hg, hd⟩ := gc_ccg
  exact gen_E2E_write 2 2 gcFilter gcMask d gcBalanced2 1 none _ 6 18 131 false false false (by decide) (by decide)
    (by decide) (by decide) (by decide) gc_find_gen hg (gc_listed hd) (tblOK_none _) msg_bits

/-- the list the generated `obtain_latters` returns is: drop the first nucleotide of the k-mer, append one, in
`A, C, G, T` order (`C13_latters` about the generated code; any fuel — the function has no `while` loop). -/
theorem gen_C13_latters (k v fuel : Nat) (hk : 1 ≤ k) (h : v < 4 ^ k) :
    Gen.obtain_latters fuel (.int (v : Int)) (.int (k : Int)) =
      .ok (natsPV ("ACGT".toList.map fun c => kmerIdx ((kmerOf k v).tail ++ [c]))) := by
  rw [tie_obtain_latters, C13_latters k v hk h]

/-- the list the generated `obtain_formers` returns is: drop the last nucleotide, prepend one, in `A, C, G, T`
order (`C13_formers` about the generated code). -/
theorem gen_C13_formers (k v fuel : Nat) (hk : 1 ≤ k) (h : v < 4 ^ k) :
    Gen.obtain_formers fuel (.int (v : Int)) (.int (k : Int)) =
      .ok (natsPV ("ACGT".toList.map fun c => kmerIdx (c :: (kmerOf k v).dropLast))) := by
  rw [tie_obtain_formers k v fuel hk, C13_formers k v hk h]

/-- order 3: vertex 6 = `ACG` has the successors `CGA, CGC, CGG, CGT` = 24 … 27; vertex 27 = `CGT` has the
predecessors `ACG, CCG, GCG, TCG` = 6, 22, 38, 54. -/
example : Gen.obtain_latters 0 (.int 6) (.int 3) =
    .ok (natsPV ("ACGT".toList.map fun c => kmerIdx ((kmerOf 3 6).tail ++ [c]))) :=
  gen_C13_latters 3 6 0 (by decide) (by decide)
example : Gen.obtain_formers 0 (.int 27) (.int 3) =
    .ok (natsPV ("ACGT".toList.map fun c => kmerIdx (c :: (kmerOf 3 27).dropLast))) :=
  gen_C13_formers 3 27 0 (by decide) (by decide)
example : ("ACGT".toList.map fun c => kmerIdx ((kmerOf 3 6).tail ++ [c])) = [24, 25, 26, 27] ∧
    ("ACGT".toList.map fun c => kmerIdx (c :: (kmerOf 3 27).dropLast)) = [6, 22, 38, 54] := by decide +kernel

/-- the members of both lists are vertex indices (`C13_latters_lt`, `C13_formers_lt`). -/
theorem gen_C13_lt (k v fuel : Nat) (hk : 1 ≤ k) (h : v < 4 ^ k) :
    ∃ ls fs, Gen.obtain_latters fuel (.int (v : Int)) (.int (k : Int)) = .ok (natsPV ls) ∧
      Gen.obtain_formers fuel (.int (v : Int)) (.int (k : Int)) = .ok (natsPV fs) ∧
      (∀ w ∈ ls, w < 4 ^ k) ∧ ∀ u ∈ fs, u < 4 ^ k :=
  ⟨_, _, tie_obtain_latters k v fuel, tie_obtain_formers k v fuel hk, C13_latters_lt k v hk, C13_formers_lt k v hk h⟩

/-- `u` is in the list `obtain_formers(v, k)` returns exactly when `v` is in the list `obtain_latters(u, k)`
returns (`C13_former_iff_latter` about the generated code). -/
theorem gen_C13_former_iff_latter (k u v fuel fuel' : Nat) (hk : 1 ≤ k) (hu : u < 4 ^ k) (hv : v < 4 ^ k) :
    ∃ fs ls, Gen.obtain_formers fuel (.int (v : Int)) (.int (k : Int)) = .ok (natsPV fs) ∧
      Gen.obtain_latters fuel' (.int (u : Int)) (.int (k : Int)) = .ok (natsPV ls) ∧ (u ∈ fs ↔ v ∈ ls) :=
  ⟨_, _, tie_obtain_formers k v fuel hk, tie_obtain_latters k u fuel', C13_former_iff_latter k u v hk hu hv⟩

example : ∃ fs ls, Gen.obtain_formers 0 (.int 27) (.int 3) = .ok (natsPV fs) ∧
    Gen.obtain_latters 0 (.int 6) (.int 3) = .ok (natsPV ls) ∧ (6 ∈ fs ↔ 27 ∈ ls) :=
  gen_C13_former_iff_latter 3 6 27 0 0 (by decide) (by decide) (by decide)

/-- the accessor the generated `get_complete_accessor` returns holds the `j`-th successor of every vertex in
column `j`, and is a de Bruijn sub-table (`C13_complete` about the generated code). -/
theorem gen_C13_complete (k fuel : Nat) (verbose : Bool) :
    ∃ a : Acc, Gen.get_complete_accessor fuel (.int (k : Int)) (.bool verbose) = .ok (accPV a) ∧ WFdB k a ∧
      ∀ v j : Nat, v < 4 ^ k → j < 4 → a.ent v j = ((v * 4 + j) % 4 ^ k : Nat) :=
  ⟨_, tie_get_complete_accessor k fuel verbose, wfdb_complete k, fun v j h hj => (C13_complete k v j h hj).1⟩

example : ∃ a : Acc, Gen.get_complete_accessor 0 (.int 2) (.bool false) = .ok (accPV a) ∧ WFdB 2 a ∧
    ∀ v j : Nat, v < 4 ^ 2 → j < 4 → a.ent v j = ((v * 4 + j) % 4 ^ 2 : Nat) := gen_C13_complete 2 0 false

/-- every graph the generated builders return holds in column `j` either `-1` or the `j`-th shift-successor:
`connect_valid_graph` (`C13_wfdb_valid_graph`) … -/
theorem gen_C13_wfdb_valid_graph (k : Nat) (m : Mask) (asInt : Bool) (fuel : Nat) (verbose : Bool) (r : PV)
    (hm : m.size = 4 ^ k)
    (h : Gen.connect_valid_graph fuel (.int (k : Int)) (maskPV asInt m) (.bool verbose) = .ok r) :
    ∃ a : Acc, r = accPV a ∧ WFdB k a := by
  rw [tie_connect_valid_graph k m asInt fuel verbose hm] at h
  obtain ⟨a, ha, rfl⟩ := map_ok_inv h
  exact ⟨a, rfl, C13_wfdb_valid_graph k (some m) a ha⟩

/-- … `connect_coding_graph`, every threshold (`C13_wfdb_coding_graph`) … -/
theorem gen_C13_wfdb_coding_graph (k t : Nat) (m : Mask) (asInt : Bool) (fuel : Nat) (verbose : Bool) (r : PV)
    (hm : m.size = 4 ^ k) (hf : 4 ^ k + 2 ≤ fuel)
    (h : Gen.connect_coding_graph fuel (.int (k : Int)) (maskPV asInt m) (.int (t : Int)) (.bool verbose) = .ok r) :
    ∃ (d : PV) (a : Acc), r = .tup [d, accPV a] ∧ WFdB k a := by
  obtain ⟨vs, a, d, hc, rfl, -⟩ := ccg_of_ok hm hf h
  exact ⟨d, a, rfl, C13_wfdb_coding_graph k m t vs a hc⟩

/-- … and `latter_map_to_accessor` on a legal latter map: distinct keys below `4^k`, every listed successor a
shift-successor of its key (`C13_wfdb_latter_map`). -/
theorem gen_C13_wfdb_latter_map (k : Nat) (lm : LMap) (fuel : Nat) (verbose : Bool) (r : PV)
    (hn : LMap.KeysNodup lm) (hl : ∀ p ∈ lm, p.1 < 4 ^ k ∧ ∀ w ∈ p.2, w ∈ obtainLatters k p.1)
    (h : Gen.latter_map_to_accessor fuel (lmapPV lm) (.int (k : Int)) .none (.bool verbose) = .ok r) :
    ∃ a : Acc, r = accPV a ∧ WFdB k a := by
  rw [tie_latter_map_to_accessor_plain lm k fuel verbose hn (fun p hp => (hl p hp).1)] at h
  obtain ⟨a, ha, rfl⟩ := map_ok_inv h
  exact ⟨a, rfl, C13_wfdb_latter_map k lm a hl ha⟩

example : ∃ a : Acc, accPV gcBalanced2 = accPV a ∧ WFdB 2 a :=
  gen_C13_wfdb_valid_graph 2 gcMask false 0 false _ (by decide) gc_valid_gen
example : ∃ d, ∃ (d' : PV) (a : Acc), PV.tup [d, accPV gcBalanced2] = .tup [d', accPV a] ∧ WFdB 2 a := by
  obtain ⟨d, hg, -⟩ := gc_ccg
  exact ⟨d, gen_C13_wfdb_coding_graph 2 2 gcMask false 18 false _ (by decide) (by decide) hg⟩

/-! ## C14 — the graph representations are interchangeable

`a` is any arc subset of the order-`k` de Bruijn graph (`WFdB k a`), not only complete or vertex-induced ones.
The adjacency-matrix representation is not translated (see the header). -/

/-- accessor → latter map → accessor is the identity on the generated code: `accessor_to_latter_map` returns the
`dict` of a latter map `lm`, and `latter_map_to_accessor(lm, k)` returns the accessor
(`C14_latter_map_roundtrip`). -/
theorem gen_C14_latter_map_roundtrip (k : Nat) (a : Acc) (fuel fuel' : Nat) (vb vb' : Bool) (hk : 1 ≤ k)
    (h : WFdB k a) :
    ∃ lm : LMap, Gen.accessor_to_latter_map fuel (accPV a) (.bool vb) = .ok (lmapPV lm) ∧
      Gen.latter_map_to_accessor fuel' (lmapPV lm) (.int (k : Int)) .none (.bool vb') = .ok (accPV a) := by
  refine ⟨accessorToLatterMap a, tie_accessor_to_latter_map a fuel vb h.wf, ?_⟩
  rw [tie_latter_map_to_accessor_plain _ k fuel' vb' (keysNodup_latterMap a) (keys_lt_latterMap h.1),
    C14_latter_map_roundtrip k a hk h]
  rfl

theorem GraphCor.gc_wfdb : WFdB 2 gcBalanced2 := C13_wfdb_induced 2 gcMask

example : ∃ lm : LMap, Gen.accessor_to_latter_map 0 (accPV gcBalanced2) (.bool false) = .ok (lmapPV lm) ∧
    Gen.latter_map_to_accessor 0 (lmapPV lm) (.int 2) .none (.bool true) = .ok (accPV gcBalanced2) :=
  gen_C14_latter_map_roundtrip 2 gcBalanced2 0 0 false true (by decide) gc_wfdb

/-- the `dict` the generated `accessor_to_latter_map` returns has distinct keys, lists exactly the vertices that
have arcs, in increasing order, each with exactly its live successors in column order
(`C14_latter_map_content`). -/
theorem gen_C14_latter_map_content (k : Nat) (a : Acc) (fuel : Nat) (vb : Bool) (h : WFdB k a) :
    ∃ lm : LMap, Gen.accessor_to_latter_map fuel (accPV a) (.bool vb) = .ok (lmapPV lm) ∧ LMap.KeysNodup lm ∧
      lm.map (·.1) = (List.range (4 ^ k)).filter (fun (v : Nat) => decide (a.live (v : Int) ≠ [])) ∧
      ∀ (v : Nat) ls, (v, ls) ∈ lm → ls = (a.live (v : Int)).map fun j => (v * 4 + j) % 4 ^ k :=
  ⟨_, tie_accessor_to_latter_map a fuel vb h.wf, keysNodup_latterMap a, (C14_latter_map_content k a h).1,
    (C14_latter_map_content k a h).2⟩

example : ∃ lm : LMap, Gen.accessor_to_latter_map 0 (accPV gcBalanced2) (.bool false) = .ok (lmapPV lm) ∧
    LMap.KeysNodup lm ∧
    lm.map (·.1) = (List.range (4 ^ 2)).filter (fun (v : Nat) => decide (gcBalanced2.live (v : Int) ≠ [])) ∧
    ∀ (v : Nat) ls, (v, ls) ∈ lm → ls = (gcBalanced2.live (v : Int)).map fun j => (v * 4 + j) % 4 ^ 2 :=
  gen_C14_latter_map_content 2 gcBalanced2 0 false gc_wfdb

/-- the generated `obtain_vertices` returns exactly the vertices with arcs, in increasing order
(`C14_vertices`). -/
theorem gen_C14_vertices (k : Nat) (a : Acc) (fuel : Nat) (h : WFdB k a) :
    Gen.obtain_vertices fuel (accPV a) =
      .ok (idxArrPV ((List.range (4 ^ k)).filter (fun (v : Nat) => decide (a.live (v : Int) ≠ [])))) := by
  rw [tie_obtain_vertices a fuel h.wf, C14_vertices k a h]

example : Gen.obtain_vertices 0 (accPV gcBalanced2) =
    .ok (idxArrPV ((List.range (4 ^ 2)).filter (fun (v : Nat) => decide (gcBalanced2.live (v : Int) ≠ [])))) :=
  gen_C14_vertices 2 gcBalanced2 0 gc_wfdb
example : (List.range (4 ^ 2)).filter (fun (v : Nat) => decide (gcBalanced2.live (v : Int) ≠ [])) =
    [1, 2, 4, 7, 8, 11, 13, 14] := by decide +kernel

/-- depth-`d` leaf queries of the generated `obtain_leaf_vertices` return the same array from either
representation, equal (as a multiset) to the end points of all `d`-step walks from `v`; giving both
representations, or neither, raises `ValueError` (`C14_leaves`). -/
theorem gen_C14_leaves (k : Nat) (a : Acc) (v d fuel fuel' : Nat) (h : WFdB k a) (hv : v < 4 ^ k) :
    ∃ l : List Nat,
      Gen.obtain_leaf_vertices fuel (.int (v : Int)) (.int (d : Int)) (accPV a) .none = .ok (idxArrPV l) ∧
      Gen.obtain_leaf_vertices fuel' (.int (v : Int)) (.int (d : Int)) .none (lmapPV (accessorToLatterMap a)) =
        .ok (idxArrPV l) ∧
      l.Perm (walkEnds a d v) ∧
      Gen.obtain_leaf_vertices fuel (.int (v : Int)) (.int (d : Int)) (accPV a) (lmapPV (accessorToLatterMap a)) =
        .error .valueError ∧
      Gen.obtain_leaf_vertices fuel (.int (v : Int)) (.int (d : Int)) .none .none = .error .valueError := by
  obtain ⟨h1, h2, h3⟩ := C14_leaves k a v d h hv
  obtain ⟨b1, b2⟩ := tie_obtain_leaf_vertices_bad a (accessorToLatterMap a) v d fuel
  refine ⟨leafAcc a d [v], ?_, ?_, h3, b1, b2⟩
  · rw [tie_obtain_leaf_vertices_acc a v d fuel h.wf (by rw [h.1]; exact hv), h1]; rfl
  · rw [tie_obtain_leaf_vertices_map _ v d fuel' (keysNodup_latterMap a), h2]; rfl

/-- the two queries on what `accessor_to_latter_map` returned. -/
theorem gen_C14_leaves' (k : Nat) (a : Acc) (v d f0 fuel fuel' : Nat) (vb : Bool) (h : WFdB k a) (hv : v < 4 ^ k) :
    ∃ (lm : LMap) (l : List Nat), Gen.accessor_to_latter_map f0 (accPV a) (.bool vb) = .ok (lmapPV lm) ∧
      Gen.obtain_leaf_vertices fuel (.int (v : Int)) (.int (d : Int)) (accPV a) .none = .ok (idxArrPV l) ∧
      Gen.obtain_leaf_vertices fuel' (.int (v : Int)) (.int (d : Int)) .none (lmapPV lm) = .ok (idxArrPV l) ∧
      l.Perm (walkEnds a d v) := by
  obtain ⟨l, h1, h2, h3, -, -⟩ := gen_C14_leaves k a v d fuel fuel' h hv
  exact ⟨_, l, tie_accessor_to_latter_map a f0 vb h.wf, h1, h2, h3⟩

example : ∃ l : List Nat,
    Gen.obtain_leaf_vertices 0 (.int 1) (.int 3) (accPV gcBalanced2) .none = .ok (idxArrPV l) ∧
    Gen.obtain_leaf_vertices 0 (.int 1) (.int 3) .none (lmapPV (accessorToLatterMap gcBalanced2)) =
      .ok (idxArrPV l) ∧
    l.Perm (walkEnds gcBalanced2 3 1) ∧
    Gen.obtain_leaf_vertices 0 (.int 1) (.int 3) (accPV gcBalanced2) (lmapPV (accessorToLatterMap gcBalanced2)) =
      .error .valueError ∧
    Gen.obtain_leaf_vertices 0 (.int 1) (.int 3) .none .none = .error .valueError :=
  gen_C14_leaves 2 gcBalanced2 1 3 0 0 gc_wfdb (by decide)

/-- the score table the generated `calculate_intersection_score` returns for the latter map of a de Bruijn
sub-table has the accessor's shape `4^k × 4` and is positive only on existing arcs, whatever the two flags
(`C19_scores` about the generated code; the latter map is the one the generated `accessor_to_latter_map`
returns). -/
theorem gen_C19_scores (k : Nat) (a : Acc) (ins del : Bool) (f0 fuel : Nat) (vb vb' : Bool) (hk : 1 ≤ k)
    (h : WFdB k a) :
    ∃ (lm : LMap) (sc : Array (Array Nat)),
      Gen.accessor_to_latter_map f0 (accPV a) (.bool vb) = .ok (lmapPV lm) ∧
      Gen.calculate_intersection_score fuel (lmapPV lm) (.int (k : Int)) (.bool ins) (.bool del) (.bool vb') =
        .ok (scoresPV sc) ∧
      sc.size = 4 ^ k ∧ (∀ v, v < 4 ^ k → (sc.getD v #[]).size = 4) ∧
      ∀ v j : Nat, v < 4 ^ k → j < 4 → 0 < scoreAt sc v j → 0 ≤ a.ent (v : Int) j := by
  obtain ⟨h1, h2, h3⟩ := C19_scores k a ins del hk h
  exact ⟨accessorToLatterMap a, _, tie_accessor_to_latter_map a f0 vb h.wf,
    tie_calculate_intersection_score _ k fuel ins del vb' (keysNodup_latterMap a) (keys_lt_latterMap h.1), h1, h2, h3⟩

example : ∃ (lm : LMap) (sc : Array (Array Nat)),
    Gen.accessor_to_latter_map 0 (accPV gcBalanced2) (.bool false) = .ok (lmapPV lm) ∧
    Gen.calculate_intersection_score 0 (lmapPV lm) (.int 2) (.bool true) (.bool true) (.bool false) =
      .ok (scoresPV sc) ∧
    sc.size = 4 ^ 2 ∧ (∀ v, v < 4 ^ 2 → (sc.getD v #[]).size = 4) ∧
    ∀ v j : Nat, v < 4 ^ 2 → j < 4 → 0 < scoreAt sc v j → 0 ≤ gcBalanced2.ent (v : Int) j :=
  gen_C19_scores 2 gcBalanced2 true true 0 0 false false (by decide) gc_wfdb

end Dsw.Tie
