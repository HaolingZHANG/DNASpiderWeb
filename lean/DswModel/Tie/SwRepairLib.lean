import DswModel.Tie.NpLemmas
import DswModel.Tie.RepairDefs
import DswModel.Tie.SwVt
import DswModel.Tie.OpDna
import DswModel.Tie.GzPath
import DswModel.Lemmas.Repair
/-!
# Translation tie — `repair_dna`: shared lemmas

A `for` loop whose body may raise is simulated (`Sim`, `PyLemmas`) against a model fold in the exception monad
(`forLoop_sim`, `seq_sim`);
computation lemmas for `.set` values, `zip`, `sorted`, `itertools.product`, `-ones(n)`; the sorted duplicate-free
list is unique.
-/
namespace Dsw.Tie.Repair
open Dsw Dsw.Py Dsw.Tie

section Sim
variable {ε σ α : Type}

def foldIdxM (step : Nat → σ → α → R σ) : Nat → List α → σ → R σ
  | _, [], s => .ok s
  | n, a :: as, s =>
    match step n s a with
    | .ok s' => foldIdxM step (n + 1) as s'
    | .error err => .error err

/-- the items of a loop over a model list, numbered from `n`. -/
def itemsFrom (item : Nat → α → PV) : Nat → List α → List PV
  | _, [] => []
  | n, a :: as => item n a :: itemsFrom item (n + 1) as

theorem itemsFrom_enum (emb : α → PV) (n : Nat) (as : List α) :
    itemsFrom (fun i a => PV.tup [.int (i : Int), emb a]) n as = enumFrom n (as.map emb) := by
  induction as generalizing n with
  | nil => rfl
  | cons a as ih => simp only [itemsFrom, List.map_cons, enumFrom_cons, ih]

theorem itemsFrom_map (emb : α → PV) (n : Nat) (as : List α) :
    itemsFrom (fun _ a => emb a) n as = as.map emb := by
  induction as generalizing n with
  | nil => rfl
  | cons a as ih => simp only [itemsFrom, List.map_cons, ih]

theorem foldIdxM_const (f : σ → α → R σ) (n : Nat) (as : List α) (s : σ) :
    foldIdxM (fun _ => f) n as s = as.foldlM f s := by
  induction as generalizing n s with
  | nil => rfl
  | cons a as ih =>
    rw [foldIdxM, List.foldlM_cons]
    cases h : f s a with
    | error err => rfl
    | ok s' => exact ih (n + 1) s'

theorem foldIdxM_zipIdx (f : σ → α × Nat → R σ) (n : Nat) (as : List α) (s : σ) :
    foldIdxM (fun i s a => f s (a, i)) n as s = (as.zipIdx n).foldlM f s := by
  induction as generalizing n s with
  | nil => rfl
  | cons a as ih =>
    rw [foldIdxM, List.zipIdx_cons, List.foldlM_cons]
    cases h : f s (a, n) with
    | error err => rfl
    | ok s' => exact ih (n + 1) s'

/-- **simulation rule**: every iteration simulates one step of the model fold. -/
theorem forLoop_sim {body : PV → ε → R (Flow ε)} (Rel : Nat → σ → ε → Prop) (step : Nat → σ → α → R σ)
    (item : Nat → α → PV) :
    ∀ (as : List α) (n : Nat) (st : σ) (e : ε),
      (∀ i a st e, a ∈ as → n ≤ i → i < n + as.length → Rel i st e →
        Sim (Rel (i + 1)) (step i st a) (body (item i a) e)) →
      Rel n st e →
      Sim (Rel (n + as.length)) (foldIdxM step n as st) (forLoop body (itemsFrom item n as) e) := by
  intro as
  induction as with
  | nil => intro n st e _ h0; exact ⟨e, rfl, h0⟩
  | cons a as ih =>
    intro n st e hstep h0
    have h := hstep n a st e List.mem_cons_self (Nat.le_refl _) (by simp) h0
    rw [foldIdxM, itemsFrom]
    cases hs : step n st a with
    | error err =>
      rw [hs] at h
      exact forLoop_cons_error h _
    | ok s' =>
      rw [hs] at h
      obtain ⟨e1, hb, h1⟩ := h
      rw [forLoop_cons_norm hb]
      have hlen : n + (a :: as).length = n + 1 + as.length := Nat.add_right_comm n as.length 1
      rw [hlen]
      exact ih (n + 1) s' e1
        (fun i a' st' e' ha' hi1 hi2 hr =>
          hstep i a' st' e' (List.mem_cons_of_mem _ ha') (Nat.le_of_succ_le hi1) (hlen ▸ hi2) hr) h1

/-- a statement list that ends by returning the value `m` (or raising). -/
def retR (m : RV) : R (Flow ε) :=
  match m with
  | .ok v => .ok (.ret v)
  | .error err => .error err

@[simp] theorem retR_ok (v : PV) : (retR (.ok v) : R (Flow ε)) = .ok (.ret v) := rfl
@[simp] theorem retR_error (err : PyErr) : (retR (.error err) : R (Flow ε)) = .error err := rfl

theorem callResult_retR (m : RV) : callResult (retR m : R (Flow ε)) = m := by
  cases m <;> rfl

/-- a simulated loop followed by a continuation that returns; the continuation may use the model outcome. -/
theorem seq_sim' {Rel : σ → ε → Prop} {m : R σ} {r : R (Flow ε)} {k : ε → R (Flow ε)} {g : σ → RV}
    (h : Sim Rel m r) (hk : ∀ s e, m = .ok s → Rel s e → k e = retR (g s)) :
    seq r k = retR (m.bind g) := by
  cases m with
  | error err => rw [show r = .error err from h]; rfl
  | ok s =>
    obtain ⟨e', rfl, hr⟩ := h
    exact hk s e' rfl hr

theorem seq_sim {Rel : σ → ε → Prop} {m : R σ} {r : R (Flow ε)} {k : ε → R (Flow ε)} {g : σ → RV}
    (h : Sim Rel m r) (hk : ∀ s e, Rel s e → k e = retR (g s)) :
    seq r k = retR (m.bind g) :=
  seq_sim' h fun s e _ => hk s e

end Sim

theorem pySliceV_str_int (s : List Char) (a b : Int) :
    pySliceV (.str s) (.int a) (.int b) = .ok (.str (pySlice s a b)) := rfl
theorem pySliceV_str_none_int (s : List Char) (b : Int) :
    pySliceV (.str s) .none (.int b) = .ok (.str (pySlice s 0 b)) := rfl
theorem pySliceV_arr_int (l : List PV) (a b : Int) :
    pySliceV (.arr l) (.int a) (.int b) = .ok (.arr (pySlice l a b)) := rfl

theorem pySlice_map {α β} (f : α → β) (l : List α) (a b : Int) :
    pySlice (l.map f) a b = (pySlice l a b).map f := by
  simp [pySlice, List.map_take, List.map_drop]

/-- `l[i]` for the entry right after the prefix `A`. -/
theorem pyIndex_list_mid (A B : List PV) (x : PV) :
    pyIndex (.list (A ++ x :: B)) (.int (A.length : Int)) = .ok x := by
  rw [pyIndex_list_getD (by simp)]
  simp [List.getD_eq_getElem?_getD]

/-- `l[i] = y` for the entry right after the prefix `A`. -/
theorem pySetItem_list_mid (A B : List PV) (x y : PV) :
    pySetItem (.list (A ++ x :: B)) (.int (A.length : Int)) y = .ok (.list (A ++ y :: B)) := by
  rw [pySetItem_list_nat (by simp)]
  simp

/-- `l[-1] = y` right after `l.append(x)`. -/
theorem pySetItem_list_append_singleton_neg_one (l : List PV) (x y : PV) :
    pySetItem (.list (l ++ [x])) (.int (-1)) y = .ok (.list (l ++ [y])) := by
  simp [pySetItem, pySetItemSeq, normIndex_neg_one (n := l.length + 1) (by omega)]

/-- `fragments[i]` on a tuple of strings. -/
theorem pyIndex_tup_strs {l : List (List Char)} {i : Nat} (h : i < l.length) :
    pyIndex (.tup (l.map .str)) (.int (i : Int)) = .ok (.str (l.getD i [])) := by
  rw [pyIndex_tup_nat (by simpa using h)]
  simp [List.getD_eq_getElem?_getD, h]

theorem pyIndex_list_strs {l : List (List Char)} {i : Nat} (h : i < l.length) :
    pyIndex (.list (l.map .str)) (.int (i : Int)) = .ok (.str (l.getD i [])) := by
  rw [pyIndex_list_nat (by simpa using h)]
  simp [List.getD_eq_getElem?_getD, h]

@[simp] theorem pyIter_set (l : List PV) : pyIter (.set l) = .ok l := rfl
@[simp] theorem pyList_set (l : List PV) : pyList (.set l) = .ok (.list l) := rfl
@[simp] theorem pyLen_set (l : List PV) : pyLen (.set l) = .ok (.int l.length) := rfl

theorem findIdxEq_strs (x : List Char) (l : List (List Char)) (i : Nat) :
    (findIdxEq (.str x) (l.map .str) i).isSome = l.contains x := by
  induction l generalizing i with
  | nil => rfl
  | cons y r ih =>
    rw [List.map_cons, findIdxEq_cons, eqb_str, List.contains_cons]
    by_cases h : y = x
    · subst h; simp
    · have h1 : (y == x) = false := by simpa using h
      have h2 : (x == y) = false := by simpa using fun e : x = y => h e.symm
      rw [h1, h2]
      simpa using ih (i + 1)

theorem pyIn_set_strs (x : List Char) (l : List (List Char)) :
    pyIn (.str x) (.set (l.map .str)) = .ok (l.contains x) := by
  simp only [pyIn, findIdxEq_strs]

/-- `s.add(x)` on a set of strings. -/
theorem pySetAdd_strs (l : List (List Char)) (x : List Char) :
    pySetAdd (.set (l.map .str)) (.str x) = .ok (.set ((if l.contains x then l else l ++ [x]).map .str)) := by
  simp only [pySetAdd, findIdxEq_strs]
  cases l.contains x <;> simp

theorem zipPairs_map {α β} (f : α → PV) (g : β → PV) (xs : List α) (ys : List β) :
    zipPairs (xs.map f) (ys.map g) = (xs.zip ys).map fun p => PV.tup [f p.1, g p.2] := by
  induction xs generalizing ys with
  | nil => rfl
  | cons x xs ih =>
    cases ys with
    | nil => rfl
    | cons y ys => simp only [List.map_cons, zipPairs, List.zip_cons_cons, ih]

theorem pyZip_lists (xs ys : List PV) : pyZip (.list xs) (.list ys) = .ok (.list (zipPairs xs ys)) := rfl

theorem productLists_map {α} (f : α → PV) (ls : List (List α)) :
    productLists (ls.map (·.map f)) = (product ls).map (·.map f) := by
  induction ls with
  | nil => rfl
  | cons fs rest ih =>
    simp only [List.map_cons, productLists, product, ih, List.map_flatMap, List.flatMap_map, List.map_map]
    rfl

theorem mapM_pyIter_lists (f : PV → Option (List PV)) (hf : ∀ l, f (.list l) = some l) (ls : List (List PV)) :
    (ls.map PV.list).mapM f = some ls := by
  induction ls with
  | nil => rfl
  | cons l ls ih => simp [List.mapM_cons, ih, hf]

/-- `itertools.product(*lists)` on a list of lists of strings. -/
theorem pyProduct_strs (ls : List (List (List Char))) :
    pyProduct (.list (ls.map fun fs => .list (fs.map .str))) =
      .ok (.list ((product ls).map fun frs => .tup (frs.map .str))) := by
  have h : (ls.map fun fs => PV.list (fs.map PV.str)) = (ls.map (·.map PV.str)).map PV.list := by simp
  rw [h]
  simp only [pyProduct, pyIter_list]
  rw [mapM_pyIter_lists _ (fun l => rfl)]
  simp only [productLists_map, List.map_map]
  rfl

theorem npNegList_ints (l : List Int) : npNegList (l.map .int) = .ok ((l.map fun x => -x).map .int) := by
  induction l with
  | nil => rfl
  | cons x l ih => simp [npNegList, ih]

/-- `-ones(shape=(n,), dtype=int)`. -/
theorem neg_ones (n : Nat) :
    (bnd (npOnes (.tup [.int (n : Int)])) fun t => npNeg t) = .ok (.arr ((List.replicate n (-1 : Int)).map .int)) := by
  have h : ¬ ((n : Int) < 0) := by omega
  have h1 : List.replicate n (PV.int 1) = (List.replicate n (1 : Int)).map .int := by simp
  simp only [npOnes, npFull, h, if_false, bnd_ok, Int.toNat_natCast, npNeg, h1, npNegList_ints, R_map_ok]
  simp

theorem strLt_iff (x y : List Char) : Py.strLt x y = !strLe y x := by
  induction x generalizing y with
  | nil => cases y <;> rfl
  | cons a as ih =>
    cases y with
    | nil => rfl
    | cons b bs =>
      rw [strLt_cons_cons, strLe]
      by_cases h1 : a.toNat < b.toNat
      · have h2 : ¬ b.toNat < a.toNat := by omega
        simp [h1, h2]
      · by_cases h2 : b.toNat < a.toNat
        · have h3 : a.toNat > b.toNat := h2
          simp [h1, h2]
        · have h3 : ¬ a.toNat > b.toNat := h2
          simp only [h1, h2, if_false, ih]

theorem strLe_antisymm : ∀ x y : List Char, strLe x y = true → strLe y x = true → x = y
  | [], [], _, _ => rfl
  | [], _ :: _, _, h => by simp [strLe] at h
  | _ :: _, [], h, _ => by simp [strLe] at h
  | a :: as, b :: bs, h1, h2 => by
    simp only [strLe] at h1 h2
    by_cases c1 : a.toNat < b.toNat
    · have c2 : ¬ b.toNat < a.toNat := by omega
      simp [c1, c2] at h2
    · by_cases c2 : b.toNat < a.toNat
      · simp [c1, c2] at h1
      · simp only [c1, c2, if_false] at h1 h2
        have : a = b := Char.toNat_inj.mp (by omega)
        rw [this, strLe_antisymm as bs h1 h2]

/-- `sorted` on a list of strings is insertion by `<` from the right. -/
theorem insertSortedPV_strs (x : List Char) (l : List (List Char)) :
    insertSortedPV (.str x) (l.map .str) = .ok ((insertSorted Py.strLt x l).map .str) := by
  induction l with
  | nil => rfl
  | cons y ys ih =>
    simp only [List.map_cons, insertSortedPV, pyLt_str, insertSorted]
    cases Py.strLt x y with
    | true => rfl
    | false => simp only [ih, R_map_ok, Bool.false_eq_true, if_false, List.map_cons]

theorem sortPV_strs (l : List (List Char)) : sortPV (l.map .str) = .ok ((isort Py.strLt l).map .str) := by
  induction l with
  | nil => rfl
  | cons x xs ih =>
    simp only [List.map_cons, sortPV, ih, insertSortedPV_strs]
    rfl

theorem pySorted_list_strs (l : List (List Char)) :
    pySorted (.list (l.map .str)) = .ok (.list ((isort Py.strLt l.reverse).map .str)) := by
  simp only [pySorted, pyIter_list, ← List.map_reverse, sortPV_strs, R_map_ok]

theorem isort_strLt_pairwise (l : List (List Char)) : (isort Py.strLt l).Pairwise (fun x y => strLe x y = true) := by
  induction l with
  | nil => simp [isort]
  | cons z zs ih =>
    rw [isort_cons]
    refine pairwise_insertSorted Py.strLt _ ?_ ?_ strLe_trans z _ ih
    · intro x y h
      rw [strLt_iff] at h
      exact strLe_total y x (by simpa using h)
    · intro x y h
      rw [strLt_iff] at h
      simpa using h

theorem isort_strLe_pairwise (l : List (List Char)) : (isort strLe l).Pairwise (fun x y => strLe x y = true) := by
  induction l with
  | nil => simp [isort]
  | cons z zs ih =>
    rw [isort_cons]
    exact pairwise_insertSorted strLe _ (fun _ _ h => h) strLe_total strLe_trans z _ ih

/-- two duplicate-free lists with the same members sort to the same list, whichever of the two insertion
sorts is used. -/
theorem isort_unique {l₁ l₂ : List (List Char)} (h₁ : l₁.Nodup) (h₂ : l₂.Nodup) (hm : ∀ x, x ∈ l₁ ↔ x ∈ l₂) :
    isort Py.strLt l₁ = isort strLe l₂ := by
  apply List.Perm.eq_of_pairwise (le := fun x y => strLe x y = true)
  · intro x y _ _ hxy hyx; exact strLe_antisymm x y hxy hyx
  · exact isort_strLt_pairwise l₁
  · exact isort_strLe_pairwise l₂
  · rw [List.perm_ext_iff_of_nodup (nodup_isort _ _ h₁) (nodup_isort _ _ h₂)]
    intro x
    rw [mem_isort, mem_isort]
    exact hm x

/-- the insertion-ordered duplicate-free list a Python set of strings is modelled by. -/
def dedup (l : List (List Char)) : List (List Char) :=
  l.foldl (fun set x => if set.contains x then set else set ++ [x]) []

/-- `set.add(y)` on the insertion-ordered list. -/
theorem setAdd_spec {set : List (List Char)} (y : List Char) (h : set.Nodup) :
    (if set.contains y then set else set ++ [y]).Nodup ∧
      ∀ x, x ∈ (if set.contains y then set else set ++ [y]) ↔ x ∈ set ∨ x = y := by
  by_cases hc : set.contains y = true
  · rw [if_pos hc]
    refine ⟨h, fun x => ⟨Or.inl, ?_⟩⟩
    rintro (h1 | rfl)
    · exact h1
    · exact List.contains_iff_mem.mp hc
  · rw [if_neg hc]
    have hy : y ∉ set := fun hm => hc (List.contains_iff_mem.mpr hm)
    refine ⟨List.nodup_append.mpr ⟨h, List.pairwise_singleton _ y, fun a ha b hb => ?_⟩, fun x => by
      rw [List.mem_append, List.mem_singleton]⟩
    rw [List.mem_singleton.mp hb]
    rintro rfl
    exact hy ha

theorem dedup_foldl_spec (l : List (List Char)) :
    ∀ (set : List (List Char)), set.Nodup →
      (l.foldl (fun set x => if set.contains x then set else set ++ [x]) set).Nodup ∧
      ∀ x, x ∈ l.foldl (fun set x => if set.contains x then set else set ++ [x]) set ↔ x ∈ set ∨ x ∈ l := by
  induction l with
  | nil => intro set h; exact ⟨h, by simp⟩
  | cons y ys ih =>
    intro set h
    obtain ⟨hn, hm⟩ := setAdd_spec y h
    obtain ⟨i1, i2⟩ := ih _ hn
    refine ⟨i1, fun x => ?_⟩
    rw [List.foldl_cons, i2, hm, List.mem_cons, or_assoc]
theorem nodup_dedup (l : List (List Char)) : (dedup l).Nodup :=
  (dedup_foldl_spec l [] List.nodup_nil).1

theorem mem_dedup (l : List (List Char)) (x : List Char) : x ∈ dedup l ↔ x ∈ l := by
  rw [dedup, (dedup_foldl_spec l [] List.nodup_nil).2]; simp

/-- `sorted(list(set))` for the set built by adding the kept candidates in order. -/
theorem sorted_dedup (kept : List (List Char)) :
    isort Py.strLt (dedup kept).reverse = isort strLe kept.eraseDups := by
  apply isort_unique
  · exact (List.reverse_perm _).nodup_iff.mpr (nodup_dedup kept)
  · exact nodup_eraseDups _ _ (Nat.le_refl _)
  · intro x
    rw [List.mem_reverse, mem_dedup, List.mem_eraseDups]

abbrev Env := Gen.repair_dna.Env

/-- the arguments of one `repair_dna` call, as model values; `Const` ties them to the environment. -/
structure Params where
  a : Acc
  dna : List Char
  k : Nat
  chk : Option (List Char)
  hasIndel : Bool
  heap : Nat

/-- the arguments and the constant `nucleotides`, as the environment holds them.  This and the other relations
between a model state and the environment are record-equation relations, see README.md, step 1. -/
def Const (P : Params) (e : Env) : Prop :=
  e = { e with dna_sequence := .str P.dna, accessor := accPV P.a, observed_length := .int (P.k : Int),
               vt_check := chkPV P.chk, has_indel := .bool P.hasIndel, heap_size := .int (P.heap : Int),
               nucleotides := .str ['A', 'C', 'G', 'T'] }

/-- `dna_to_number(s, is_string=False)` on an ACGT string. -/
theorem dna_to_number_acgt (fuel : Nat) {s : List Char} (hs : IsAcgt s) :
    Gen.dna_to_number fuel (.str s) (.bool false) = .ok (.int ((kmerIdx s : Nat) : Int)) := by
  have := tie_dna_to_number_int s fuel
  rw [dnaToNumberInt_acgt s hs] at this
  exact this

/-- the tie of `path_matching`, on the arguments as `repair_dna` spells them. -/
theorem path_matching_spec (fuel : Nat) {a : Acc} (ha : a.WF) (chunk : List Char) {prev : Int}
    (hp : -(a.size : Int) ≤ prev ∧ prev < a.size) (occ : Nat) (hasIndel : Bool) :
    Gen.path_matching fuel (.str chunk) (accPV a) (.int prev) (.int (occ : Int)) (.bool hasIndel) .none =
      (pathMatching a chunk prev occ hasIndel).map pmResultPV :=
  tie_path_matching a chunk prev occ hasIndel fuel ha hp

/-- `set_vt(s, len(check))` compared with the check: the model's `vtMatches`. -/
theorem set_vt_check (fuel : Nat) (s c : List Char) (hc : c ≠ []) (hf : 2 * c.length + 2 ≤ fuel) :
    (bnd (Gen.set_vt fuel (.str s) (.int (c.length : Int))) fun t => pyEq (.str c) t) =
      vtMatches s (some c) := by
  have hlen : 1 ≤ c.length := by
    cases c with
    | nil => exact absurd rfl hc
    | cons x xs => simp
  have := tie_set_vt s c.length fuel hlen hf
  simp only [cstr] at this
  rw [this, vtMatches]
  cases setVt s c.length with
  | error err => rfl
  | ok r =>
    simp only [R_map_ok, bnd_ok, pyEq_def]
    congr 1
    exact Bool.beq_comm

/-- what the fragment loops leave alone and the output stage reads. -/
def Keep (K : PV × PV × PV) (e : Env) : Prop :=
  e = { e with split_sequences := K.1, detected_count := K.2.1, chuck_flag := K.2.2 }

end Dsw.Tie.Repair
