import DswModel.Tie.BfDefs
import DswModel.Tie.PyLemmas
/-!
# DswModel.Tie.BfLib — what the primitives called by `dsw/biofilter.py` compute on the embedded arguments
-/
namespace Dsw.Tie
open Dsw Dsw.Py

theorem pyGetAttr_dict (ks vs : List PV) (name : String) :
    pyGetAttr (.dict ks vs) name =
      match findIdxEq (.str name.toList) ks 0 with
      | some j => .ok (vs.getD j .none)
      | Option.none => .error .other := rfl

theorem pySetAttr_dict (ks vs : List PV) (name : String) (v : PV) :
    pySetAttr (.dict ks vs) name v =
      match findIdxEq (.str name.toList) ks 0 with
      | some j => .ok (.dict ks (vs.set j v))
      | Option.none => .ok (.dict (ks ++ [.str name.toList]) (vs ++ [v])) := rfl

/-- Attribute names are compared as strings (`String.reduceEq` decides that for literals): evaluating a lookup in a
concrete object by `rfl` has the kernel decode every name into its characters first. -/
theorem findIdxEq_attr_cons (a b : String) (ks : List PV) (i : Nat) :
    findIdxEq (.str a.toList) (.str b.toList :: ks) i =
      if b = a then some i else findIdxEq (.str a.toList) ks (i + 1) := by
  simp only [findIdxEq, eqb_str, beq_iff_eq, String.toList_inj]

theorem getAttr_observed_length (k : Nat) (run : Option Nat) (gc : Option (Dbl × Dbl)) (motifs : Option (List (List Char))) :
    pyGetAttr (bfObj k run gc motifs) "observed_length" = .ok (.int k) := by
  rw [bfObj, pyGetAttr_dict]
  simp only [findIdxEq_attr_cons, String.reduceEq, if_false, if_true]
  rfl
theorem getAttr_max_homopolymer_runs (k : Nat) (run : Option Nat) (gc : Option (Dbl × Dbl))
    (motifs : Option (List (List Char))) :
    pyGetAttr (bfObj k run gc motifs) "max_homopolymer_runs" = .ok (optNatPV run) := by
  rw [bfObj, pyGetAttr_dict]
  simp only [findIdxEq_attr_cons, String.reduceEq, if_false, if_true]
  rfl
theorem getAttr_gc_range (k : Nat) (run : Option Nat) (gc : Option (Dbl × Dbl)) (motifs : Option (List (List Char))) :
    pyGetAttr (bfObj k run gc motifs) "gc_range" = .ok (gcPV gc) := by
  rw [bfObj, pyGetAttr_dict]
  simp only [findIdxEq_attr_cons, String.reduceEq, if_false, if_true]
  rfl
theorem getAttr_undesired_motifs (k : Nat) (run : Option Nat) (gc : Option (Dbl × Dbl))
    (motifs : Option (List (List Char))) :
    pyGetAttr (bfObj k run gc motifs) "undesired_motifs" = .ok (motifsPV motifs) := by
  rw [bfObj, pyGetAttr_dict]
  simp only [findIdxEq_attr_cons, String.reduceEq, if_false, if_true]
  rfl

@[simp] theorem pyIsNone_none : pyIsNone .none = true := rfl
@[simp] theorem pyIsNone_int (i : Int) : pyIsNone (.int i) = false := rfl
@[simp] theorem pyIsNone_list (l : List PV) : pyIsNone (.list l) = false := rfl

theorem pyIndex_pair_zero (a b : PV) : pyIndex (.list [a, b]) (.int 0) = .ok a := rfl
theorem pyIndex_pair_one (a b : PV) : pyIndex (.list [a, b]) (.int 1) = .ok b := rfl

theorem findSub_isSome (p s : List Char) (i : Nat) : (findSub p s i).isSome = isInfix p s := by
  induction s generalizing i with
  | nil => cases p <;> rfl
  | cons c cs ih =>
    simp only [findSub, isInfix]
    by_cases h : p.isPrefixOf (c :: cs)
    · simp [h]
    · simp [h, ih]

theorem pyIn_str_str (p s : List Char) : pyIn (.str p) (.str s) = .ok (isInfix p s) := by
  simp only [pyIn, findSub_isSome]

/-- `nucleotide not in "ACGT"`. -/
theorem pyIn_ACGT (c : Char) : pyIn (.str [c]) (.str ['A', 'C', 'G', 'T']) = .ok (nucIdx c).isSome := by
  rw [pyIn_str_str]
  by_cases hA : c = 'A'
  · subst hA; rfl
  by_cases hC : c = 'C'
  · subst hC; rfl
  by_cases hG : c = 'G'
  · subst hG; rfl
  by_cases hT : c = 'T'
  · subst hT; rfl
  simp [isInfix, nucIdx, hA, hC, hG, hT, List.isPrefixOf]

theorem replaceGo_single (a b : Char) (s : List Char) :
    replaceGo [a] [b] 0 s = s.map fun c => if c = a then b else c := by
  induction s with
  | nil => rfl
  | cons c cs ih =>
    by_cases h : c = a
    · subst h; simp [replaceGo, List.isPrefixOf, ih]
    · have h' : ¬ a = c := fun e => h e.symm
      simp [replaceGo, List.isPrefixOf, ih, h, h']

theorem pyReplace_single (s : List Char) (a b : Char) :
    pyReplace (.str s) (.str [a]) (.str [b]) = .ok (.str (s.map fun c => if c = a then b else c)) := by
  simp [pyReplace, replaceGo_single]

theorem countGo_single (a : Char) (s : List Char) : countGo [a] 0 s = s.count a := by
  induction s with
  | nil => rfl
  | cons c cs ih =>
    by_cases h : c = a
    · subst h; simp [countGo, List.isPrefixOf, ih]; omega
    · have h' : ¬ a = c := fun e => h e.symm
      simp [countGo, List.isPrefixOf, ih, h, h']

theorem pyCount_single (s : List Char) (a : Char) : pyCount (.str s) (.str [a]) = .ok (.int (s.count a : Nat)) := by
  simp [pyCount, countGo_single]

theorem pyUpper_ascii {s : List Char} (h : ∀ c ∈ s, c.toNat < 128) :
    pyUpper (.str s) = .ok (.str (s.map Char.toUpper)) := by
  have : s.all (fun c => decide (c.toNat < 128)) = true := by simpa using h
  simp [pyUpper, this]

/-- what the four `replace` calls do to one character. -/
def rcChar (c : Char) : Char :=
  let c := if c = 'A' then 't' else c
  let c := if c = 'C' then 'g' else c
  let c := if c = 'G' then 'c' else c
  if c = 'T' then 'a' else c

theorem rcChar_spec {c : Char} (h : MotifChar c) : (rcChar c).toNat < 128 ∧ (rcChar c).toUpper = complement c := by
  by_cases hA : c = 'A'
  · subst hA; decide
  by_cases hC : c = 'C'
  · subst hC; decide
  by_cases hG : c = 'G'
  · subst hG; decide
  by_cases hT : c = 'T'
  · subst hT; decide
  simp only [rcChar, complement, hA, hC, hG, hT, if_false]
  exact h

theorem map_rcChar (s : List Char) :
    (((s.map fun c => if c = 'A' then 't' else c).map fun c => if c = 'C' then 'g' else c).map
      fun c => if c = 'G' then 'c' else c).map (fun c => if c = 'T' then 'a' else c) = s.map rcChar := by
  unfold rcChar
  simp only [List.map_map, Function.comp_def]

/-- `List.map_map` with the composite applied: a goal `Char.toUpper ∘ rcChar = …` would have the unifier unfold
`Char.toUpper` on character literals. -/
theorem map_map_congr {α β γ} {f : α → β} {g : β → γ} {h : α → γ} {l : List α} (H : ∀ a ∈ l, g (f a) = h a) :
    (l.map f).map g = l.map h := by
  rw [List.map_map]
  exact List.map_congr_left H

theorem pyUpper_rc {m : List Char} (hm : ∀ ch ∈ m, MotifChar ch) :
    pyUpper (.str (m.map rcChar).reverse) = .ok (.str (revComp m)) := by
  rw [pyUpper_ascii, List.map_reverse, map_map_congr fun c hc => (rcChar_spec (hm c hc)).2, revComp]
  intro c hc
  obtain ⟨d, hd, rfl⟩ := List.mem_map.mp (List.mem_reverse.mp hc)
  exact (rcChar_spec (hm d hd)).1

/-! ## the GC rule: the code's float comparisons are the model's integer comparisons -/

theorem roundDouble_den_pos {n : Int} {d : Nat} {x : Dbl} (h : roundDouble n d = some x) : 0 < x.den := by
  unfold roundDouble at h
  by_cases h0 : n = 0 ∨ d = 0
  · rw [if_pos h0] at h; cases h; exact Nat.one_pos
  · rw [if_neg h0] at h
    generalize roundPos n.natAbs d = me at h
    dsimp only at h
    by_cases hov : me.2 > 971 ∨ (me.2 = 971 ∧ me.1 ≥ 2 ^ 53)
    · rw [if_pos hov] at h; cases h
    · rw [if_neg hov] at h
      by_cases he : me.2 ≥ 0
      · rw [if_pos he] at h; cases h; exact Nat.one_pos
      · rw [if_neg he] at h; cases h; exact Nat.two_pow_pos _

theorem asDbl?_dblPV {x : Dbl} (h : 0 < x.den) : (dblPV x).asDbl? = some x := by
  have : ¬ x.den = 0 := by omega
  simp [dblPV, PV.asDbl?, this]

/-- a float operation on two operands that convert to doubles, one of them a float. -/
theorem floatOp_dbl {f : Dbl → Dbl → Option Dbl} {a b : PV} {x y z : Dbl} (hr : (a.isRat || b.isRat) = true)
    (ha : a.asDbl? = some x) (hb : b.asDbl? = some y) (hz : f x y = some z) : floatOp f a b = .ok (dblPV z) := by
  rw [floatOp, hr, ha, hb]
  simp only [if_true, hz, ratOfDbl, dblPV]

theorem pyMul_dbl_nat {x fk y : Dbl} {k : Nat} (hx : 0 < x.den) (hfk : Dbl.ofInt k = some fk) (hy : x.mul fk = some y) :
    pyMul (dblPV x) (.int k) = .ok (dblPV y) :=
  floatOp_dbl rfl (asDbl?_dblPV hx) hfk hy

theorem pySub_nat_dbl {fk a y : Dbl} {k : Nat} (ha : 0 < a.den) (hfk : Dbl.ofInt k = some fk) (hy : fk.sub a = some y) :
    pySub (.int k) (dblPV a) = .ok (dblPV y) :=
  floatOp_dbl rfl hfk (asDbl?_dblPV ha) hy

theorem pyGt_int_dbl (n : Int) {x : Dbl} (hx : 0 < x.den) : pyGt (.int n) (dblPV x) = .ok (decide (n > x.floor)) := by
  have h : pyGt (.int n) (dblPV x) = .ok (decide (x.num < n * x.den)) := rfl
  rw [h]
  congr 1
  apply decide_eq_decide.mpr
  have hd : (0 : Int) < x.den := by omega
  rw [Dbl.floor, Int.fdiv_eq_ediv_of_nonneg _ (Int.natCast_nonneg _), gt_iff_lt, Int.ediv_lt_iff_lt_mul hd]

theorem pyLt_int_dbl (n : Int) {x : Dbl} (hx : 0 < x.den) : pyLt (.int n) (dblPV x) = .ok (decide (n < x.ceil)) := by
  have h : pyLt (.int n) (dblPV x) = .ok (decide (n * x.den < x.num)) := rfl
  rw [h]
  congr 1
  apply decide_eq_decide.mpr
  have hd : (0 : Int) < x.den := by omega
  have key : (-x.num) / (x.den : Int) < -n ↔ -x.num < -n * x.den := Int.ediv_lt_iff_lt_mul hd
  rw [Dbl.ceil, Int.fdiv_eq_ediv_of_nonneg _ (Int.natCast_nonneg _)]
  rw [Int.neg_mul] at key
  omega

theorem floatGcRule_some {lo hi : Dbl} {k : Nat} {g : GcRule} (h : floatGcRule lo hi k = some g) :
    ∃ fk a b c, Dbl.ofInt k = some fk ∧ lo.mul fk = some a ∧ hi.mul fk = some b ∧ fk.sub a = some c ∧
      g = { gcLo := a.ceil, gcHi := b.floor, atHi := c.floor } := by
  unfold floatGcRule at h
  split at h
  · cases h
  · next fk hfk =>
    split at h
    · next a b ha hb =>
      split at h
      · next c hc => exact ⟨fk, a, b, c, hfk, ha, hb, hc, (Option.some.inj h).symm⟩
      · cases h
    · cases h

/-- `gc_count > gc_range[1] * observed_length`. -/
theorem gc_hi_cmp {lo hi : Dbl} {k : Nat} {g : GcRule} (hhi : 0 < hi.den) (h : floatGcRule lo hi k = some g) (n : Int) :
    (bnd (pyMul (dblPV hi) (.int k)) fun t => pyGt (.int n) t) = .ok (decide (n > g.gcHi)) := by
  obtain ⟨fk, a, b, c, hfk, ha, hb, hc, rfl⟩ := floatGcRule_some h
  rw [pyMul_dbl_nat hhi hfk hb, bnd_ok, pyGt_int_dbl n (roundDouble_den_pos hb)]

/-- `gc_count < gc_range[0] * observed_length`. -/
theorem gc_lo_cmp {lo hi : Dbl} {k : Nat} {g : GcRule} (hlo : 0 < lo.den) (h : floatGcRule lo hi k = some g) (n : Int) :
    (bnd (pyMul (dblPV lo) (.int k)) fun t => pyLt (.int n) t) = .ok (decide (n < g.gcLo)) := by
  obtain ⟨fk, a, b, c, hfk, ha, hb, hc, rfl⟩ := floatGcRule_some h
  rw [pyMul_dbl_nat hlo hfk ha, bnd_ok, pyLt_int_dbl n (roundDouble_den_pos ha)]

/-- `at_count > observed_length - gc_range[0] * observed_length`. -/
theorem at_hi_cmp {lo hi : Dbl} {k : Nat} {g : GcRule} (hlo : 0 < lo.den) (h : floatGcRule lo hi k = some g) (n : Int) :
    (bnd (bnd (pyMul (dblPV lo) (.int k)) fun t => pySub (.int k) t) fun t => pyGt (.int n) t) =
      .ok (decide (n > g.atHi)) := by
  obtain ⟨fk, a, b, c, hfk, ha, hb, hc, rfl⟩ := floatGcRule_some h
  rw [pyMul_dbl_nat hlo hfk ha, bnd_ok, pySub_nat_dbl (roundDouble_den_pos ha) hfk hc, bnd_ok,
    pyGt_int_dbl n (roundDouble_den_pos hc)]

end Dsw.Tie
