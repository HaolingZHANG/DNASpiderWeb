import DswModel.Tie.SwRepairFrag
/-!
# Translation tie — `repair_dna`: the output stage

The candidate count (`for5`), the fallback return (`k5`), the loop over `itertools.product` (`for6`) with the
re-assembly loop (`for7`), the check filter (`k2`) and the sorted result (`k3`): model `repairTail`.
-/
namespace Dsw.Tie.Repair
open Dsw Dsw.Py Dsw.Tie

/-- the check filter as a total function (it cannot raise on ACGT candidates). -/
def vtB (chk : Option (List Char)) (c : List Char) : Bool :=
  match vtMatches c chk with
  | .ok b => b
  | .error _ => false

theorem vtMatches_eq_vtB {c : List Char} (h : IsAcgt c) (chk : Option (List Char)) :
    vtMatches c chk = .ok (vtB chk c) := by
  obtain ⟨b, hb⟩ := vtMatches_ok h chk
  simp only [vtB, hb]

theorem mapM_eq_map {α β} {f : α → R β} {g : α → β} : ∀ {l : List α}, (∀ x ∈ l, f x = .ok (g x)) →
    l.mapM f = .ok (l.map g)
  | [], _ => rfl
  | x :: xs, h => by
    rw [List.mapM_cons, h x List.mem_cons_self, mapM_eq_map (fun y hy => h y (List.mem_cons_of_mem _ hy))]
    rfl

/-- one candidate of the product loop: the result set and the flag. -/
def resStep (chk : Option (List Char)) (splits : List (List Char)) (s : List (List Char) × Bool)
    (frs : List (List Char)) : List (List Char) × Bool :=
  if vtB chk (candOf splits frs) then
    (if s.1.contains (candOf splits frs) then s.1 else s.1 ++ [candOf splits frs], s.2)
  else (s.1, true)

theorem resFold (chk : Option (List Char)) (splits : List (List Char)) :
    ∀ (l : List (List (List Char))) (s : List (List Char) × Bool),
      l.foldl (resStep chk splits) s =
        (((l.map (candOf splits)).filter (vtB chk)).foldl
            (fun set x => if set.contains x then set else set ++ [x]) s.1,
          s.2 || (l.map (candOf splits)).any (fun c => !vtB chk c))
  | [], s => by simp
  | frs :: l, s => by
    rw [List.foldl_cons, resFold chk splits l]
    unfold resStep
    cases h : vtB chk (candOf splits frs) with
    | true => simp [h]
    | false => simp [h]

/-- the product branch of `repairTail`, computed by the fold of the loop. -/
theorem repairTail_product (dna : List Char) (chk : Option (List Char)) (heap : Nat) (st : Scan)
    (fv : List (List (List Char)) × Nat) (hg : ¬ (fragCount fv.1 = 0 ∨ fragCount fv.1 > heap))
    (hc : ∀ frs ∈ product fv.1, IsAcgt (candOf st.splits.reverse frs)) :
    repairTail dna chk heap st fv =
      .ok (isort Py.strLt ((product fv.1).foldl (resStep chk st.splits.reverse) ([], false)).1.reverse,
        ⟨st.detected, ((product fv.1).foldl (resStep chk st.splits.reverse) ([], false)).2, fragCount fv.1,
          fv.2⟩) := by
  unfold repairTail
  rw [if_neg hg, mapM_eq_map (g := fun c => (c, vtB chk c)) (by
    intro c hcm
    obtain ⟨frs, hfrs, rfl⟩ := List.mem_map.mp hcm
    rw [vtMatches_eq_vtB (hc frs hfrs)]; rfl)]
  rw [resFold]
  simp only [Except.bind, pure, Except.pure, List.filter_map, List.map_map, List.any_map, Bool.false_or]
  congr 2
  exact (sorted_dedup _).symm

/-- the re-assembly loop runs over positions; the model zips. -/
theorem range_foldl_zip : ∀ (frs splits : List (List Char)) (s : List Char), frs.length ≤ splits.length →
    (List.range frs.length).foldl (fun s i => s ++ (splits.getD i [] ++ frs.getD i [])) s =
      (splits.zip frs).foldl (fun s (p : List Char × List Char) => s ++ p.1 ++ p.2) s
  | [], splits, s, _ => by simp
  | _ :: _, [], _, h => by simp at h
  | f :: frs, sp :: splits, s, h => by
    rw [List.length_cons, List.range_succ_eq_map, List.foldl_cons, List.foldl_map, List.zip_cons_cons,
      List.foldl_cons]
    simp only [List.getD_cons_zero, Nat.succ_eq_add_one, List.getD_cons_succ]
    rw [range_foldl_zip frs splits _ (by simpa using h), List.append_assoc]

/-- the environment of the output stage: `s` is the result set (in insertion order) and the flag. -/
def TailRel (P : Params) (splits : List (List Char)) (fss : List (List (List Char))) (det cnt vis : Nat)
    (s : List (List Char) × Bool) (e : Env) : Prop :=
  Const P e ∧
    e = { e with split_sequences := .list (splits.map .str), repaired_fragment_set := .list (fss.map donePV),
                 detected_count := .int (det : Int), count := .int (cnt : Int), visited_times := .int (vis : Int),
                 repaired_results := .set (s.1.map .str), chuck_flag := .bool s.2 }

section
variable {P : Params} {splits : List (List Char)} {fss : List (List (List Char))} {det cnt vis : Nat}

theorem for5_spec (fuel : Nat) (fs : List (List Char)) {s : List (List Char) × Bool} (c : Nat) (e : Env)
    (h : TailRel P splits fss det c vis s e) :
    ∃ e', Gen.repair_dna.for5_body fuel (donePV fs) e = .ok (.norm e') ∧
      TailRel P splits fss det (c * fs.length) vis s e' := by
  obtain ⟨hc, ht⟩ := h
  rw [hc, ht]
  simp only [Gen.repair_dna.for5_body, donePV, pyLen_list, List.length_map, bnd_ok, npMul_nat]
  exact ⟨_, rfl, rfl, rfl⟩

theorem for5_loop (fuel : Nat) (l : List (List (List Char))) {s : List (List Char) × Bool} (c : Nat) (e : Env)
    (h : TailRel P splits fss det c vis s e) :
    ∃ e', forLoop (Gen.repair_dna.for5_body fuel) (l.map donePV) e = .ok (.norm e') ∧
      TailRel P splits fss det (l.foldl (fun c f => c * f.length) c) vis s e' :=
  forLoop_rel_map (fun c e => TailRel P splits fss det c vis s e) (fun c f => c * f.length) donePV
    (fun fs _ c e hr => for5_spec fuel fs c e hr) h

/-- the environment inside the re-assembly of one candidate. -/
def AsmRel (P : Params) (splits : List (List Char)) (fss : List (List (List Char))) (det cnt vis : Nat)
    (s : List (List Char) × Bool) (frs : List (List Char)) (body : List Char) (e : Env) : Prop :=
  TailRel P splits fss det cnt vis s e ∧
    e = { e with fragments := .tup (frs.map .str), repaired_dna_sequence := .str body }

theorem for7_spec (fuel : Nat) {s : List (List Char) × Bool} {frs : List (List Char)} {i : Nat}
    (hi1 : i < splits.length) (hi2 : i < frs.length) (body : List Char) (e : Env)
    (h : AsmRel P splits fss det cnt vis s frs body e) :
    ∃ e', Gen.repair_dna.for7_body fuel (.int (i : Int)) e = .ok (.norm e') ∧
      AsmRel P splits fss det cnt vis s frs (body ++ (splits.getD i [] ++ frs.getD i [])) e' := by
  obtain ⟨⟨hc, ht⟩, ha⟩ := h
  rw [hc, ht, ha]
  simp only [Gen.repair_dna.for7_body, pyIndex_list_strs hi1, pyIndex_tup_strs hi2, bnd_ok, npAdd_str]
  exact ⟨_, rfl, ⟨rfl, rfl⟩, rfl⟩

theorem for7_loop (fuel : Nat) {s : List (List Char) × Bool} {frs : List (List Char)}
    (hl : frs.length < splits.length) (e : Env) (h : AsmRel P splits fss det cnt vis s frs [] e) :
    ∃ e', forLoop (Gen.repair_dna.for7_body fuel) ((List.range frs.length).map fun (i : Nat) => PV.int (i : Int)) e =
        .ok (.norm e') ∧
      AsmRel P splits fss det cnt vis s frs
        ((splits.zip frs).foldl (fun s (p : List Char × List Char) => s ++ p.1 ++ p.2) []) e' := by
  rw [← range_foldl_zip frs splits [] (Nat.le_of_lt hl)]
  exact forLoop_rel_map (fun body e => AsmRel P splits fss det cnt vis s frs body e)
    (fun body i => body ++ (splits.getD i [] ++ frs.getD i [])) (fun (i : Nat) => PV.int (i : Int))
    (fun i hi body e hr => for7_spec fuel (Nat.lt_trans (List.mem_range.mp hi) hl) (List.mem_range.mp hi) body e hr) h

theorem k2_spec (fuel : Nat) (hfuel : ∀ c, P.chk = some c → c ≠ [] ∧ 2 * c.length + 2 ≤ fuel)
    {s : List (List Char) × Bool} {frs : List (List Char)} (init : List (List Char)) (last : List Char)
    (hs : splits = init ++ [last]) (body : List Char) (hacgt : IsAcgt (body ++ last)) (e : Env)
    (h : AsmRel P splits fss det cnt vis s frs body e) :
    ∃ e', Gen.repair_dna.k2 fuel e = .ok (.norm e') ∧
      TailRel P splits fss det cnt vis
        (if vtB P.chk (body ++ last) then (if s.1.contains (body ++ last) then s.1 else s.1 ++ [body ++ last], s.2)
          else (s.1, true)) e' := by
  obtain ⟨⟨hc, ht⟩, ha⟩ := h
  subst hs
  have hlast : pyIndex (.list ((init ++ [last]).map PV.str)) (.int (-1)) = .ok (.str last) := by
    rw [List.map_append]; exact pyIndex_list_append_singleton_neg_one _ _
  rw [hc, ht, ha]
  -- on the parameters as a record `P.chk` reduces to `none` / `some c` in every field
  obtain ⟨a, dna, k, chk, hasIndel, heap⟩ := P
  cases chk with
  | none =>
    simp only [Gen.repair_dna.k2, hlast, npAdd_str, bnd_ok,
      chkPV_none, pyIsNone_none, Bool.not_true, Bool.false_eq_true, if_false, pySetAdd_strs]
    exact ⟨_, rfl, rfl, rfl⟩
  | some c =>
    obtain ⟨hne, hfc⟩ := hfuel c rfl
    simp only [Gen.repair_dna.k2, hlast, npAdd_str, bnd_ok,
      chkPV_some, pyIsNone_str, Bool.not_false, if_true, pyLen_str, set_vt_check fuel _ c hne hfc,
      vtMatches_eq_vtB hacgt (some c)]
    cases vtB (some c) (body ++ last) with
    | true =>
      simp only [if_true, pySetAdd_strs, bnd_ok]
      exact ⟨_, rfl, rfl, rfl⟩
    | false =>
      simp only [Bool.false_eq_true, if_false]
      exact ⟨_, rfl, rfl, rfl⟩

theorem for6_spec (fuel : Nat) (hfuel : ∀ c, P.chk = some c → c ≠ [] ∧ 2 * c.length + 2 ≤ fuel)
    (frs : List (List Char)) (hl : frs.length + 1 = splits.length) (hacgt : IsAcgt (candOf splits frs))
    (s : List (List Char) × Bool) (e : Env) (h : TailRel P splits fss det cnt vis s e) :
    ∃ e', Gen.repair_dna.for6_body fuel (.tup (frs.map .str)) e = .ok (.norm e') ∧
      TailRel P splits fss det cnt vis (resStep P.chk splits s frs) e' := by
  obtain ⟨init, last, hs⟩ : ∃ init last, splits = init ++ [last] := by
    have hne : splits ≠ [] := by intro h0; rw [h0] at hl; simp at hl
    exact ⟨splits.dropLast, splits.getLast hne, (List.dropLast_concat_getLast hne).symm⟩
  have hlast : splits.getLastD [] = last := by rw [hs]; simp
  have hA : ∀ e0, AsmRel P splits fss det cnt vis s frs [] e0 →
      ∃ e', seq (forLoop (Gen.repair_dna.for7_body fuel)
          ((List.range frs.length).map fun (i : Nat) => PV.int (i : Int)) e0) (Gen.repair_dna.k2 fuel) =
            .ok (.norm e') ∧
        TailRel P splits fss det cnt vis (resStep P.chk splits s frs) e' := fun e0 h0 => by
    obtain ⟨e1, he1, hr1⟩ := for7_loop fuel (hl ▸ Nat.lt_succ_self _) e0 h0
    rw [he1, seq_norm]
    unfold resStep candOf
    rw [hlast]
    unfold candOf at hacgt
    rw [hlast] at hacgt
    exact k2_spec fuel hfuel init last hs _ hacgt e1 hr1
  obtain ⟨hc, ht⟩ := h
  have hlen : ((splits.map PV.str).length : Int) - 1 = ((frs.length : Nat) : Int) := by
    rw [List.length_map]; omega
  rw [hc, ht]
  simp only [Gen.repair_dna.for6_body, pyLen_list, bnd_ok, npSub_int, hlen, pyRange1_nat, pyIter_list]
  exact hA _ ⟨⟨rfl, rfl⟩, rfl⟩

theorem k3_spec (fuel : Nat) {s : List (List Char) × Bool} (e : Env) (h : TailRel P splits fss det cnt vis s e) :
    Gen.repair_dna.k3 fuel e =
      .ok (.ret (repResultPV (isort Py.strLt s.1.reverse, ⟨det, s.2, cnt, vis⟩))) := by
  rw [h.2]
  simp only [Gen.repair_dna.k3, pyList_set, bnd_ok, pySorted_list_strs]
  rfl

theorem pyProduct_done (ls : List (List (List Char))) :
    pyProduct (.list (ls.map donePV)) = .ok (.list ((product ls).map fun frs => .tup (frs.map .str))) :=
  pyProduct_strs ls

end

structure TailHyp (P : Params) (fuel : Nat) (st : Scan) (fv : List (List (List Char)) × Nat) : Prop where
  fuel : ∀ c, P.chk = some c → c ≠ [] ∧ 2 * c.length + 2 ≤ fuel
  len : fv.1.length + 1 = st.splits.length
  dna : IsAcgt P.dna
  splits : ∀ sp ∈ st.splits, IsAcgt sp
  frags : ∀ fs ∈ fv.1, ∀ f ∈ fs, IsAcgt f

theorem TailHyp.cand {P : Params} {fuel : Nat} {st : Scan} {fv : List (List (List Char)) × Nat}
    (H : TailHyp P fuel st fv) {frs : List (List Char)} (hfrs : frs ∈ product fv.1) :
    frs.length + 1 = st.splits.reverse.length ∧ IsAcgt (candOf st.splits.reverse frs) := by
  refine ⟨by rw [(product_mem_zip _ _ hfrs).1, List.length_reverse]; exact H.len, ?_⟩
  exact candOf_acgt (fun sp h => H.splits sp (List.mem_reverse.mp h)) (fun f hf => by
    obtain ⟨fs, h1, h2⟩ := product_mem _ _ hfrs f hf
    exact H.frags fs h1 f h2)

theorem k4_spec (fuel : Nat) {P : Params} {st : Scan} {fv : List (List (List Char)) × Nat}
    (H : TailHyp P fuel st fv) (hg : ¬ (fragCount fv.1 = 0 ∨ fragCount fv.1 > P.heap)) (e : Env)
    (h : TailRel P st.splits.reverse fv.1 st.detected (fragCount fv.1) fv.2 ([], false) e) :
    Gen.repair_dna.k4 fuel e = retR ((repairTail P.dna P.chk P.heap st fv).map repResultPV) := by
  rw [h.1, h.2]
  simp only [Gen.repair_dna.k4, pyProduct_done, bnd_ok, pyIter_list]
  refine seq_eq_of_norm (Q := TailRel P st.splits.reverse fv.1 st.detected (fragCount fv.1) fv.2
      ((product fv.1).foldl (resStep P.chk st.splits.reverse) ([], false)))
    (forLoop_rel_map (fun s e => TailRel P st.splits.reverse fv.1 st.detected (fragCount fv.1) fv.2 s e)
      (resStep P.chk st.splits.reverse) (fun frs => PV.tup (frs.map .str))
      (fun frs hfrs s e hr => for6_spec fuel H.fuel frs (H.cand hfrs).1 (H.cand hfrs).2 s e hr) ⟨rfl, rfl⟩) ?_
  intro e' he'
  rw [k3_spec fuel e' he', repairTail_product P.dna P.chk P.heap st fv hg (fun frs hfrs => (H.cand hfrs).2)]
  rfl

/-- `count == 0 or count > heap_size`. -/
theorem guard_eq (count heap : Nat) :
    (bnd (pyEq (.int (count : Int)) (.int 0)) fun c => if c then .ok true else pyGt (.int (count : Int)) (.int (heap : Int))) =
      .ok (decide (count = 0 ∨ count > heap)) := by
  simp only [pyEq_def, bnd_ok, eqb_int, pyGt_nat]
  by_cases h0 : count = 0
  · subst h0; simp
  · have : ((count : Int) == 0) = false := by simpa using h0
    simp [this, h0]

theorem k5_spec (fuel : Nat) {P : Params} {st : Scan} {fv : List (List (List Char)) × Nat}
    (H : TailHyp P fuel st fv) (e : Env)
    (h : TailRel P st.splits.reverse fv.1 st.detected (fragCount fv.1) fv.2 ([], false) e) :
    Gen.repair_dna.k5 fuel e = retR ((repairTail P.dna P.chk P.heap st fv).map repResultPV) := by
  rw [h.1, h.2]
  by_cases hg : fragCount fv.1 = 0 ∨ fragCount fv.1 > P.heap
  · unfold repairTail
    rw [if_pos hg]
    cases hchk : P.chk with
    | none =>
      simp only [Gen.repair_dna.k5, guard_eq, hg, decide_true, bnd_ok, if_true, chkPV_none,
        pyIsNone_none, Bool.not_true, Bool.false_eq_true, if_false, seq_ret]
      rfl
    | some c =>
      obtain ⟨hne, hfc⟩ := H.fuel c hchk
      simp only [Gen.repair_dna.k5, guard_eq, hg, decide_true, bnd_ok, if_true, chkPV_some,
        pyIsNone_str, Bool.not_false, pyLen_str, set_vt_check fuel _ c hne hfc]
      cases hv : vtMatches P.dna (some c) with
      | error err => rfl
      | ok b => cases b <;> rfl
  · simp only [Gen.repair_dna.k5, guard_eq, hg, decide_false, bnd_ok, Bool.false_eq_true, if_false, seq_norm]
    exact k4_spec fuel H hg _ ⟨rfl, rfl⟩

theorem k6_spec (fuel : Nat) {P : Params} {st : Scan} {fv : List (List (List Char)) × Nat}
    (H : TailHyp P fuel st fv) (e : Env) (hc : Const P e)
    (hk : Keep (.list (st.splits.reverse.map .str), .int (st.detected : Int), .bool false) e)
    (h : e = { e with repaired_fragment_set := .list (fv.1.map donePV), visited_times := .int (fv.2 : Int) }) :
    Gen.repair_dna.k6 fuel e = retR ((repairTail P.dna P.chk P.heap st fv).map repResultPV) := by
  have hA : ∀ e0, TailRel P st.splits.reverse fv.1 st.detected 1 fv.2 ([], false) e0 →
      seq (forLoop (Gen.repair_dna.for5_body fuel) (fv.1.map donePV) e0) (Gen.repair_dna.k5 fuel) =
        retR ((repairTail P.dna P.chk P.heap st fv).map repResultPV) := fun e0 h0 =>
    seq_eq_of_norm _ (for5_loop fuel fv.1 1 e0 h0) (fun e' he' => k5_spec fuel H e' he')
  rw [hc, hk, h]
  simp only [Gen.repair_dna.k6, pyIter_list, bnd_ok]
  exact hA _ ⟨rfl, rfl⟩

end Dsw.Tie.Repair
