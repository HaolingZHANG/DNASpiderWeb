import DswModel.Tie.PyLemmas
import DswModel.Lemmas.Convert
/-!
# What the ties of the eight functions of `operation.py` share

No generated definition is mentioned here: a change of one function of `operation.py` leaves the ties of the
others checkable.
-/
namespace Dsw.Tie
open Dsw Dsw.Py

/-- subscript in the middle of a list: `(Q ++ x :: T)[len(Q)]`. -/
theorem pyIndex_natsPV_mid {Q : List Nat} {p : Nat} (hp : p = Q.length) (x : Nat) (T : List Nat) :
    pyIndex (natsPV (Q ++ x :: T)) (.int (p : Int)) = .ok (.int (x : Int)) := by
  subst hp
  rw [pyIndex_natsPV (by simp)]
  simp

theorem set_mid {Q : List Nat} {p : Nat} (hp : p = Q.length) (x : Nat) (T : List Nat) (y : Nat) :
    (Q ++ x :: T).set p y = Q ++ y :: T := by
  subst hp; simp

/-- `(Q ++ x :: T)[len(Q)] = y`. -/
theorem pySetItem_natsPV_mid {Q : List Nat} {p : Nat} (hp : p = Q.length) (x : Nat) (T : List Nat) (y : Nat) :
    pySetItem (natsPV (Q ++ x :: T)) (.int (p : Int)) (.int (y : Int)) = .ok (natsPV (Q ++ y :: T)) := by
  rw [pySetItem_natsPV (by subst hp; simp), set_mid hp]

/-- `x + 1`, `x - 1`: the literal `.int 1` of the generated code is not a cast, so `pyAdd_nat` does not fire. -/
theorem pyAdd_nat_one (a : Nat) : pyAdd (.int a) (.int 1) = .ok (.int ((a + 1 : Nat) : Int)) := rfl
theorem pySub_succ_one (a : Nat) : pySub (.int ((a + 1 : Nat) : Int)) (.int 1) = .ok (.int (a : Int)) := by
  rw [pySub_int, Int.natCast_succ, Int.add_sub_cancel]

theorem natCast_beq_decide (a b : Nat) : ((a : Int) == (b : Int)) = decide (a = b) := by
  rw [Bool.eq_iff_iff]; simp only [beq_iff_eq, decide_eq_true_eq, Int.natCast_inj]

theorem replicate_succ_append {α} (k : Nat) (a : α) (l : List α) :
    List.replicate (k + 1) a ++ l = List.replicate k a ++ a :: l := by
  rw [List.replicate_succ', List.append_assoc, List.singleton_append]

theorem stripZeros_replicate_append (k : Nat) (l : Dec) : stripZeros (List.replicate k 0 ++ l) = stripZeros l := by
  induction k with
  | zero => rfl
  | succ k ih => rw [List.replicate_succ, List.cons_append, stripZeros, ih]

theorem stripZeros_cons_of_ne {d : Nat} (h : d ≠ 0) (r : Dec) : stripZeros (d :: r) = d :: r := by
  cases d with
  | zero => exact absurd rfl h
  | succ n => rfl

/-- the first `i` digits are zero and digit `i` is not: `q[i:]`. -/
theorem stripZeros_eq_drop {q : Dec} {i : Nat} (hi : i < q.length) (hz : q.take i = List.replicate i 0)
    (hne : q[i] ≠ 0) : stripZeros q = q.drop i := by
  have h1 : q = List.replicate i 0 ++ q.drop i := by rw [← hz, List.take_append_drop]
  rw [h1, stripZeros_replicate_append, ← h1, List.drop_eq_getElem_cons hi, stripZeros_cons_of_ne hne]

theorem stripZeros_of_all_zero {q : Dec} (hz : q.take q.length = List.replicate q.length 0) :
    stripZeros q = [0] := by
  rw [List.take_length] at hz
  have := stripZeros_replicate_append q.length []
  rw [List.append_nil, ← hz] at this
  rw [this]; rfl

/-- the search loop `for i in range(len(q)): if q[i] != "0": return f(q[i:])` returns `f` of the stripped
string at the first non-zero digit and falls through when there is none; `Rel` is what an iteration
that falls through keeps. -/
theorem forLoop_stripZeros {ε : Type} {body : PV → ε → R (Flow ε)} (q : Dec) (Rel : ε → Prop) (f : Dec → PV)
    (h : ∀ (i : Nat) (hi : i < q.length) (e : ε), Rel e →
      (q[i] = 0 → ∃ e', body (.int (i : Int)) e = .ok (.norm e') ∧ Rel e') ∧
      (q[i] ≠ 0 → body (.int (i : Int)) e = .ok (.ret (f (q.drop i)))))
    {e : ε} (h0 : Rel e) :
    (∃ e', forLoop body ((List.range q.length).map fun (i : Nat) => PV.int (i : Int)) e = .ok (.norm e') ∧
        (Rel e' ∧ stripZeros q = [0])) ∨
      (∃ v, forLoop body ((List.range q.length).map fun (i : Nat) => PV.int (i : Int)) e = .ok (.ret v) ∧
        v = f (stripZeros q)) := by
  have key := forLoop_inv_ret (body := body) (fun i e => Rel e ∧ q.take i = List.replicate i 0)
    (fun v => v = f (stripZeros q))
    (xs := (List.range q.length).map fun (i : Nat) => PV.int (i : Int))
    (fun i hi e he => by
      have hi' : i < q.length := by rw [List.length_map, List.length_range] at hi; exact hi
      rw [List.getElem_map, List.getElem_range]
      obtain ⟨hz, hnz⟩ := h i hi' e he.1
      by_cases hd : q[i] = 0
      · obtain ⟨e', hb, hr⟩ := hz hd
        refine Or.inl ⟨e', hb, hr, ?_⟩
        rw [← List.take_append_getElem hi', he.2, hd, List.replicate_succ']
      · exact Or.inr ⟨_, hnz hd, by rw [stripZeros_eq_drop hi' he.2 hd]⟩)
    (e := e) ⟨h0, rfl⟩
  rw [List.length_map, List.length_range] at key
  rcases key with ⟨e', hl, hr, hz⟩ | hret
  · exact Or.inl ⟨e', hl, hr, stripZeros_of_all_zero hz⟩
  · exact Or.inr hret

theorem calculusDivision_of_two_le {b : Nat} (hb2 : 2 ≤ b) (s : Dec) :
    calculusDivision s b =
      if s.length = 1 ∧ s.headD 0 < b then ([0], [s.headD 0])
      else (stripZeros (s.foldl (divStep b) ([], 0)).1.reverse, [(s.foldl (divStep b) ([], 0)).2]) := by
  rw [calculusDivision, if_neg (Nat.ne_of_gt (Nat.lt_of_lt_of_le (by decide) hb2)),
    if_neg (Nat.ne_of_gt (Nat.lt_of_lt_of_le (by decide) hb2))]

theorem zip_digits {s bs : Dec} (hs : Digits s) (hbs : Digits bs) :
    ∀ p ∈ s.zip bs, p.1 < 10 ∧ p.2 < 10 := by
  intro p hp
  have := List.of_mem_zip (a := p.1) (b := p.2) hp
  exact ⟨hs _ this.1, hbs _ this.2⟩

namespace BitsTie

/-! The decimal-string arithmetic keeps `Digits`: read off the `*_spec` lemmas of `Lemmas/Decimal.lean`. -/

theorem Digits_calculusAddition {s : Dec} {b : Nat} (hs : Digits s) (hb : b < 10) :
    Digits (calculusAddition s b) := by
  have hbd : Digits (List.replicate (s.length - 1) 0 ++ [b]) :=
    Digits_append.mpr ⟨Digits_replicate (by decide), Digits_singleton.mpr hb⟩
  obtain ⟨_, h2, h3, _⟩ := addStep_foldr_spec _ (zip_digits hs hbd)
  have hall : Digits (((s.zip (List.replicate (s.length - 1) 0 ++ [b])).foldr addStep (0, [])).1 ::
      ((s.zip (List.replicate (s.length - 1) 0 ++ [b])).foldr addStep (0, [])).2) :=
    Digits_cons.mpr ⟨Nat.lt_of_le_of_lt h3 (by decide), h2⟩
  unfold calculusAddition
  simp only
  split
  · exact hall.tail
  · exact hall

theorem Digits_calculusMultiplication {s : Dec} {b : Nat} (hs : Digits s) (hb : b < 10) :
    Digits (calculusMultiplication s b) := by
  unfold calculusMultiplication
  by_cases h0 : b = 0
  · rw [if_pos h0]; exact Digits_singleton.mpr (by decide)
  by_cases h1 : b = 1
  · rw [if_neg h0, if_pos h1]; exact hs
  rw [if_neg h0, if_neg h1]
  obtain ⟨_, g2, g3, _⟩ := mulStep_foldr_spec b (by omega) s hs
  simp only
  generalize s.foldr (mulStep b) (0, []) = r at g2 g3
  obtain ⟨c, ds⟩ := r
  simp only at g2 g3
  rw [pushCarry_two c ds (by omega)]
  split
  · exact Digits_cons.mpr ⟨by omega, g2⟩
  · exact g2

theorem Digits_stripZeros {s : Dec} (hs : Digits s) : Digits (stripZeros s) :=
  (canonical_stripZeros s hs).digits

theorem calculusDivision_digits {s : Dec} {b : Nat} (hs : Digits s) (hb2 : 2 ≤ b) (hb : b < 10) :
    Digits (calculusDivision s b).1 ∧ ∃ r, r < b ∧ (calculusDivision s b).2 = [r] := by
  rw [calculusDivision_of_two_le hb2]
  split
  · rename_i hc
    exact ⟨Digits_singleton.mpr (by decide), _, hc.2, rfl⟩
  · have hd : ∀ d ∈ s.reverse, d < 10 := fun d hd => hs d (by simpa using hd)
    obtain ⟨_, g1, g2, _⟩ := divStep_foldl_spec b (by omega) s.reverse hd
    rw [List.reverse_reverse] at g1 g2
    exact ⟨Digits_stripZeros (Digits.reverse g1), _, g2, rfl⟩

end BitsTie

open BitsTie

/-- `while n != "0": n, r = calculus_division(n, base); out.insert(0, r)` follows the model loop
`digitsStrLoop base` iteration by iteration (induction on the model's fuel).  `Rel n acc e`: the
environment holds the digit string `n` and the output `acc`. -/
theorem whileLoop_digitsStr {ε : Type} {cond : ε → R Bool} {body : ε → R (Flow ε)} {b : Nat} (hb2 : 2 ≤ b)
    (hb : b < 10) (Rel : Dec → List Nat → ε → Prop)
    (hcond : ∀ n acc e, Digits n → Rel n acc e → cond e = .ok (!decide (n = [0])))
    (hbody : ∀ n acc e, Digits n → Rel n acc e →
      ∃ e', body e = .ok (.norm e') ∧ Rel (calculusDivision n b).1 ((calculusDivision n b).2.toNat :: acc) e') :
    ∀ (f : Nat) (n : Dec) (acc r : List Nat) (w : Nat) (e : ε), Digits n → Rel n acc e →
      digitsStrLoop b f n acc = .ok r → f ≤ w →
      ∃ e', whileLoop cond body w e = .ok (.norm e') ∧ Rel [0] r e' := by
  intro f
  induction f with
  | zero => intro n acc r w e _ _ h _; cases h
  | succ f ih =>
    intro n acc r w e hn hr h hw
    obtain ⟨w, rfl⟩ := Nat.exists_eq_add_one.mpr (Nat.lt_of_lt_of_le (Nat.succ_pos _) hw)
    have hc := hcond n acc e hn hr
    rw [digitsStrLoop] at h
    by_cases hz : n = [0]
    · rw [if_pos hz] at h
      injection h with h
      rw [decide_eq_true hz] at hc
      subst hz h
      exact ⟨e, whileLoop_false hc w, hr⟩
    · rw [if_neg hz] at h
      rw [decide_eq_false hz] at hc
      obtain ⟨e1, hb1, hr1⟩ := hbody n acc e hn hr
      obtain ⟨e2, hl, hr2⟩ := ih _ _ r w e1 (calculusDivision_digits hn hb2 hb).1 hr1 h
        (Nat.le_of_succ_le_succ hw)
      exact ⟨e2, by rw [whileLoop_true_norm hc hb1, hl], hr2⟩

/-- `while n > 0: n, r = divmod(n, base); out.insert(0, r)` computes `digitsNat base`; `k + 1`
iterations suffice for `n < 2 ^ k`. -/
theorem whileLoop_digitsNat {ε : Type} {cond : ε → R Bool} {body : ε → R (Flow ε)} {b : Nat} (hb2 : 2 ≤ b)
    (Rel : Nat → List Nat → ε → Prop)
    (hcond : ∀ n acc e, Rel n acc e → cond e = .ok (decide (0 < n)))
    (hbody : ∀ n acc e, Rel n acc e → ∃ e', body e = .ok (.norm e') ∧ Rel (n / b) (n % b :: acc) e') :
    ∀ (k n : Nat) (acc : List Nat) (w : Nat) (e : ε), Rel n acc e → n < 2 ^ k → k + 1 ≤ w →
      ∃ e', whileLoop cond body w e = .ok (.norm e') ∧ Rel 0 (digitsNat b n acc) e' := by
  intro k
  induction k with
  | zero =>
    intro n acc w e hr hn hw
    obtain ⟨w, rfl⟩ := Nat.exists_eq_add_one.mpr (Nat.lt_of_lt_of_le (Nat.succ_pos _) hw)
    obtain rfl : n = 0 := Nat.lt_one_iff.mp hn
    exact ⟨e, whileLoop_false (hcond 0 acc e hr) w, by rw [digitsNat_zero]; exact hr⟩
  | succ k ih =>
    intro n acc w e hr hn hw
    obtain ⟨w, rfl⟩ := Nat.exists_eq_add_one.mpr (Nat.lt_of_lt_of_le (Nat.succ_pos _) hw)
    have hc := hcond n acc e hr
    by_cases hn0 : n = 0
    · subst hn0
      exact ⟨e, whileLoop_false hc w, by rw [digitsNat_zero]; exact hr⟩
    · rw [decide_eq_true (Nat.pos_of_ne_zero hn0)] at hc
      obtain ⟨e1, hb1, hr1⟩ := hbody n acc e hr
      have hlt : n / b < 2 ^ k :=
        Nat.div_lt_of_lt_mul (Nat.lt_of_lt_of_le hn (by
          rw [Nat.pow_succ, Nat.mul_comm]; exact Nat.mul_le_mul_right _ hb2))
      obtain ⟨e2, hl, hr2⟩ := ih (n / b) (n % b :: acc) w e1 hr1 hlt (Nat.le_of_succ_le_succ hw)
      exact ⟨e2, by rw [whileLoop_true_norm hc hb1, hl], by rw [digitsNat_pos b n acc hn0 hb2]; exact hr2⟩

/-! ## fuel bounds -/

/-- a canonical decimal string of a number below `10 ^ L` has at most `L + 1` symbols. -/
theorem canonical_length_le {s : Dec} (hs : s.Canonical) {L : Nat} (h : s.toNat < 10 ^ L) :
    s.length ≤ L + 1 := by
  by_cases h2 : 2 ≤ s.length
  · have : s.length - 1 < L :=
      (Nat.pow_lt_pow_iff_right (by decide)).mp (Nat.lt_of_le_of_lt (hs.lower h2) h)
    omega
  · omega

theorem four_pow_le_ten_pow (L : Nat) : 4 ^ L ≤ 10 ^ L := Nat.pow_le_pow_left (by decide) L

/-- the fuel `digitsFuel s + 1` the string loops need, for a canonical `s` below `10 ^ L`. -/
theorem digitsFuel_le {s : Dec} (hs : s.Canonical) {L : Nat} (h : s.toNat < 10 ^ L) :
    digitsFuel s + 1 ≤ 4 * L + 6 := by
  have := canonical_length_le hs h
  unfold digitsFuel
  omega

/-- a value below `4 ^ m` fits the fuel of `number_to_dna`. -/
theorem log2_lt_of_lt_four_pow {v m : Nat} (h : v < 4 ^ m) : Nat.log2 v + 2 ≤ 2 * m + 2 := by
  by_cases hv : v = 0
  · subst hv; simp [Nat.log2_zero]
  · have h4 : 4 ^ m = 2 ^ (2 * m) := by rw [Nat.pow_mul]
    have := (Nat.log2_lt hv).mpr (h4 ▸ h)
    omega

end Dsw.Tie
