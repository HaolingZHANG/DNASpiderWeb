import DswModel.Tie.GzScore
import DswModel.Tie.GzViews
import DswModel.Tie.SpiderwebDefs
import DswModel.Tie.SwRemoveLib
/-!
# DswModel.Tie.SwRemove — `dsw/spiderweb.py` `remove_nasty_arc` : generated code = model

`remove_nasty_arc` updates its two arguments IN PLACE and returns them; the generated definition returns the updated
values (that the caller's own references see the update too is Python aliasing, observed by the harness, not modelled).
`int(log(n) / log(4))` is the primitive `pyIntLogRatio` (exact integer logarithm; the hand-written model uses `log4`).
-/
namespace Dsw.Tie
open Dsw Dsw.Py

/-- what the call returns: `(accessor, latter_map, (former, latter), scores)`. -/
def removeResultPV (r : RemoveResult) : PV :=
  .tup [accPV r.acc, lmapPV r.lmap, .tup [.int (r.former : Int), .int (r.latter : Int)],
        .list (r.scores.map fun (s : Nat) => .int (s : Int))]

namespace SwR

abbrev REnv := Gen.remove_nasty_arc.Env

/-- the tail of the function: the positive scores, the histogram (which only decides whether `IndexError` is raised),
the returned tuple. -/
theorem k2_spec (fuel : Nat) (e : REnv) (sc : Array (Array Nat)) (verbose : Bool) (a : Acc) (m : LMap) (f l : Nat)
    (h : e = { e with scores := scoresPV sc, verbose := .bool verbose, accessor := accPV a, latter_map := lmapPV m,
                      former := .int (f : Int), latter := .int (l : Int) }) :
    Gen.remove_nasty_arc.k2 fuel e =
      match (if ((sc.toList.flatMap (·.toList)).filter (· > 0)).isEmpty then .error .indexError
        else .ok ⟨a, m, f, l, (sc.toList.flatMap (·.toList)).filter (· > 0)⟩ : R RemoveResult) with
      | .ok r => .ok (.ret (removeResultPV r))
      | .error err => .error err := by
  rw [h]
  -- `-implicitDefEqProofs` (here and below): the `rfl` lemmas `bnd_ok`, `seq_norm` and the unfolding of `k2` are
  -- recorded as rewrites; left implicit, the kernel evaluates the whole continuation again at each of them
  simp -implicitDefEqProofs only [Gen.remove_nasty_arc.k2, scoresPV_eq, npFlatten_matN, bnd_ok, positive_expr,
    List.flatMap_def]
  cases hp : (sc.toList.map Array.toList).flatten.filter (· > 0) with
  | nil => simp only [record_expr_nil, bnd_ok, pyIndex_arr_nil, bnd_error, List.isEmpty_nil, if_true]
  | cons x xs =>
    obtain ⟨K, c, hrec⟩ := record_expr (List.cons_ne_nil x xs)
    obtain ⟨v, hsort⟩ := sort_expr K c
    simp -implicitDefEqProofs only [hrec, bnd_ok, hsort, truthy_bool, ite_self, seq_norm, Gen.remove_nasty_arc.k1,
      List.isEmpty_cons, Bool.false_eq_true, if_false]
    rfl

theorem k3_spec (a : Acc) (m : LMap) (k fuel : Nat) (ins del verbose : Bool) (hwf : a.WF) (hsz : a.size = 4 ^ k)
    (hm : LMap.KeysNodup m) (hk : ∀ p ∈ m, p.1 < 4 ^ k) (e : REnv)
    (h : e = { e with accessor := accPV a, latter_map := lmapPV m, observed_length := .int (k : Int),
                      has_insertion := .bool ins, has_deletion := .bool del, verbose := .bool verbose,
                      nucleotides := .str ['A', 'C', 'G', 'T'] }) :
    Gen.remove_nasty_arc.k3 fuel e =
      match removeNastyArc a m ins del with
      | .ok r => .ok (.ret (removeResultPV r))
      | .error err => .error err := by
  rw [h]
  have htie := tie_calculate_intersection_score m k fuel ins del verbose hm hk
  have hsh := shape_calc m k ins del
  have hlog : log4 a.size = k := by rw [hsz, log4_four_pow]
  rw [removeNastyArc, hlog]
  generalize calculateIntersectionScore m k ins del = sc at htie hsh
  have hpos : 0 < 4 ^ k := Nat.pow_pos (by omega)
  have hflat : (sc.toList.map Array.toList).flatten ≠ [] := by
    have h0 : 0 < sc.size := by rw [hsh.1]; exact hpos
    have hr := hsh.2 0 hpos
    intro he
    have hmem : (sc.getD 0 #[]).toList ∈ sc.toList.map Array.toList := by
      apply List.mem_map_of_mem
      simp [Array.getD_eq_getD_getElem?, h0]
    have hnil := List.flatten_eq_nil_iff.mp he _ hmem
    have := congrArg List.length hnil
    rw [Array.length_toList, hr] at this; cases this
  rw [mx_eq]
  have hint := npIntersect1d_sorted (sorted_obtainVertices a)
    (rowIdx (· == (sc.toList.map Array.toList).flatten.foldl max 0) (sc.toList.map Array.toList) 0)
    (fun v => ((List.range sc.size).filter fun v => (sc.getD v #[]).any
      (· == (sc.toList.map Array.toList).flatten.foldl max 0)).contains v)
    (fun v _ => rows_iff sc _ v)
  simp -implicitDefEqProofs only [Gen.remove_nasty_arc.k3, htie, bnd_ok,
    vertex_expr sc hflat,
    tie_obtain_vertices a fuel hwf, hint]
  generalize hF : List.filter (fun v => ((List.range sc.size).filter fun v => (sc.getD v #[]).any
      (· == (sc.toList.map Array.toList).flatten.foldl max 0)).contains v) (obtainVertices a) = F
  cases F with
  | nil => simp only [idxArrPV, List.map_nil, pyIndex_arr_nil, bnd_error]
  | cons former rest =>
    have hmem : former ∈ obtainVertices a :=
      (List.mem_filter.mp (hF ▸ List.mem_cons_self : former ∈ List.filter _ (obtainVertices a))).1
    have hfa : former < a.size := GzV.mem_obtainVertices hmem
    have hfs : former < sc.size := by rw [hsh.1, ← hsz]; exact hfa
    have hrow4 : (sc.getD former #[]).size = 4 := hsh.2 former (by rw [← hsz]; exact hfa)
    have hrne : (sc.getD former #[]).toList ≠ [] := by
      intro he
      have := congrArg List.length he
      rw [Array.length_toList, hrow4] at this; cases this
    have hlv : argmax (sc.getD former #[]).toList < (a.getD former #[]).size := by
      have := argmax_lt hrne
      rwa [Array.length_toList, hrow4, ← (hwf former hfa).1] at this
    simp -implicitDefEqProofs only [idxArrPV, List.map_cons, pyIndex_arr_cons_zero, bnd_ok, GzS.pyLen_ACGT4,
      pyMod_nat_four,
      pyIndex_scoresPV hfs, npArgmax_nats hrne]
    generalize argmax (sc.getD former #[]).toList = lv at hlv ⊢
    have hcast : ((former : Int) * 4 + (lv : Int)) = ((former * 4 + lv : Nat) : Int) := by omega
    simp -implicitDefEqProofs only [bnd_ok, npMul_int, npAdd_int, hcast, pyPow_four_nat,
      pyMod_nat (Nat.ne_of_gt hpos), pyInt_int,
      GzV.npSetItem2_accPV hfa hlv (-1)]
    generalize (former * 4 + lv) % 4 ^ k = latter
    cases hg : m.get? former with
    | none => simp only [pyIndex_lmapPV_none hg, bnd_error]
    | some ls =>
      simp -implicitDefEqProofs only [GzV.pyIndex_lmapPV hg, bnd_ok, pyIndexOf_natsPV]
      by_cases hc : ls.contains latter = true
      · have hidx : ls.idxOf latter < ls.length := List.idxOf_lt_length_of_mem (List.contains_iff_mem.mp hc)
        simp -implicitDefEqProofs only [hc, if_true, bnd_ok, pyDelItem_natsPV hidx, pySetItem_lmapPV_old hg,
          GzV.pyIndex_lmapPV (get?_setFirst hg _), pyLen_natsPV, pyEq_def, eqb_int]
        have hlen : ∀ l : List Nat, (((l.length : Nat) : Int) == 0) = l.isEmpty := fun l => by cases l <;> rfl
        rw [erase1_eq hm hg, hlen]
        by_cases hemp : (ls.eraseIdx (ls.idxOf latter)).isEmpty = true
        · simp only [hemp, if_true, pyDelItem_lmapPV (get?_setFirst hg _), delFirst_setFirst, bnd_ok, seq_norm]
          exact k2_spec fuel _ sc verbose _ _ _ _ rfl
        · simp only [hemp, Bool.false_eq_true, if_false, seq_norm]
          exact k2_spec fuel _ sc verbose _ _ _ _ rfl
      · simp only [hc, Bool.false_eq_true, if_false, bnd_error]

end SwR

/-- for every well-formed accessor of order `k`, every latter map with distinct keys below `4^k` (consistent with the
accessor or not), both flags, any `iteration`, both `verbose` settings: the generated code returns what the model returns,
and raises what the model raises (`IndexError` when no arc-bearing row holds the maximum or no score is positive,
`KeyError` = `other` when the map lacks the chosen vertex, `ValueError` when the map lacks the chosen arc). -/
theorem tie_remove_nasty_arc (a : Acc) (m : LMap) (k fuel iteration : Nat) (ins del verbose : Bool)
    (hwf : a.WF) (hsz : a.size = 4 ^ k) (hm : LMap.KeysNodup m) (hk : ∀ p ∈ m, p.1 < 4 ^ k) :
    Gen.remove_nasty_arc fuel (accPV a) (lmapPV m) (.int (iteration : Int)) (.bool ins) (.bool del) (.bool verbose) =
      (removeNastyArc a m ins del).map removeResultPV := by
  simp -implicitDefEqProofs only [Gen.remove_nasty_arc, Gen.remove_nasty_arc.body, pyLen_accPV, hsz, bnd_ok,
    GzS.pyLen_ACGT4, SwR.pyIntLogRatio_four_pow, truthy_bool, pyGt_nat_zero, ite_self, seq_norm]
  rw [SwR.k3_spec a m k fuel ins del verbose hwf hsz hm hk _ rfl]
  cases removeNastyArc a m ins del <;> rfl

end Dsw.Tie
