import DswModel.Tie.NpLemmas
import DswModel.Tie.BuildDefs
import DswModel.Tie.GzArith
/-!
# Translation tie — `connect_valid_graph` (dsw/spiderweb.py)

`Dsw.Gen.connect_valid_graph` computes the model function
`Dsw.connectValidGraph`: the shift sub-graph induced by the mask (boolean or 0/1 integer array of `4^k` cells),
`ValueError` for the empty mask and for `None`.
-/
namespace Dsw.Tie
open Dsw Dsw.Py

namespace SwValid
open GzTie

theorem maskPV_eq (asInt : Bool) (m : Mask) : maskPV asInt m = .arr (m.toList.map (cellPV asInt)) := rfl

/-- `vertices[w]` for a cell inside the mask. -/
theorem pyIndex_maskPV (asInt : Bool) {m : Mask} {w : Nat} (h : w < m.size) :
    pyIndex (maskPV asInt m) (.int (w : Int)) = .ok (cellPV asInt (m.getD w false)) := by
  rw [maskPV_eq, pyIndex_arr_getD (by simpa using h)]
  simp [List.getD_eq_getElem?_getD, Array.getD_eq_getD_getElem?, h]

/-- `sum(vertices)`. -/
theorem npSum_maskPV (asInt : Bool) (m : Mask) : npSum (maskPV asInt m) = .ok (.int (m.count : Int)) := by
  simp only [maskPV_eq, npSum, mapM_asInt?_cells, foldl_bools, Mask.count]

theorem pyLen_maskPV (asInt : Bool) (m : Mask) : pyLen (maskPV asInt m) = .ok (.int (m.size : Int)) := by
  simp [maskPV_eq]

/-- an entry of the induced accessor. -/
def cellI (m : Mask) (w : Nat) : Int := if m.getD w false then (w : Int) else -1

/-- the row of vertex `v` in the induced accessor. -/
def indRow (k : Nat) (m : Mask) (v : Nat) : PV :=
  if m.getD v false then .arr ((obtainLatters k v).map fun w => .int (cellI m w)) else negRow

theorem obtainLatters_lt (k v : Nat) {w : Nat} (h : w ∈ obtainLatters k v) : w < 4 ^ k := by
  unfold obtainLatters at h
  obtain ⟨j, _, rfl⟩ := List.mem_map.mp h
  exact Nat.mod_lt _ (Nat.pow_pos (by omega))

theorem induced_full (k : Nat) (m : Mask) : PV.arr (filled (indRow k m) negRow (4 ^ k) (4 ^ k)) = accPV (inducedAccessor k m) := by
  rw [filled_full, accPV, inducedAccessor, Array.toList_map, Array.toList_range, List.map_map]
  refine congrArg PV.arr (List.map_congr_left fun v _ => ?_)
  rw [Function.comp, indRow]
  cases m.getD v false
  · rfl
  · simp only [if_true, List.toList_toArray, List.map_map]
    rfl

abbrev VEnv := Gen.connect_valid_graph.Env

/-- the fields the loops read or write, as a record equation (the other fields are free; cf. `GzTie.RowSt`). -/
def RowSt (K : PV) (asInt : Bool) (m : Mask) (v : Nat) (rows : List PV) (e : VEnv) : Prop :=
  e = { e with
    observed_length := K, vertices := maskPV asInt m, accessor := .arr rows, vertex_index := .int (v : Int) }

/-- the body of `for position, w in enumerate(latters): if vertices[w]: accessor[v][position] = w`. -/
theorem setrow_body (fuel v : Nat) (K : PV) (asInt : Bool) (m : Mask) (pre : List PV) (j : Nat) (rows : List PV)
    (x : Nat) (hx : x < m.size) (e : VEnv) (h : RowSt K asInt m v rows e)
    (hr : rows[v]? = some (.arr (pre ++ PV.int (-1) :: List.replicate j (.int (-1))))) :
    ∃ e', Gen.connect_valid_graph.for2_body fuel (.tup [.int (pre.length : Int), .int (x : Int)]) e =
        .ok (.norm e') ∧
      RowSt K asInt m v (rows.set v (.arr ((pre ++ [.int (cellI m x)]) ++ List.replicate j (.int (-1))))) e' := by
  have hj := getElem?_append_cons pre (PV.int (-1)) (List.replicate j (PV.int (-1)))
  have hset := fun y : Int => set_append_cons pre (PV.int (-1)) (.int y) (List.replicate j (PV.int (-1)))
  rw [h]
  simp only [Gen.connect_valid_graph.for2_body, pyUnpack_two_tup, bnd_ok,
    List.getD_cons_zero, List.getD_cons_succ, pyIndex_maskPV asInt hx, truthy_cellPV]
  by_cases hc : m.getD x false = true
  · simp only [hc, if_true, npSetItem2_nat hr hj, bnd_ok, hset, cellI]
    exact ⟨_, rfl, rfl⟩
  · have hc' : m.getD x false = false := by simpa using hc
    simp only [hc', Bool.false_eq_true, if_false, cellI]
    refine ⟨_, rfl, ?_⟩
    -- the cell keeps its `-1`, which is `cellI m x`: the row table is unchanged
    rw [← hset (-1), set_self_of_getElem? hj, set_self_of_getElem? hr]
    rfl

def AccInv (k : Nat) (asInt : Bool) (m : Mask) (i : Nat) (e : VEnv) : Prop :=
  e = { e with
    observed_length := .int (k : Int), vertices := maskPV asInt m,
    accessor := .arr (filled (indRow k m) negRow (4 ^ k) i) }

theorem setrow_induced (k fuel i : Nat) (asInt : Bool) (m : Mask) (hm : m.size = 4 ^ k) (hi : i < 4 ^ k)
    (hmi : m.getD i false = true) (e : VEnv)
    (h : RowSt (.int (k : Int)) asInt m i (filled (indRow k m) negRow (4 ^ k) i) e) :
    ∃ e1, forLoop (Gen.connect_valid_graph.for2_body fuel)
        (enumFrom 0 ((obtainLatters k i).map fun (x : Nat) => PV.int (x : Int))) e = .ok (.norm e1) ∧
      AccInv k asInt m (i + 1) e1 := by
  obtain ⟨e', hl, h'⟩ := forLoop_setrow (RowSt (.int (k : Int)) asInt m i) i (-1) (fun w => .int (cellI m w))
    (obtainLatters k i)
    (fun pre j rows x e hx h hr => setrow_body fuel i _ asInt m pre j rows x
      (by rw [hm]; exact obtainLatters_lt k i hx) e h hr) 0 [] _ e rfl h
    (by rw [filled_getElem? _ _ _ _ hi, if_neg (Nat.lt_irrefl i)]; simp [negRow, obtainLatters])
  refine ⟨e', hl, ?_⟩
  rw [AccInv, ← filled_set, indRow, if_pos hmi, h']
  rfl

theorem accessor_body (k fuel i : Nat) (asInt : Bool) (m : Mask) (hm : m.size = 4 ^ k) (hi : i < 4 ^ k)
    (e : VEnv) (h : AccInv k asInt m i e) :
    ∃ e', Gen.connect_valid_graph.for1_body fuel (.int (i : Int)) e = .ok (.norm e') ∧
      AccInv k asInt m (i + 1) e' := by
  have him : i < m.size := by rw [hm]; exact hi
  rw [h]
  simp only [Gen.connect_valid_graph.for1_body, pyIndex_maskPV asInt him, truthy_cellPV, bnd_ok]
  apply seq_norm_exists (Q := AccInv k asInt m (i + 1))
  · by_cases hc : m.getD i false = true
    · simp only [hc, if_true, tie_obtain_latters, bnd_ok, pyEnumerate_natsPV, pyIter_list]
      exact setrow_induced k fuel i asInt m hm hi hc _ rfl
    · have hc' : m.getD i false = false := by simpa using hc
      simp only [hc', Bool.false_eq_true, if_false]
      refine ⟨_, rfl, ?_⟩
      rw [AccInv, ← filled_skip (indRow k m) negRow _ i (by rw [indRow, hc']; rfl)]
  · intro e1 h
    exact ⟨e1, by simp only [Gen.connect_valid_graph.k1, bnd_ok, ite_self], h⟩

theorem npOnes_nat_four' (n : Nat) :
    npOnes (.tup [.int (n : Int), .int ((4 : Nat) : Int)]) =
      .ok (.arr (List.replicate n (.arr (List.replicate 4 (.int 1))))) := npOnes_nat_four n

theorem k3_spec (fuel : Nat) (e : Gen.connect_valid_graph.Env) :
    Gen.connect_valid_graph.k3 fuel e = .ok (.ret e.accessor) := by
  simp only [Gen.connect_valid_graph.k3, bnd_ok, ite_self, seq_norm, Gen.connect_valid_graph.k2]

theorem k4_spec (k fuel : Nat) (asInt : Bool) (m : Mask) (hm : m.size = 4 ^ k)
    (e : Gen.connect_valid_graph.Env) (h1 : e.observed_length = .int (k : Int))
    (h3 : e.vertices = maskPV asInt m) (hn : e.nucleotides = .str ['A', 'C', 'G', 'T']) :
    callResult (Gen.connect_valid_graph.k4 fuel e) = (connectValidGraph k (some m)).map accPV := by
  have hpos : 0 < m.size := hm ▸ Nat.pow_pos (by decide)
  simp only [Gen.connect_valid_graph.k4, h1, h3, hn, npSum_maskPV, pyLen_maskPV, bnd_ok,
    pyTrueDiv_nat_pos _ hpos, pyGt_rat_zero, connectValidGraph]
  by_cases hc : m.count > 0
  · have hc' : (0 : Int) < (m.count : Int) := Int.ofNat_lt.mpr hc
    simp only [hc, hc', decide_true, if_true, pyLen_ACGT, bnd_ok, pyPow_nat, pyInt_int, npOnes_nat_four',
      npNeg_ones (indRow k m), pyRange1_nat, pyIter_list, R_map_ok]
    apply callResult_seq_of_norm (AccInv k asInt m (4 ^ k))
    · exact forLoop_range_inv (AccInv k asInt m) _
        (fun i hi e he => accessor_body k fuel i asInt m hm hi e he)
        rfl
    · intro e' h
      rw [k3_spec, callResult_ret, h, induced_full]
  · have hc' : ¬ (0 : Int) < (m.count : Int) := fun h => hc (Int.ofNat_lt.mp h)
    simp only [hc, hc', decide_false, Bool.false_eq_true, if_false, callResult_error]
    rfl

end SwValid

open SwValid GzTie

theorem tie_connect_valid_graph (k : Nat) (m : Mask) (asInt : Bool) (fuel : Nat) (verbose : Bool) (hm : m.size = 4 ^ k) :
    Gen.connect_valid_graph fuel (.int (k : Int)) (maskPV asInt m) (.bool verbose) =
      (connectValidGraph k (some m)).map accPV := by
  have hnone : pyIsNone (maskPV asInt m) = false := rfl
  simp only [Gen.connect_valid_graph, Gen.connect_valid_graph.body, hnone, bnd_ok, Bool.false_eq_true,
    if_false, seq_norm, Gen.connect_valid_graph.k5, ite_self]
  exact k4_spec k fuel asInt m hm _ rfl rfl rfl

theorem tie_connect_valid_graph_none (k fuel : Nat) (verbose : Bool) :
    Gen.connect_valid_graph fuel (.int (k : Int)) .none (.bool verbose) = .error .valueError := by
  rfl

end Dsw.Tie
