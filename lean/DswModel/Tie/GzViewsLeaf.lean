import DswModel.Tie.GzViewsLib
/-!
# Translation tie — `obtain_leaf_vertices` (dsw/graphized.py)
-/
namespace Dsw.Tie.GzV
open Dsw Dsw.Py Dsw.Tie

abbrev LEnv := Gen.obtain_leaf_vertices.Env

theorem foldl_append_singleton {α} (l init : List α) :
    l.foldl (fun acc x => acc ++ [x]) init = init ++ l := by
  rw [foldl_append_flatMap (fun x => [x]), List.flatMap_singleton']

def LevRel (a : Acc) (lv : List Nat) (e : LEnv) : Prop := e.accessor = accPV a ∧ e.level = natsPV lv

theorem leaf_for2_body {a : Acc} (ha : a.WF) (fuel : Nat) (x : Nat) (hx : x < a.size) (lv : List Nat) (e : LEnv)
    (h : LevRel a lv e) :
    ∃ e', Gen.obtain_leaf_vertices.for2_body fuel (.int (x : Int)) e = .ok (.norm e') ∧
      LevRel a (lv ++ a.liveEntries (x : Int)) e' := by
  obtain ⟨h1, h2⟩ := h
  simp only [Gen.obtain_leaf_vertices.for2_body, h1, pyIndex_accPV_nat hx, bnd_ok, acc_live_tolist ha hx, h2,
    npAdd_natsPV]
  exact ⟨_, rfl, rfl, rfl⟩

def BrRel (a : Acc) (br : List Nat) (e : LEnv) : Prop :=
  e.accessor = accPV a ∧ e.branch = natsPV br ∧ ∀ v ∈ br, v < a.size

theorem leaf_for1_body {a : Acc} (ha : a.WF) (fuel : Nat) (x : PV) (br : List Nat) (e : LEnv)
    (h : BrRel a br e) :
    ∃ e', Gen.obtain_leaf_vertices.for1_body fuel x e = .ok (.norm e') ∧
      BrRel a (br.flatMap fun (v : Nat) => a.liveEntries (v : Int)) e' := by
  obtain ⟨h1, h2, h3⟩ := h
  simp only [Gen.obtain_leaf_vertices.for1_body, h2, pyIter_natsPV, bnd_ok]
  apply seq_norm_exists (Q := LevRel a (br.foldl (fun lv (x : Nat) => lv ++ a.liveEntries (x : Int)) []))
  · exact forLoop_rel_map (LevRel a) _ (fun (v : Nat) => PV.int (v : Int))
      (fun x hx st e he => leaf_for2_body ha fuel x (h3 x hx) st e he) ⟨h1, rfl⟩
  · intro e1 h
    rw [foldl_append_flatMap, List.nil_append] at h
    refine ⟨_, rfl, h.1, h.2, ?_⟩
    intro w hw
    obtain ⟨v, hv, hwv⟩ := List.mem_flatMap.mp hw
    exact liveEntries_lt ha (h3 v hv) hwv

theorem leaf_acc_tie (a : Acc) (v depth fuel : Nat) (ha : a.WF) (hv : v < a.size) :
    Gen.obtain_leaf_vertices fuel (.int (v : Int)) (.int (depth : Int)) (accPV a) .none =
      .ok (idxArrPV (leafAcc a depth [v])) := by
  have hconv : leafAcc a depth [v] = (List.range depth).foldl
      (fun br (_ : Nat) => br.flatMap fun (v : Nat) => a.liveEntries (v : Int)) [v] := by
    rw [foldl_const_iterate (fun br => br.flatMap fun (v : Nat) => a.liveEntries (v : Int)) (List.range depth) [v]
      (fun n s => leafAcc a n s) (fun _ => rfl) (fun _ _ => rfl), List.length_range]
  rw [hconv]
  simp only [Gen.obtain_leaf_vertices, Gen.obtain_leaf_vertices.body, Gen.obtain_leaf_vertices.k4,
    pyIsNone_accPV, pyIsNone_none, Bool.not_false, Bool.not_true, bnd_ok, ↓reduceIte, Bool.false_eq_true,
    seq_norm, pyRange1_nat, pyIter_list]
  apply callResult_seq_of_norm (BrRel a ((List.range depth).foldl
      (fun br (_ : Nat) => br.flatMap fun (v : Nat) => a.liveEntries (v : Int)) [v]))
  · exact forLoop_rel_map (BrRel a) _ (fun (i : Nat) => PV.int (i : Int))
      (fun i _ st e he => leaf_for1_body ha fuel _ st e he)
      ⟨rfl, rfl, fun w hw => by rw [List.mem_singleton.mp hw]; exact hv⟩
  · intro e' h
    simp only [Gen.obtain_leaf_vertices.k3, h.2.1, npArray_natsPV, bnd_ok, callResult_ret]
    rfl

def MLevRel (m : LMap) (lv : List Nat) (e : LEnv) : Prop := e.latter_map = lmapPV m ∧ e.level = natsPV lv

theorem leaf_for5_body (m : LMap) (fuel : Nat) (w : Nat) (lv : List Nat) (e : LEnv) (h : MLevRel m lv e) :
    ∃ e', Gen.obtain_leaf_vertices.for5_body fuel (.int (w : Int)) e = .ok (.norm e') ∧
      MLevRel m (lv ++ [w]) e' := by
  obtain ⟨h1, h2⟩ := h
  simp only [Gen.obtain_leaf_vertices.for5_body, h2, pyAppend_natsPV, bnd_ok]
  exact ⟨_, rfl, h1, rfl⟩

theorem leaf_for4_body (m : LMap) (fuel : Nat) (x : Nat) (lv : List Nat) (e : LEnv) (h : MLevRel m lv e) :
    ∃ e', Gen.obtain_leaf_vertices.for4_body fuel (.int (x : Int)) e = .ok (.norm e') ∧
      MLevRel m (lv ++ (LMap.get? m x).getD []) e' := by
  obtain ⟨h1, h2⟩ := h
  simp only [Gen.obtain_leaf_vertices.for4_body, h1, pyIn_lmapPV, bnd_ok]
  cases hg : LMap.get? m x with
  | none =>
    simp only [Option.isSome_none, Bool.false_eq_true, ↓reduceIte, Option.getD_none, List.append_nil]
    exact ⟨_, rfl, rfl, h2⟩
  | some l =>
    simp only [Option.isSome_some, ↓reduceIte, pyIndex_lmapPV hg, bnd_ok, pyIter_natsPV, Option.getD_some]
    rw [← foldl_append_singleton l lv]
    exact forLoop_rel_map (MLevRel m) _ (fun (v : Nat) => PV.int (v : Int))
      (fun w _ st e he => leaf_for5_body m fuel w st e he)
      ⟨rfl, h2⟩

def MBrRel (m : LMap) (br : List Nat) (e : LEnv) : Prop := e.latter_map = lmapPV m ∧ e.branch = natsPV br

theorem leaf_for3_body (m : LMap) (fuel : Nat) (x : PV) (br : List Nat) (e : LEnv) (h : MBrRel m br e) :
    ∃ e', Gen.obtain_leaf_vertices.for3_body fuel x e = .ok (.norm e') ∧
      MBrRel m (br.flatMap fun v => (LMap.get? m v).getD []) e' := by
  obtain ⟨h1, h2⟩ := h
  simp only [Gen.obtain_leaf_vertices.for3_body, h2, pyIter_natsPV, bnd_ok]
  apply seq_norm_exists (Q := MLevRel m (br.foldl (fun lv (x : Nat) => lv ++ (LMap.get? m x).getD []) []))
  · exact forLoop_rel_map (MLevRel m) _ (fun (v : Nat) => PV.int (v : Int))
      (fun x _ st e he => leaf_for4_body m fuel x st e he) ⟨h1, rfl⟩
  · intro e1 h
    rw [foldl_append_flatMap, List.nil_append] at h
    exact ⟨_, rfl, h.1, h.2⟩

theorem leaf_map_tie (m : LMap) (v depth fuel : Nat) :
    Gen.obtain_leaf_vertices fuel (.int (v : Int)) (.int (depth : Int)) .none (lmapPV m) =
      .ok (idxArrPV (leafMap m depth [v])) := by
  have hconv : leafMap m depth [v] = (List.range depth).foldl
      (fun br (_ : Nat) => br.flatMap fun v => (LMap.get? m v).getD []) [v] := by
    rw [foldl_const_iterate (fun br => br.flatMap fun v => (LMap.get? m v).getD []) (List.range depth) [v]
      (fun n s => leafMap m n s) (fun _ => rfl) (fun _ _ => rfl), List.length_range]
  rw [hconv]
  simp only [Gen.obtain_leaf_vertices, Gen.obtain_leaf_vertices.body, Gen.obtain_leaf_vertices.k4,
    pyIsNone_lmapPV, pyIsNone_none, Bool.not_false, Bool.not_true, bnd_ok, ↓reduceIte, Bool.false_eq_true,
    seq_norm, pyRange1_nat, pyIter_list]
  apply callResult_seq_of_norm (MBrRel m ((List.range depth).foldl
      (fun br (_ : Nat) => br.flatMap fun v => (LMap.get? m v).getD []) [v]))
  · exact forLoop_rel_map (MBrRel m) _ (fun (i : Nat) => PV.int (i : Int))
      (fun i _ st e he => leaf_for3_body m fuel _ st e he) ⟨rfl, rfl⟩
  · intro e' h
    simp only [Gen.obtain_leaf_vertices.k3, h.2, npArray_natsPV, bnd_ok, callResult_ret]
    rfl

theorem leaf_bad (a : Acc) (m : LMap) (v depth fuel : Nat) :
    Gen.obtain_leaf_vertices fuel (.int (v : Int)) (.int (depth : Int)) (accPV a) (lmapPV m) = .error .valueError ∧
    Gen.obtain_leaf_vertices fuel (.int (v : Int)) (.int (depth : Int)) .none .none = .error .valueError := by
  constructor <;> rfl

end Dsw.Tie.GzV
