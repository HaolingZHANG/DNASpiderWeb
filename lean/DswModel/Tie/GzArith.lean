import DswModel.Tie.NpLemmas
import DswModel.Gen.Graphized
/-!
# Translation tie — `obtain_latters`, `obtain_formers`, `get_complete_accessor` (dsw/graphized.py)

The generated definitions compute the model functions `obtainLatters`, `obtainFormers`,
`getCompleteAccessor` (the successor / predecessor arithmetic of the de Bruijn graph and the complete
accessor) for every vertex index and every observed length (`obtain_formers`: `k ≥ 1`, since `4 ** (k-1)`
is a float for `k = 0`).
-/
namespace Dsw.Tie
open Dsw Dsw.Py

namespace GzTie

/-- `len(nucleotides)` for the literal `"ACGT"`. -/
theorem pyLen_ACGT : pyLen (.str ['A', 'C', 'G', 'T']) = .ok (.int ((4 : Nat) : Int)) := rfl

/-- invariant of the `obtain_latters` loop: the arguments, and `latters` holds the successors `st` found so far. -/
def LatRel (k v : Nat) (st : List Nat) (e : Gen.obtain_latters.Env) : Prop :=
  e = { e with
    current := .int (v : Int), observed_length := .int (k : Int), nucleotides := .str ['A', 'C', 'G', 'T'],
    latters := natsPV st }

theorem latters_body (k v fuel : Nat) (j : Nat) (st : List Nat) (e : Gen.obtain_latters.Env)
    (h : LatRel k v st e) :
    ∃ e', Gen.obtain_latters.for1_body fuel (.int (j : Int)) e = .ok (.norm e') ∧
      LatRel k v (st ++ [(v * 4 + j) % 4 ^ k]) e' := by
  have hpos : 4 ^ k ≠ 0 := Nat.pos_iff_ne_zero.mp (Nat.pow_pos (by decide))
  rw [h]
  simp only [Gen.obtain_latters.for1_body, pyLen_ACGT, bnd_ok, npMul_nat, npAdd_nat,
    pyPow_nat, pyMod_nat hpos, pyInt_int, pyAppend_natsPV]
  exact ⟨_, rfl, rfl⟩

/-- invariant of the `obtain_formers` loop: the arguments, and `formers` holds the predecessors `st` found so far. -/
def ForRel (k v : Nat) (st : List Nat) (e : Gen.obtain_formers.Env) : Prop :=
  e = { e with
    current := .int (v : Int), observed_length := .int (k : Int), nucleotides := .str ['A', 'C', 'G', 'T'],
    formers := natsPV st }

theorem formers_body (k v fuel : Nat) (hk : 1 ≤ k) (j : Nat) (st : List Nat) (e : Gen.obtain_formers.Env)
    (h : ForRel k v st e) :
    ∃ e', Gen.obtain_formers.for1_body fuel (.int (j : Int)) e = .ok (.norm e') ∧
      ForRel k v (st ++ [v / 4 + j * 4 ^ (k - 1)]) e' := by
  rw [h]
  simp only [Gen.obtain_formers.for1_body, pyLen_ACGT, bnd_ok, npMul_nat, npAdd_nat,
    pyPow_nat, pyFloorDiv_nat (a := v) (b := 4) (by decide), npSub_nat_one hk, pyInt_int, pyAppend_natsPV]
  exact ⟨_, rfl, rfl⟩

end GzTie

open GzTie

theorem tie_obtain_latters (k v fuel : Nat) :
    Gen.obtain_latters fuel (.int (v : Int)) (.int (k : Int)) = .ok (natsPV (obtainLatters k v)) := by
  simp only [Gen.obtain_latters, Gen.obtain_latters.body, pyLen_ACGT, bnd_ok, pyRange1_nat, pyIter_list]
  apply callResult_seq_of_norm (LatRel k v (obtainLatters k v))
  · show ∃ e', _ = Except.ok (Flow.norm e') ∧
      LatRel k v ((List.range 4).foldl (fun st j => st ++ [(v * 4 + j) % 4 ^ k]) []) e'
    exact forLoop_rel_map (LatRel k v) _ (fun (i : Nat) => PV.int (i : Int))
      (fun j _ st e h => latters_body k v fuel j st e h) rfl
  · intro e' h
    rw [h]
    simp only [Gen.obtain_latters.k1, callResult_ret]

theorem tie_obtain_formers (k v fuel : Nat) (hk : 1 ≤ k) :
    Gen.obtain_formers fuel (.int (v : Int)) (.int (k : Int)) = .ok (natsPV (obtainFormers k v)) := by
  simp only [Gen.obtain_formers, Gen.obtain_formers.body, pyLen_ACGT, bnd_ok, pyRange1_nat, pyIter_list]
  apply callResult_seq_of_norm (ForRel k v (obtainFormers k v))
  · show ∃ e', _ = Except.ok (Flow.norm e') ∧
      ForRel k v ((List.range 4).foldl (fun st j => st ++ [v / 4 + j * 4 ^ (k - 1)]) []) e'
    exact forLoop_rel_map (ForRel k v) _ (fun (i : Nat) => PV.int (i : Int))
      (fun j _ st e h => formers_body k v fuel hk j st e h) rfl
  · intro e' h
    rw [h]
    simp only [Gen.obtain_formers.k1, callResult_ret]

namespace GzTie

/-- the row `[-1, -1, -1, -1]` of `-ones((n, 4))`. -/
def negRow : PV := .arr (List.replicate 4 (.int (-1)))

/-- the row of vertex `v` in the complete accessor. -/
def latRow (k v : Nat) : PV := .arr ((obtainLatters k v).map fun (n : Nat) => .int (n : Int))

theorem npOnes_nat_four (n : Nat) :
    npOnes (.tup [.int (n : Int), .int 4]) =
      .ok (.arr (List.replicate n (.arr (List.replicate 4 (.int 1))))) := by
  have h : ¬ ((n : Int) < 0 ∨ (4 : Int) < 0) := by omega
  simp only [npOnes, npFull, h, if_false, Int.toNat_natCast]
  rfl

theorem npNegList_ones (n : Nat) :
    npNegList (List.replicate n (.arr (List.replicate 4 (.int 1)))) = .ok (List.replicate n negRow) := by
  induction n with
  | zero => rfl
  | succ n ih =>
    rw [List.replicate_succ, npNegList, ih]
    rfl

theorem npNeg_ones (f : Nat → PV) (n : Nat) :
    npNeg (.arr (List.replicate n (.arr (List.replicate 4 (.int 1))))) = .ok (.arr (filled f negRow n 0)) := by
  rw [filled_zero, npNeg, npNegList_ones]
  rfl

theorem npSetItem2_nat {rows r : List PV} {v j : Nat} {k : Int} (hr : rows[v]? = some (.arr r))
    (hj : r[j]? = some (.int k)) (x : Int) :
    npSetItem2 (.arr rows) (.int (v : Int)) (.int (j : Int)) (.int x) =
      .ok (.arr (rows.set v (.arr (r.set j (.int x))))) := by
  have hv : v < rows.length := by
    rcases Nat.lt_or_ge v rows.length with h | h
    · exact h
    · rw [List.getElem?_eq_none h] at hr; cases hr
  have hg : rows.getD v .none = .arr r := by
    rw [List.getD_eq_getElem?_getD, hr]; rfl
  simp only [npSetItem2, asInt?_int, normIndex_natCast hv, hg, pySetItem_arr_nat hj]

theorem getElem?_append_cons {α : Type} (pre : List α) (s : α) (suf : List α) :
    (pre ++ s :: suf)[pre.length]? = some s := by
  rw [List.getElem?_append_right (Nat.le_refl _), Nat.sub_self]
  rfl

theorem set_append_cons {α : Type} (pre : List α) (s y : α) (suf : List α) :
    (pre ++ s :: suf).set pre.length y = (pre ++ [y]) ++ suf := by
  rw [List.set_append_right _ _ (Nat.le_refl _), Nat.sub_self, List.set_cons_zero, List.append_assoc]
  rfl

abbrev CEnv := Gen.get_complete_accessor.Env

/-- The fields the loops read or write (record-equation relation, see README.md, step 1); `K` is `observed_length`
as the caller left it, `rows` the table so far. -/
def RowSt (K : PV) (v : Nat) (rows : List PV) (e : CEnv) : Prop :=
  e = { e with observed_length := K, accessor := .arr rows, vertex_index := .int (v : Int) }

/-- the body of `for position, latter in enumerate(latters): accessor[v][position] = latter`. -/
theorem setrow_body (fuel v : Nat) (K : PV) (pre : List PV) (j : Nat) (rows : List PV) (x : Nat) (e : CEnv)
    (h : RowSt K v rows e) (hr : rows[v]? = some (.arr (pre ++ PV.int (-1) :: List.replicate j (.int (-1))))) :
    ∃ e', Gen.get_complete_accessor.for2_body fuel (.tup [.int (pre.length : Int), .int (x : Int)]) e =
        .ok (.norm e') ∧
      RowSt K v (rows.set v (.arr ((pre ++ [.int (x : Int)]) ++ List.replicate j (.int (-1))))) e' := by
  rw [h]
  simp only [Gen.get_complete_accessor.for2_body, pyUnpack_two_tup, bnd_ok, List.getD_cons_zero,
    List.getD_cons_succ, npSetItem2_nat hr (getElem?_append_cons pre _ _), set_append_cons]
  exact ⟨_, rfl, rfl⟩

theorem complete_full (k : Nat) : PV.arr (filled (latRow k) negRow (4 ^ k) (4 ^ k)) = accPV (getCompleteAccessor k) := by
  rw [filled_full, accPV, getCompleteAccessor, Array.toList_map, Array.toList_range, List.map_map]
  refine congrArg PV.arr (List.map_congr_left fun v _ => ?_)
  rw [Function.comp, latRow, List.toList_toArray, List.map_map]
  rfl

/-- invariant of the outer loop of `get_complete_accessor`: of the `n` rows the first `i` are `latRow k`, the rest `-1`. -/
def AccInv (k n i : Nat) (e : CEnv) : Prop :=
  e = { e with observed_length := .int (k : Int), accessor := .arr (filled (latRow k) negRow n i) }

theorem setrow_complete (k n fuel i : Nat) (hi : i < n) (e : CEnv)
    (h : RowSt (.int (k : Int)) i (filled (latRow k) negRow n i) e) :
    ∃ e1, forLoop (Gen.get_complete_accessor.for2_body fuel)
        (enumFrom 0 ((obtainLatters k i).map fun (x : Nat) => PV.int (x : Int))) e = .ok (.norm e1) ∧
      AccInv k n (i + 1) e1 := by
  obtain ⟨e', hl, h'⟩ := forLoop_setrow (RowSt (.int (k : Int)) i) i (-1) (fun x => .int (x : Int)) (obtainLatters k i)
    (fun pre j rows x e _ h hr => setrow_body fuel i _ pre j rows x e h hr) 0 [] _ e rfl h
    (by rw [filled_getElem? _ _ _ _ hi, if_neg (Nat.lt_irrefl i)]; rfl)
  refine ⟨e', hl, ?_⟩
  rw [AccInv, ← filled_set, h']
  rfl

theorem accessor_body (k n fuel i : Nat) (hi : i < n) (e : CEnv) (h : AccInv k n i e) :
    ∃ e', Gen.get_complete_accessor.for1_body fuel (.int (i : Int)) e = .ok (.norm e') ∧
      AccInv k n (i + 1) e' := by
  rw [h]
  simp only [Gen.get_complete_accessor.for1_body, tie_obtain_latters, bnd_ok, pyEnumerate_natsPV, pyIter_list]
  apply seq_norm_exists (Q := AccInv k n (i + 1))
  · exact setrow_complete k n fuel i hi _ rfl
  · intro e1 h
    exact ⟨e1, by simp only [Gen.get_complete_accessor.k1, bnd_ok, ite_self], h⟩

end GzTie

theorem tie_get_complete_accessor (k fuel : Nat) (verbose : Bool) :
    Gen.get_complete_accessor fuel (.int (k : Int)) (.bool verbose) = .ok (accPV (getCompleteAccessor k)) := by
  simp only [Gen.get_complete_accessor, Gen.get_complete_accessor.body, pyPow_four_nat, bnd_ok, pyInt_int,
    npOnes_nat_four, npNeg_ones (latRow k), pyRange1_nat, pyIter_list]
  apply callResult_seq_of_norm (AccInv k (4 ^ k) (4 ^ k))
  · exact forLoop_range_inv (AccInv k (4 ^ k)) _
      (fun i hi e he => accessor_body k (4 ^ k) fuel i hi e he) rfl
  · intro e' h
    rw [h]
    simp only [Gen.get_complete_accessor.k2, callResult_ret, complete_full]

end Dsw.Tie
