import DswModel.Tie.OpLemmas
/-!
# Translation tie — `calculus_multiplication`

The generated definition computes the model function `Dsw.calculusMultiplication` for every string of decimal
digits and every one-digit operand.

The right-to-left digit loop (`for1`, over `range(len(number))[::-1]`) overwrites `number[index]`; with the
processed suffix `post` and the untouched prefix `pre` the list is `pre ++ x :: post`, and one iteration is
`mulStep b x (r, post)`, so the loop is `List.foldr (mulStep b)` (`forLoop_range_down` with the invariant
`MulInv`).  The carry loop (`while2`) runs at most once since the carry is below the base
(`mulStep_foldr_spec`); it is unrolled against `pushCarry 2`.
-/
namespace Dsw.Tie
open Dsw Dsw.Py

namespace MulTie

theorem pushCarry_two_zero (acc : List Nat) : pushCarry 2 0 acc = acc := by
  simp [pushCarry]

theorem pushCarry_two_digit {r : Nat} (h0 : 0 < r) (hr : r < 10) (acc : List Nat) :
    pushCarry 2 r acc = r % 10 :: acc := by
  simp [pushCarry, h0, Nat.div_eq_of_lt hr]

/-- one iteration at position `p = pre.length` of `pre ++ x :: post`, carry `r`. -/
theorem for1_body_spec (fuel b : Nat) (hb : b < 10) (pre post : List Nat) (x r p : Nat) (hp : p = pre.length)
    (e : Gen.calculus_multiplication.Env) (hbase : e.base = dstr [b])
    (hnum : e.number = natsPV (pre ++ x :: post)) (hrem : e.remainder = .int (r : Int)) :
    ∃ e', Gen.calculus_multiplication.for1_body fuel (.int (p : Int)) e = .ok (.norm e') ∧
      e'.base = dstr [b] ∧ e'.number = natsPV (pre ++ ((x * b + r) % 10) :: post) ∧
      e'.remainder = .int (((x * b + r) / 10 : Nat) : Int) := by
  simp only [Gen.calculus_multiplication.for1_body, hbase, hnum, hrem, dstr_singleton, pyIndex_natsPV_mid hp,
    pyInt_digit hb, bnd_ok, pyMul_nat, pyAdd_nat, pyGe_nat_ten]
  generalize x * b + r = v
  by_cases hge : 10 ≤ v
  · simp only [hge, decide_true, if_true, pyMod_nat_ten, bnd_ok, pySetItem_natsPV_mid hp, pyFloorDiv_nat_ten]
    exact ⟨_, rfl, rfl, rfl, rfl⟩
  · have hlt : v < 10 := Nat.lt_of_not_le hge
    simp only [hge, decide_false, Bool.false_eq_true, if_false, bnd_ok, pySetItem_natsPV_mid hp,
      Nat.mod_eq_of_lt hlt, Nat.div_eq_of_lt hlt]
    exact ⟨_, rfl, rfl, rfl, rfl⟩

/-- the model state after the digits `k … n-1`. -/
def mulSt (b : Nat) (s : Dec) (k : Nat) : Nat × List Nat := (s.drop k).foldr (mulStep b) (0, [])

/-- invariant before the digit `k - 1`: the digits from `k` on are done. -/
def MulInv (b : Nat) (s : Dec) (k : Nat) (e : Gen.calculus_multiplication.Env) : Prop :=
  e.base = dstr [b] ∧ e.number = natsPV (s.take k ++ (mulSt b s k).2) ∧
    e.remainder = .int ((mulSt b s k).1 : Int)

theorem for1_inv (fuel b : Nat) (hb : b < 10) (s : Dec) (k : Nat) (hk : k < s.length)
    (e : Gen.calculus_multiplication.Env) (h : MulInv b s (k + 1) e) :
    ∃ e', Gen.calculus_multiplication.for1_body fuel (.int (k : Int)) e = .ok (.norm e') ∧ MulInv b s k e' := by
  obtain ⟨hbase, hnum, hrem⟩ := h
  rw [← List.take_append_getElem hk, List.append_assoc, List.singleton_append] at hnum
  have hstep : mulSt b s k = mulStep b s[k] (mulSt b s (k + 1)) := foldr_drop_step _ _ hk
  simp only [MulInv, hstep]
  exact for1_body_spec fuel b hb _ _ s[k] _ k (List.length_take_of_le (Nat.le_of_lt hk)).symm e hbase hnum hrem

theorem while2_cond_spec (fuel : Nat) (e : Gen.calculus_multiplication.Env) (r : Nat)
    (hrem : e.remainder = .int (r : Int)) :
    Gen.calculus_multiplication.while2_cond fuel e = .ok (decide (0 < r)) := by
  simp only [Gen.calculus_multiplication.while2_cond, hrem, pyGt_nat_zero]

theorem while2_body_spec (fuel : Nat) (e : Gen.calculus_multiplication.Env) (r : Nat) (acc : List Nat)
    (hnum : e.number = natsPV acc) (hrem : e.remainder = .int (r : Int)) :
    ∃ e', Gen.calculus_multiplication.while2_body fuel e = .ok (.norm e') ∧
      e'.number = natsPV (r % 10 :: acc) ∧ e'.remainder = .int ((r / 10 : Nat) : Int) := by
  simp only [Gen.calculus_multiplication.while2_body, hnum, hrem, pyMod_nat_ten, bnd_ok, pyInsert_natsPV_zero,
    pyFloorDiv_nat_ten]
  exact ⟨_, rfl, rfl, rfl⟩

/-- `k1`: `"".join(map(str, number))`. -/
theorem k1_spec (fuel : Nat) (e : Gen.calculus_multiplication.Env) (l : List Nat) (hl : Digits l)
    (hnum : e.number = natsPV l) :
    Gen.calculus_multiplication.k1 fuel e = .ok (.ret (dstr l)) := by
  simp only [Gen.calculus_multiplication.k1, hnum, join_map_str_natsPV hl, bnd_ok]

/-- `k2`: the carry loop (at most one iteration), then `k1`. -/
theorem k2_spec (fuel : Nat) (hf : 2 ≤ fuel) (e : Gen.calculus_multiplication.Env) (r : Nat) (acc : List Nat)
    (hr : r < 10) (hacc : Digits acc) (hnum : e.number = natsPV acc) (hrem : e.remainder = .int (r : Int)) :
    Gen.calculus_multiplication.k2 fuel e = .ok (.ret (dstr (pushCarry 2 r acc))) := by
  obtain ⟨f, rfl⟩ := Nat.exists_eq_add_of_le' hf
  rw [Gen.calculus_multiplication.k2]
  by_cases h0 : 0 < r
  · have hc : Gen.calculus_multiplication.while2_cond (f + 2) e = .ok true := by
      rw [while2_cond_spec _ e r hrem, decide_eq_true h0]
    obtain ⟨e1, hb1, hnum1, hrem1⟩ := while2_body_spec (f + 2) e r acc hnum hrem
    have hc1 : Gen.calculus_multiplication.while2_cond (f + 2) e1 = .ok false := by
      rw [while2_cond_spec _ e1 _ hrem1, Nat.div_eq_of_lt hr]; rfl
    rw [whileLoop_true_norm hc hb1, whileLoop_false hc1, seq_norm, pushCarry_two_digit h0 hr]
    exact k1_spec _ e1 _ (Digits_cons.mpr ⟨Nat.mod_lt _ (by decide), hacc⟩) hnum1
  · obtain rfl : r = 0 := Nat.eq_zero_of_not_pos h0
    have hc : Gen.calculus_multiplication.while2_cond (f + 2) e = .ok false := by
      rw [while2_cond_spec _ e 0 hrem]; rfl
    rw [whileLoop_false hc, seq_norm, pushCarry_two_zero]
    exact k1_spec _ e _ hacc hnum

/-- `k3`: the general path — digits to ints, the digit loop, then `k2`. -/
theorem k3_spec (fuel b : Nat) (hf : 2 ≤ fuel) (hb1 : 1 ≤ b) (hb : b < 10) (s : Dec) (hs : Digits s)
    (e : Gen.calculus_multiplication.Env) (hnum : e.number = dstr s) (hbase : e.base = dstr [b]) :
    Gen.calculus_multiplication.k3 fuel e =
      .ok (.ret (dstr (pushCarry 2 (s.foldr (mulStep b) (0, [])).1 (s.foldr (mulStep b) (0, [])).2))) := by
  simp only [Gen.calculus_multiplication.k3, hnum, pyMap_pyInt_dstr hs, bnd_ok, pyLen_natsPV, pyRange1_nat,
    pyReverse_list, pyIter_list, ← List.map_reverse]
  obtain ⟨_, hdig, hlt, _⟩ := mulStep_foldr_spec b hb1 s hs
  apply seq_eq_of_norm (MulInv b s 0)
  · refine forLoop_range_down (MulInv b s) s.length (fun k hk e h => for1_inv fuel b hb s k hk e h)
      ⟨hbase, ?_, ?_⟩
    · rw [mulSt, List.drop_length, List.take_length]; exact congrArg natsPV (List.append_nil s).symm
    · rw [mulSt, List.drop_length]; rfl
  · intro e1 ⟨_, hnum1, hrem1⟩
    exact k2_spec fuel hf e1 _ _ (Nat.lt_trans hlt hb) hdig hnum1 hrem1

/-- `k4`: the `base == "1"` special case, then `k3`. -/
theorem k4_spec (fuel b : Nat) (hf : 2 ≤ fuel) (hb0 : b ≠ 0) (hb : b < 10) (s : Dec) (hs : Digits s)
    (e : Gen.calculus_multiplication.Env) (hnum : e.number = dstr s) (hbase : e.base = dstr [b]) :
    Gen.calculus_multiplication.k4 fuel e = .ok (.ret (dstr (calculusMultiplication s b))) := by
  simp only [Gen.calculus_multiplication.k4, hnum, hbase, dstr_singleton, pyEq_def, eqb_digit_lit_one hb, bnd_ok,
    seq_guard_ret]
  by_cases h1 : b = 1
  · subst h1
    simp only [decide_true, if_true, calculusMultiplication]
    rfl
  · have hcm : calculusMultiplication s b =
        pushCarry 2 (s.foldr (mulStep b) (0, [])).1 (s.foldr (mulStep b) (0, [])).2 := by
      simp only [calculusMultiplication, hb0, h1, if_false]
    simp only [h1, decide_false, Bool.false_eq_true, if_false, hcm]
    exact k3_spec fuel b hf (Nat.pos_of_ne_zero hb0) hb s hs e hnum (by rw [hbase])

/-- the function body: the `base == "0"` special case, then `k4`. -/
theorem body_spec (fuel b : Nat) (hf : 2 ≤ fuel) (hb : b < 10) (s : Dec) (hs : Digits s)
    (e : Gen.calculus_multiplication.Env) (hnum : e.number = dstr s) (hbase : e.base = dstr [b]) :
    Gen.calculus_multiplication.body fuel e = .ok (.ret (dstr (calculusMultiplication s b))) := by
  simp only [Gen.calculus_multiplication.body, hbase, dstr_singleton, pyEq_def, eqb_digit_lit_zero hb, bnd_ok,
    seq_guard_ret]
  by_cases h0 : b = 0
  · subst h0
    simp only [decide_true, if_true, calculusMultiplication, str_lit_zero]
  · simp only [h0, decide_false, Bool.false_eq_true, if_false]
    exact k4_spec fuel b hf h0 hb s hs e hnum (by rw [hbase])

end MulTie

open MulTie in
theorem tie_calculus_multiplication (s : Dec) (b fuel : Nat) (hs : Digits s) (hb : b < 10) (hf : 2 ≤ fuel) :
    Gen.calculus_multiplication fuel (dstr s) (dstr [b]) = .ok (dstr (calculusMultiplication s b)) := by
  rw [Gen.calculus_multiplication, body_spec fuel b hf hb s hs _ rfl rfl]; rfl

end Dsw.Tie
