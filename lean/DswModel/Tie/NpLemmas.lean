import DswModel.Tie.PyLemmas
import DswModel.Tie.SpiderwebDefs
import DswModel.Lemmas.Digit
/-!
Lemmas about the NumPy part of the Python fragment (arrays, `npWhere`, `npArgsort`, `npSum`, broadcasting) and
about the embeddings `accPV`, `tblPV`, `bitsPV` of `SpiderwebDefs`, and the table filled row by row (`filled`,
`forLoop_setrow`); for the ties of dsw/spiderweb.py and dsw/graphized.py.
Conventions as in `PyLemmas`.  A list of integers is embedded as `l.map PV.int`, a list of naturals as
`l.map fun (n : Nat) => PV.int (n : Int)` (the form `natsPV` and `bitsPV` use); `map_natCast_int` converts.
-/
namespace Dsw.Tie
open Dsw Dsw.Py

@[simp] theorem asInt?_arr (l : List PV) : (PV.arr l).asInt? = Option.none := rfl
@[simp] theorem truthy_arr (l : List PV) : (PV.arr l).truthy = !l.isEmpty := rfl
@[simp] theorem getVar_arr (l : List PV) : getVar (.arr l) = .ok (.arr l) := rfl
@[simp] theorem eqb_arr (a b : List PV) : PV.eqb (.arr a) (.arr b) = PV.eqbList a b := rfl

@[simp] theorem pyIter_arr (l : List PV) : pyIter (.arr l) = .ok l := rfl
@[simp] theorem pyList_arr (l : List PV) : pyList (.arr l) = .ok (.list l) := rfl
@[simp] theorem pyLen_arr (l : List PV) : pyLen (.arr l) = .ok (.int l.length) := rfl
@[simp] theorem pyMap_arr (f : PV → RV) (l : List PV) : pyMap f (.arr l) = (mapM' f l).map .list := rfl
@[simp] theorem pyEnumerate_arr (l : List PV) : pyEnumerate (.arr l) = .ok (.list (enumFrom 0 l)) := rfl
@[simp] theorem pyReverse_arr (l : List PV) : pyReverse (.arr l) = .ok (.arr l.reverse) := rfl
theorem pyUnpack_arr {n : Nat} {l : List PV} (h : l.length = n) : pyUnpack n (.arr l) = .ok l := if_pos h
theorem pyMap_arr_eq {f : PV → RV} {g : PV → PV} {l : List PV} (h : ∀ x ∈ l, f x = .ok (g x)) :
    pyMap f (.arr l) = .ok (.list (l.map g)) := by rw [pyMap_arr, mapM'_eq_map h]; rfl
theorem pyMap_arr_map {α} {f : PV → RV} {emb : α → PV} {g : α → PV} {l : List α}
    (h : ∀ a ∈ l, f (emb a) = .ok (g a)) : pyMap f (.arr (l.map emb)) = .ok (.list (l.map g)) := by
  rw [pyMap_arr, mapM'_map h]; rfl

theorem pyIndex_arr_some {l : List PV} {i : Int} {j : Nat} (h : normIndex l.length i = some j) :
    pyIndex (.arr l) (.int i) = .ok (l.getD j .none) := by
  unfold pyIndex pyIndexSeq; simp only [asInt?_int, h]
theorem pyIndex_arr_none {l : List PV} {i : Int} (h : normIndex l.length i = Option.none) :
    pyIndex (.arr l) (.int i) = .error .indexError := by
  unfold pyIndex pyIndexSeq; simp only [asInt?_int, h]

/-- `arr[i]` is decided by `normIndex` alone. -/
theorem pyIndex_arr_eq (l : List PV) (i : Int) :
    pyIndex (.arr l) (.int i) = match normIndex l.length i with
                                | some j => .ok (l.getD j .none)
                                | Option.none => .error .indexError := by
  cases h : normIndex l.length i with
  | some j => exact pyIndex_arr_some h
  | none => exact pyIndex_arr_none h

theorem pyIndex_arr_getD {l : List PV} {i : Nat} (h : i < l.length) :
    pyIndex (.arr l) (.int i) = .ok (l.getD i .none) := pyIndex_arr_some (normIndex_natCast h)
theorem pyIndex_arr_nat {l : List PV} {i : Nat} (h : i < l.length) :
    pyIndex (.arr l) (.int i) = .ok l[i] := by
  rw [pyIndex_arr_getD h, getD_eq_getElem h]
theorem pyIndex_arr_int {l : List PV} {i : Int} (h0 : 0 ≤ i) (h : i < l.length) :
    pyIndex (.arr l) (.int i) = .ok (l.getD i.toNat .none) := pyIndex_arr_some (normIndex_of_nonneg h0 h)
theorem pyIndex_arr_of_ge {l : List PV} {i : Int} (h : (l.length : Int) ≤ i) :
    pyIndex (.arr l) (.int i) = .error .indexError := pyIndex_arr_none (normIndex_of_ge h)
theorem pyIndex_arr_neg {l : List PV} {k : Nat} (h0 : 0 < k) (h : k ≤ l.length) :
    pyIndex (.arr l) (.int (-(k : Int))) = .ok (l.getD (l.length - k) .none) :=
  pyIndex_arr_some (normIndex_neg h0 h)
@[simp] theorem pyIndex_arr_cons_zero (x : PV) (xs : List PV) : pyIndex (.arr (x :: xs)) (.int 0) = .ok x :=
  pyIndex_arr_nat (l := x :: xs) (i := 0) (Nat.zero_lt_succ _)
@[simp] theorem pyIndex_arr_nil (i : Int) : pyIndex (.arr []) (.int i) = .error .indexError :=
  pyIndex_arr_none (normIndex_nil i)
/-- an array subscript gathers (`a[[i, j, …]]`). -/
theorem pyIndex_arr_arr (l js : List PV) :
    pyIndex (.arr l) (.arr js) = (mapM' (fun k => pyIndexSeq (.arr l) k) js).map .arr := rfl

theorem normIndex_eq (n : Nat) (i : Int) :
    normIndex n i = if -(n : Int) ≤ i ∧ i < n then some (if i < 0 then i + n else i).toNat else Option.none := by
  have h : (0 ≤ (if i < 0 then i + n else i) ∧ (if i < 0 then i + (n : Int) else i) < n) ↔
      (-(n : Int) ≤ i ∧ i < n) := by split <;> omega
  simp only [normIndex, h]

@[simp] theorem pySliceV_arr_from (l : List PV) (a : Nat) :
    pySliceV (.arr l) (.int a) .none = .ok (.arr (l.drop a)) := by
  simp only [pySliceV, boundOr_int, boundOr_none, pySlice_from]
@[simp] theorem pySliceV_arr_to (l : List PV) (b : Nat) :
    pySliceV (.arr l) .none (.int b) = .ok (.arr (l.take b)) := by
  simp only [pySliceV, boundOr_int, boundOr_none, pySlice_to]
@[simp] theorem pySliceV_arr_nat (l : List PV) (a b : Nat) :
    pySliceV (.arr l) (.int a) (.int b) = .ok (.arr ((l.drop a).take (b - a))) := by
  simp only [pySliceV, boundOr_int, pySlice_nat]
@[simp] theorem pySliceV_arr_from_one (l : List PV) :
    pySliceV (.arr l) (.int 1) .none = .ok (.arr l.tail) := by
  rw [← List.drop_one]; exact pySliceV_arr_from l 1
@[simp] theorem pySliceV_arr_from_zero (l : List PV) :
    pySliceV (.arr l) (.int 0) .none = .ok (.arr l) := pySliceV_arr_from l 0
theorem pySlice_to_neg_one {α} (l : List α) : pySlice l 0 (-1) = l.dropLast := by
  have h : pyNorm l.length (-1) = l.length - 1 := pyNorm_neg (n := l.length) (k := 1) Nat.one_pos
  simp only [pySlice, pyNorm_zero, h, List.drop_zero, Nat.sub_zero, List.dropLast_eq_take]
@[simp] theorem pySliceV_arr_to_neg_one (l : List PV) :
    pySliceV (.arr l) .none (.int (-1)) = .ok (.arr l.dropLast) := by
  simp only [pySliceV, boundOr_int, boundOr_none, pySlice_to_neg_one]
@[simp] theorem pySliceV_list_to_neg_one (l : List PV) :
    pySliceV (.list l) .none (.int (-1)) = .ok (.list l.dropLast) := by
  simp only [pySliceV, boundOr_int, boundOr_none, pySlice_to_neg_one]
@[simp] theorem pySliceV_str_to_neg_one (s : List Char) :
    pySliceV (.str s) .none (.int (-1)) = .ok (.str s.dropLast) := by
  simp only [pySliceV, boundOr_int, boundOr_none, pySlice_to_neg_one]

/-- `a[i] = x` where the item now at `i` is an integer (a row of a two-dimensional array would be
filled, a boolean item would stay boolean: `pySetItem`). -/
theorem pySetItem_arr_nat {l : List PV} {i : Nat} {k : Int} (hk : l[i]? = some (.int k)) (x : Int) :
    pySetItem (.arr l) (.int i) (.int x) = .ok (.arr (l.set i (.int x))) := by
  have h : i < l.length := (List.getElem?_eq_some_iff.mp hk).1
  unfold pySetItem pySetItemSeq
  simp only [asInt?_int, normIndex_natCast h, List.getD_eq_getElem?_getD, hk, Option.getD_some]
theorem pySetItem_arr_int {l : List PV} {i : Int} {k : Int} (h0 : 0 ≤ i) (hk : l[i.toNat]? = some (.int k))
    (x : Int) :
    pySetItem (.arr l) (.int i) (.int x) = .ok (.arr (l.set i.toNat (.int x))) := by
  have := pySetItem_arr_nat hk x
  rwa [Int.toNat_of_nonneg h0] at this
theorem pySetItem_ints_nat {l : List Int} {i : Nat} (h : i < (l.map PV.int).length) (x : Int) :
    pySetItem (.arr (l.map .int)) (.int i) (.int x) = .ok (.arr ((l.map .int).set i (.int x))) :=
  pySetItem_arr_nat (k := l[i]'(by rwa [List.length_map] at h))
    (by rw [List.getElem?_eq_getElem h, List.getElem_map]) x
theorem pySetItem_arr_of_ge {l : List PV} {i : Int} (h : (l.length : Int) ≤ i) (x : PV) :
    pySetItem (.arr l) (.int i) x = .error .indexError := by
  cases hx : x.asInt? with
  | none => simp only [pySetItem, pySetItemSeq, asInt?_int, hx, normIndex_of_ge h]
  | some n => simp only [pySetItem, asInt?_int, hx, normIndex_of_ge h]

/-- the two spellings of an embedded list of naturals. -/
theorem map_natCast_int (l : List Nat) :
    (l.map fun (n : Nat) => (n : Int)).map PV.int = l.map fun (n : Nat) => PV.int (n : Int) :=
  List.map_map

theorem pyIndex_ints_nat {l : List Int} {i : Nat} (h : i < l.length) :
    pyIndex (.arr (l.map .int)) (.int i) = .ok (.int (l.getD i 0)) := by
  rw [pyIndex_arr_getD (by rwa [List.length_map]), getD_map _ h 0]
theorem pyIndex_ints_int {l : List Int} {i : Int} (h0 : 0 ≤ i) (h : i < l.length) :
    pyIndex (.arr (l.map .int)) (.int i) = .ok (.int (l.getD i.toNat 0)) := by
  rw [pyIndex_arr_int h0 (by rwa [List.length_map]), getD_map _ ((Int.toNat_lt h0).mpr h) 0]
theorem pyIndex_nats_nat {l : List Nat} {i : Nat} (h : i < l.length) :
    pyIndex (.arr (l.map fun (n : Nat) => .int (n : Int))) (.int i) = .ok (.int ((l.getD i 0 : Nat) : Int)) := by
  rw [pyIndex_arr_getD (by rwa [List.length_map]), getD_map _ h 0]
theorem pyIndex_nats_int {l : List Nat} {i : Int} (h0 : 0 ≤ i) (h : i < l.length) :
    pyIndex (.arr (l.map fun (n : Nat) => .int (n : Int))) (.int i) =
      .ok (.int ((l.getD i.toNat 0 : Nat) : Int)) := by
  rw [pyIndex_arr_int h0 (by rwa [List.length_map]), getD_map _ ((Int.toNat_lt h0).mpr h) 0]

/-- `used_indices[0]` with the literal `0`. -/
theorem pyIndex_nats_zero {l : List Nat} (h : 0 < l.length) :
    pyIndex (.arr (l.map fun (n : Nat) => .int (n : Int))) (.int 0) = .ok (.int ((l.getD 0 0 : Nat) : Int)) :=
  pyIndex_nats_nat (i := 0) h
theorem pyIndex_nats_of_ge {l : List Nat} {i : Int} (h : (l.length : Int) ≤ i) :
    pyIndex (.arr (l.map fun (n : Nat) => .int (n : Int))) (.int i) = .error .indexError :=
  pyIndex_arr_of_ge (by rwa [List.length_map])

theorem mapM_asInt?_cons (x : PV) (xs : List PV) :
    (x :: xs).mapM PV.asInt? = (x.asInt?).bind fun k => (xs.mapM PV.asInt?).bind fun ks => some (k :: ks) := by
  simp [List.mapM_cons]
theorem mapM_asInt?_ints (l : List Int) : (l.map PV.int).mapM PV.asInt? = some l := by
  induction l with
  | nil => rfl
  | cons x xs ih => simp [List.mapM_cons, ih]
theorem mapM_asInt?_nats (l : List Nat) :
    (l.map fun (n : Nat) => PV.int (n : Int)).mapM PV.asInt? = some (l.map fun (n : Nat) => (n : Int)) := by
  rw [← map_natCast_int, mapM_asInt?_ints]
theorem mapM_asInt?_bools (l : List Bool) :
    (l.map PV.bool).mapM PV.asInt? = some (l.map fun b => if b then 1 else 0) := by
  induction l with
  | nil => rfl
  | cons x xs ih => simp [List.mapM_cons, ih]

theorem foldl_add_shift (l : List Int) (a : Int) : l.foldl (· + ·) a = a + l.foldl (· + ·) 0 := by
  induction l generalizing a with
  | nil => exact (Int.add_zero a).symm
  | cons x xs ih => rw [List.foldl_cons, List.foldl_cons, ih (a + x), ih (0 + x), Int.zero_add, Int.add_assoc]
theorem foldl_add_shift_nat (l : List Nat) (a : Nat) : l.foldl (· + ·) a = a + l.foldl (· + ·) 0 := by
  induction l generalizing a with
  | nil => exact (Nat.add_zero a).symm
  | cons x xs ih => rw [List.foldl_cons, List.foldl_cons, ih (a + x), ih (0 + x), Nat.zero_add, Nat.add_assoc]
theorem foldl_add_natCast (l : List Nat) (a : Nat) :
    (l.map fun (n : Nat) => (n : Int)).foldl (· + ·) (a : Int) = ((l.foldl (· + ·) a : Nat) : Int) := by
  induction l generalizing a with
  | nil => rfl
  | cons x xs ih =>
    rw [List.map_cons, List.foldl_cons, List.foldl_cons, ← ih (a + x)]; push_cast; rfl

/-- one cell of a mask (`vertices` of `connect_coding_graph` / `connect_valid_graph`): a NumPy bool, or a 0/1
integer. -/
def cellPV (asInt : Bool) (b : Bool) : PV := if asInt then .int (if b then 1 else 0) else .bool b

@[simp] theorem asInt?_cellPV (ai b : Bool) : (cellPV ai b).asInt? = some (if b then 1 else 0) := by
  cases ai <;> rfl

@[simp] theorem truthy_cellPV (ai b : Bool) : (cellPV ai b).truthy = b := by
  cases ai <;> cases b <;> rfl

theorem mapM_asInt?_cells (ai : Bool) (l : List Bool) :
    (l.map (cellPV ai)).mapM PV.asInt? = some (l.map fun b => if b then (1 : Int) else 0) := by
  induction l with
  | nil => rfl
  | cons x xs ih => simp [List.mapM_cons, ih]

/-- `numpy.sum` of a boolean array counts the `True` cells. -/
theorem foldl_bools (l : List Bool) :
    (l.map fun b => if b then (1 : Int) else 0).foldl (· + ·) 0 = ((l.filter id).length : Int) := by
  induction l with
  | nil => rfl
  | cons x xs ih =>
    rw [List.map_cons, List.foldl_cons, foldl_add_shift, ih]
    cases x
    · exact Int.zero_add _
    · rw [Int.add_comm]; rfl

theorem npSum_ints (l : List Int) : npSum (.arr (l.map .int)) = .ok (.int (l.foldl (· + ·) 0)) := by
  simp only [npSum, mapM_asInt?_ints]
theorem npSum_nats (l : List Nat) :
    npSum (.arr (l.map fun (n : Nat) => .int (n : Int))) = .ok (.int ((l.foldl (· + ·) 0 : Nat) : Int)) := by
  simp only [npSum, mapM_asInt?_nats]
  exact congrArg (fun z => Except.ok (PV.int z)) (foldl_add_natCast l 0)
theorem npSum_list_nats (l : List Nat) : npSum (natsPV l) = .ok (.int ((l.foldl (· + ·) 0 : Nat) : Int)) := by
  simp only [npSum, natsPV, mapM_asInt?_nats]
  exact congrArg (fun z => Except.ok (PV.int z)) (foldl_add_natCast l 0)
@[simp] theorem npSum_arr_nil : npSum (.arr []) = .ok (.int 0) := rfl
/-- one more integer in front (for inductions over an array built item by item, e.g. `trueIdx`). -/
theorem npSum_arr_cons_int {l : List PV} {s : Int} (i : Int) (h : npSum (.arr l) = .ok (.int s)) :
    npSum (.arr (.int i :: l)) = .ok (.int (i + s)) := by
  simp only [npSum] at h ⊢
  cases hl : l.mapM PV.asInt? with
  | none => rw [hl] at h; cases h
  | some ks =>
    rw [hl] at h
    injection h with h; injection h with h
    simp only [List.mapM_cons, asInt?_int, hl]
    show Except.ok (PV.int ((i :: ks).foldl (· + ·) 0)) = _
    rw [List.foldl_cons, foldl_add_shift, h]; simp

theorem npArgsort_ints (ks : List Int) :
    npArgsort (.arr (ks.map .int)) = .ok (.arr ((Dsw.argsort ks).map fun (i : Nat) => .int (i : Int))) := by
  simp only [npArgsort, mapM_asInt?_ints]

theorem mapM'_npArrayItem_ints (l : List Int) : mapM' npArrayItem (l.map .int) = .ok (l.map .int) :=
  (mapM'_map (emb := PV.int) (g := PV.int) (fun _ _ => rfl))
theorem npArray_list_ints (l : List Int) : npArray (.list (l.map .int)) = .ok (.arr (l.map .int)) := by
  simp only [npArray, mapM'_npArrayItem_ints, R_map_ok]
theorem npArray_list_nats (l : List Nat) :
    npArray (.list (l.map fun (n : Nat) => .int (n : Int))) = .ok (.arr (l.map fun (n : Nat) => .int (n : Int))) := by
  rw [← map_natCast_int, npArray_list_ints]
theorem npArray_natsPV (l : List Nat) : npArray (natsPV l) = .ok (bitsPV l) := npArray_list_nats l
@[simp] theorem npArray_arr (l : List PV) : npArray (.arr l) = .ok (.arr l) := rfl
theorem npArray_list_lists (ls : List (List Int)) :
    npArray (.list (ls.map fun l => .list (l.map .int))) = .ok (.arr (ls.map fun l => .arr (l.map .int))) := by
  simp only [npArray]
  rw [mapM'_map (f := npArrayItem) (emb := fun (l : List Int) => PV.list (l.map .int))
    (g := fun (l : List Int) => PV.arr (l.map .int)) (fun _ _ => rfl)]; rfl

theorem npZeros_tup_nat (n : Nat) :
    npZeros (.tup [.int (n : Int)]) = .ok (.arr (List.replicate n (.int 0))) := by
  simp only [npZeros, if_neg (Int.not_lt.mpr (Int.natCast_nonneg n)), Int.toNat_natCast]
theorem npZeros_nat (n : Nat) : npZeros (.int (n : Int)) = .ok (.arr (List.replicate n (.int 0))) := by
  simp only [npZeros, if_neg (Int.not_lt.mpr (Int.natCast_nonneg n)), Int.toNat_natCast]
/-- `numpy.zeros(shape=(L,), dtype=int)` as a bit array. -/
theorem npZeros_bitsPV (n : Nat) : npZeros (.tup [.int (n : Int)]) = .ok (bitsPV (List.replicate n 0)) := by
  rw [npZeros_tup_nat]; simp [bitsPV]

theorem bitsPV_def (bits : List Nat) : bitsPV bits = .arr (bits.map fun (b : Nat) => .int (b : Int)) := rfl
@[simp] theorem pyLen_bitsPV (bits : List Nat) : pyLen (bitsPV bits) = .ok (.int bits.length) := by
  simp [bitsPV]
@[simp] theorem pyIter_bitsPV (bits : List Nat) :
    pyIter (bitsPV bits) = .ok (bits.map fun (b : Nat) => .int (b : Int)) := rfl
theorem pyIndex_bitsPV {bits : List Nat} {i : Nat} (h : i < bits.length) :
    pyIndex (bitsPV bits) (.int i) = .ok (.int ((bits.getD i 0 : Nat) : Int)) := pyIndex_nats_nat h
theorem pyIndex_bitsPV_int {bits : List Nat} {i : Int} (h0 : 0 ≤ i) (h : i < bits.length) :
    pyIndex (bitsPV bits) (.int i) = .ok (.int ((bits.getD i.toNat 0 : Nat) : Int)) := pyIndex_nats_int h0 h
theorem pyIndex_bitsPV_of_ge {bits : List Nat} {i : Int} (h : (bits.length : Int) ≤ i) :
    pyIndex (bitsPV bits) (.int i) = .error .indexError := pyIndex_arr_of_ge (by rwa [List.length_map])
theorem pySetItem_bitsPV {bits : List Nat} {i : Nat} (h : i < bits.length) (b : Nat) :
    pySetItem (bitsPV bits) (.int i) (.int b) = .ok (bitsPV (bits.set i b)) := by
  rw [bitsPV, bitsPV, List.map_set]
  exact pySetItem_arr_nat (k := (bits[i] : Nat)) (by rw [List.getElem?_map, List.getElem?_eq_getElem h]; rfl) b
theorem pySetItem_bitsPV_int {bits : List Nat} {i : Int} (h0 : 0 ≤ i) (h : i < bits.length) (b : Nat) :
    pySetItem (bitsPV bits) (.int i) (.int b) = .ok (bitsPV (bits.set i.toNat b)) := by
  have := pySetItem_bitsPV ((Int.toNat_lt h0).mpr h) b
  rwa [Int.toNat_of_nonneg h0] at this
theorem pySetItem_bitsPV_of_ge {bits : List Nat} {i : Int} (h : (bits.length : Int) ≤ i) (x : PV) :
    pySetItem (bitsPV bits) (.int i) x = .error .indexError := pySetItem_arr_of_ge (by rwa [List.length_map]) x

@[simp] theorem arrZip_nil (f : PV → PV → RV) : arrZip f [] [] = .ok [] := rfl
theorem arrZip_cons (f : PV → PV → RV) (x y : PV) (xs ys : List PV) :
    arrZip f (x :: xs) (y :: ys) = bnd (f x y) fun z => bnd (arrZip f xs ys) fun zs => .ok (z :: zs) := by
  rw [arrZip]
  cases f x y with
  | error e => rfl
  | ok z => cases arrZip f xs ys <;> rfl
@[simp] theorem arrZip_nil_cons (f : PV → PV → RV) (y : PV) (ys : List PV) :
    arrZip f [] (y :: ys) = .error .valueError := rfl
@[simp] theorem arrZip_cons_nil (f : PV → PV → RV) (x : PV) (xs : List PV) :
    arrZip f (x :: xs) [] = .error .valueError := rfl
theorem arrZip_map {α β} {f : PV → PV → RV} {ea : α → PV} {eb : β → PV} {g : α → β → PV}
    (h : ∀ a b, f (ea a) (eb b) = .ok (g a b)) {xs : List α} {ys : List β} (hl : xs.length = ys.length) :
    arrZip f (xs.map ea) (ys.map eb) = .ok (List.zipWith g xs ys) := by
  induction xs generalizing ys with
  | nil => cases ys with
    | nil => rfl
    | cons y ys => cases hl
  | cons x xs ih => cases ys with
    | nil => cases hl
    | cons y ys =>
      rw [List.map_cons, List.map_cons, arrZip_cons, h x y, ih (Nat.succ.inj hl)]; rfl
/-- shapes that do not broadcast: `ValueError` (when no elementwise operation fails first). -/
theorem arrZip_map_length_ne {α β} {f : PV → PV → RV} {ea : α → PV} {eb : β → PV} {g : α → β → PV}
    (h : ∀ a b, f (ea a) (eb b) = .ok (g a b)) {xs : List α} {ys : List β} (hl : xs.length ≠ ys.length) :
    arrZip f (xs.map ea) (ys.map eb) = .error .valueError := by
  induction xs generalizing ys with
  | nil => cases ys with
    | nil => exact absurd rfl hl
    | cons y ys => rfl
  | cons x xs ih => cases ys with
    | nil => rfl
    | cons y ys =>
      rw [List.map_cons, List.map_cons, arrZip_cons, h x y, ih fun e => hl (congrArg Nat.succ e)]; rfl

@[simp] theorem arrBroadcast_arr_arr (f : PV → PV → RV) (xs ys : List PV) :
    arrBroadcast f (.arr xs) (.arr ys) = (arrZip f xs ys).map .arr := rfl
@[simp] theorem arrBroadcast_arr_int (f : PV → PV → RV) (xs : List PV) (b : Int) :
    arrBroadcast f (.arr xs) (.int b) = (mapM' (fun x => f x (.int b)) xs).map .arr := rfl
@[simp] theorem arrBroadcast_int_arr (f : PV → PV → RV) (a : Int) (ys : List PV) :
    arrBroadcast f (.int a) (.arr ys) = (mapM' (fun y => f (.int a) y) ys).map .arr := rfl
@[simp] theorem arrBroadcast_int_int (f : PV → PV → RV) (a b : Int) :
    arrBroadcast f (.int a) (.int b) = f (.int a) (.int b) := rfl

theorem arrBroadcast_map_map {α β} {f : PV → PV → RV} {ea : α → PV} {eb : β → PV} {g : α → β → PV}
    (h : ∀ a b, f (ea a) (eb b) = .ok (g a b)) {xs : List α} {ys : List β} (hl : xs.length = ys.length) :
    arrBroadcast f (.arr (xs.map ea)) (.arr (ys.map eb)) = .ok (.arr (List.zipWith g xs ys)) := by
  rw [arrBroadcast_arr_arr, arrZip_map h hl]; rfl
theorem arrBroadcast_map_int {α} {f : PV → PV → RV} {ea : α → PV} {b : Int} {g : α → PV}
    (h : ∀ a, f (ea a) (.int b) = .ok (g a)) (xs : List α) :
    arrBroadcast f (.arr (xs.map ea)) (.int b) = .ok (.arr (xs.map g)) := by
  rw [arrBroadcast_arr_int, mapM'_map (fun a _ => h a)]; rfl
theorem arrBroadcast_int_map {β} {f : PV → PV → RV} {eb : β → PV} {a : Int} {g : β → PV}
    (h : ∀ b, f (.int a) (eb b) = .ok (g b)) (ys : List β) :
    arrBroadcast f (.int a) (.arr (ys.map eb)) = .ok (.arr (ys.map g)) := by
  rw [arrBroadcast_int_arr, mapM'_map (fun b _ => h b)]; rfl

@[simp] theorem npSub_int (a b : Int) : npSub (.int a) (.int b) = .ok (.int (a - b)) := rfl
@[simp] theorem npAdd_int (a b : Int) : npAdd (.int a) (.int b) = .ok (.int (a + b)) := rfl
@[simp] theorem npMul_int (a b : Int) : npMul (.int a) (.int b) = .ok (.int (a * b)) := rfl
/-- `dna_sequence + nucleotide`. -/
@[simp] theorem npAdd_str (s t : List Char) : npAdd (.str s) (.str t) = .ok (.str (s ++ t)) := rfl
@[simp] theorem npAdd_list (s t : List PV) : npAdd (.list s) (.list t) = .ok (.list (s ++ t)) := rfl
theorem npSub_nat {a b : Nat} (h : b ≤ a) : npSub (.int a) (.int b) = .ok (.int ((a - b : Nat) : Int)) :=
  pySub_nat h
theorem npSub_nat_one {a : Nat} (h : 1 ≤ a) : npSub (.int a) (.int 1) = .ok (.int ((a - 1 : Nat) : Int)) :=
  npSub_nat (b := 1) h
theorem npAdd_nat (a b : Nat) : npAdd (.int a) (.int b) = .ok (.int ((a + b : Nat) : Int)) := pyAdd_nat a b
theorem npMul_nat (a b : Nat) : npMul (.int a) (.int b) = .ok (.int ((a * b : Nat) : Int)) := pyMul_nat a b
/-- the literals of the generated code (`location + 1`, `location + 2`, `bit * 2`). -/
theorem npAdd_nat_one (a : Nat) : npAdd (.int a) (.int 1) = .ok (.int ((a + 1 : Nat) : Int)) := npAdd_nat a 1
theorem npAdd_nat_two (a : Nat) : npAdd (.int a) (.int 2) = .ok (.int ((a + 2 : Nat) : Int)) := npAdd_nat a 2
theorem npMul_nat_two (a : Nat) : npMul (.int a) (.int 2) = .ok (.int ((a * 2 : Nat) : Int)) := npMul_nat a 2

theorem npSub_ints_ints {xs ys : List Int} (hl : xs.length = ys.length) :
    npSub (.arr (xs.map .int)) (.arr (ys.map .int)) = .ok (.arr ((List.zipWith (· - ·) xs ys).map .int)) := by
  rw [npSub, arrBroadcast_map_map (g := fun a b => PV.int (a - b)) (fun _ _ => rfl) hl, List.map_zipWith]
theorem npAdd_ints_ints {xs ys : List Int} (hl : xs.length = ys.length) :
    npAdd (.arr (xs.map .int)) (.arr (ys.map .int)) = .ok (.arr ((List.zipWith (· + ·) xs ys).map .int)) := by
  rw [npAdd, arrBroadcast_map_map (g := fun a b => PV.int (a + b)) (fun _ _ => rfl) hl, List.map_zipWith]
theorem npMul_ints_ints {xs ys : List Int} (hl : xs.length = ys.length) :
    npMul (.arr (xs.map .int)) (.arr (ys.map .int)) = .ok (.arr ((List.zipWith (· * ·) xs ys).map .int)) := by
  rw [npMul, arrBroadcast_map_map (g := fun a b => PV.int (a * b)) (fun _ _ => rfl) hl, List.map_zipWith]
/-- the same on embedded naturals (the difference is an integer). -/
theorem npSub_nats_nats {xs ys : List Nat} (hl : xs.length = ys.length) :
    npSub (.arr (xs.map fun (n : Nat) => .int (n : Int))) (.arr (ys.map fun (n : Nat) => .int (n : Int))) =
      .ok (.arr ((List.zipWith (fun (a b : Nat) => (a : Int) - (b : Int)) xs ys).map .int)) := by
  rw [npSub, arrBroadcast_map_map (g := fun (a b : Nat) => PV.int ((a : Int) - (b : Int))) (fun _ _ => rfl) hl,
    List.map_zipWith]
theorem npSub_ints_int (xs : List Int) (b : Int) :
    npSub (.arr (xs.map .int)) (.int b) = .ok (.arr ((xs.map (· - b)).map .int)) := by
  rw [npSub, arrBroadcast_map_int (g := fun a => PV.int (a - b)) (fun _ => rfl), List.map_map]; rfl
theorem npAdd_ints_int (xs : List Int) (b : Int) :
    npAdd (.arr (xs.map .int)) (.int b) = .ok (.arr ((xs.map (· + b)).map .int)) := by
  rw [npAdd, arrBroadcast_map_int (g := fun a => PV.int (a + b)) (fun _ => rfl), List.map_map]; rfl
theorem npMul_ints_int (xs : List Int) (b : Int) :
    npMul (.arr (xs.map .int)) (.int b) = .ok (.arr ((xs.map (· * b)).map .int)) := by
  rw [npMul, arrBroadcast_map_int (g := fun a => PV.int (a * b)) (fun _ => rfl), List.map_map]; rfl

@[simp] theorem liftCmp_def (c : PV → PV → R Bool) (a b : PV) : liftCmp c a b = (c a b).map .bool := rfl
/-- on an integer / boolean item of an array `cmpItem` is `liftCmp` (only a row broadcasts once more). -/
@[simp] theorem cmpItem_int (c : PV → PV → R Bool) (a : Int) (y : PV) :
    cmpItem c (.int a) y = liftCmp c (.int a) y := rfl
@[simp] theorem cmpItem_bool (c : PV → PV → R Bool) (a : Bool) (y : PV) :
    cmpItem c (.bool a) y = liftCmp c (.bool a) y := rfl
@[simp] theorem cmpItem_str (c : PV → PV → R Bool) (a : List Char) (y : PV) :
    cmpItem c (.str a) y = liftCmp c (.str a) y := rfl
@[simp] theorem npCmp_int_int (c : PV → PV → R Bool) (a b : Int) :
    npCmp c (.int a) (.int b) = (c (.int a) (.int b)).map .bool := rfl
@[simp] theorem npCmp_str_str (c : PV → PV → R Bool) (s t : List Char) :
    npCmp c (.str s) (.str t) = (c (.str s) (.str t)).map .bool := rfl
theorem npCmp_pyGt_nat (a b : Nat) : npCmp pyGt (.int a) (.int b) = .ok (.bool (decide (b < a))) := by simp
/-- `radix > 1` with the literal `1`. -/
theorem npCmp_pyGt_nat_one (a : Nat) : npCmp pyGt (.int a) (.int 1) = .ok (.bool (decide (1 < a))) :=
  npCmp_pyGt_nat a 1

theorem npCmp_ints_int {c : PV → PV → R Bool} {b : Int} {p : Int → Bool}
    (h : ∀ x, c (.int x) (.int b) = .ok (p x)) (xs : List Int) :
    npCmp c (.arr (xs.map .int)) (.int b) = .ok (.arr (xs.map fun x => .bool (p x))) := by
  rw [npCmp, arrBroadcast_map_int (g := fun x => PV.bool (p x))]
  intro x; rw [cmpItem_int, liftCmp_def, h]; rfl
theorem npCmp_nats_int {c : PV → PV → R Bool} {b : Int} {p : Nat → Bool}
    (h : ∀ x : Nat, c (.int x) (.int b) = .ok (p x)) (xs : List Nat) :
    npCmp c (.arr (xs.map fun (n : Nat) => .int (n : Int))) (.int b) = .ok (.arr (xs.map fun x => .bool (p x))) := by
  rw [npCmp, arrBroadcast_map_int (g := fun x => PV.bool (p x))]
  intro x; rw [cmpItem_int, liftCmp_def, h]; rfl
theorem npCmp_pyGe_ints_int (xs : List Int) (b : Int) :
    npCmp pyGe (.arr (xs.map .int)) (.int b) = .ok (.arr (xs.map fun x => .bool (decide (b ≤ x)))) :=
  npCmp_ints_int (fun _ => rfl) xs
theorem npCmp_pyGt_ints_int (xs : List Int) (b : Int) :
    npCmp pyGt (.arr (xs.map .int)) (.int b) = .ok (.arr (xs.map fun x => .bool (decide (b < x)))) :=
  npCmp_ints_int (fun _ => rfl) xs
theorem npCmp_pyLe_ints_int (xs : List Int) (b : Int) :
    npCmp pyLe (.arr (xs.map .int)) (.int b) = .ok (.arr (xs.map fun x => .bool (decide (x ≤ b)))) :=
  npCmp_ints_int (fun _ => rfl) xs
theorem npCmp_pyLt_ints_int (xs : List Int) (b : Int) :
    npCmp pyLt (.arr (xs.map .int)) (.int b) = .ok (.arr (xs.map fun x => .bool (decide (x < b)))) :=
  npCmp_ints_int (fun _ => rfl) xs
theorem npCmp_pyEq_ints_int (xs : List Int) (b : Int) :
    npCmp pyEq (.arr (xs.map .int)) (.int b) = .ok (.arr (xs.map fun x => .bool (x == b))) :=
  npCmp_ints_int (fun x => by simp) xs
/-- `argsort(...) == position` on embedded naturals. -/
theorem npCmp_pyEq_nats_nat (xs : List Nat) (b : Nat) :
    npCmp pyEq (.arr (xs.map fun (n : Nat) => .int (n : Int))) (.int b) =
      .ok (.arr (xs.map fun x => .bool (x == b))) :=
  npCmp_nats_int (fun x => by rw [pyEq_def, eqb_int, natCast_beq]) xs

@[simp] theorem trueIdx_nil (i : Nat) : trueIdx [] i = [] := rfl
theorem trueIdx_cons (x : PV) (xs : List PV) (i : Nat) :
    trueIdx (x :: xs) i = if x.truthy then .int i :: trueIdx xs (i + 1) else trueIdx xs (i + 1) := rfl
@[simp] theorem trueIdx_cons_bool (b : Bool) (xs : List PV) (i : Nat) :
    trueIdx (.bool b :: xs) i = if b then .int i :: trueIdx xs (i + 1) else trueIdx xs (i + 1) := rfl

/-- `where` of a one-dimensional array (no item is a row). -/
@[simp] theorem npWhere_arr {l : List PV} (h : l.any PV.isArr = false) :
    npWhere (.arr l) = .ok (.tup [.arr (trueIdx l 0)]) := by
  simp only [npWhere, h, Bool.false_eq_true, if_false]
/-- … of an array of bools computed from a list (the shape every comparison produces). -/
@[simp] theorem npWhere_arr_map_bool {α} (p : α → Bool) (l : List α) :
    npWhere (.arr (l.map fun x => .bool (p x))) = .ok (.tup [.arr (trueIdx (l.map fun x => .bool (p x)) 0)]) :=
  npWhere_arr (any_isArr_map_bool p l)
@[simp] theorem npWhere_arr_map_bool' (l : List Bool) :
    npWhere (.arr (l.map .bool)) = .ok (.tup [.arr (trueIdx (l.map .bool) 0)]) :=
  npWhere_arr (any_isArr_map_bool' l)
/-- `where(cond)[0]`. -/
theorem npWhere_zero {l : List PV} (h : l.any PV.isArr = false) :
    (bnd (npWhere (.arr l)) fun t => pyIndex t (.int 0)) = .ok (.arr (trueIdx l 0)) := by
  rw [npWhere_arr h]; rfl

theorem trueIdx_eq_filter_range {l : List PV} (q : Nat → Bool)
    (hq : ∀ (j : Nat) (h : j < l.length), l[j].truthy = q j) (i : Nat) :
    trueIdx l i = ((List.range l.length).filter q).map fun (j : Nat) => PV.int ((i + j : Nat) : Int) := by
  induction l generalizing q i with
  | nil => rfl
  | cons x xs ih =>
    have h0 : x.truthy = q 0 := hq 0 (Nat.zero_lt_succ _)
    have hm (L : List Nat) : L.map (fun j => PV.int ((i + 1 + j : Nat) : Int)) =
        (L.map Nat.succ).map fun j => PV.int ((i + j : Nat) : Int) := by
      rw [List.map_map]; exact List.map_congr_left fun j _ => by rw [Nat.add_assoc, Nat.add_comm 1]; rfl
    rw [trueIdx_cons, ih (fun j => q (j + 1)) (fun j h => hq (j + 1) (Nat.succ_lt_succ h)) (i + 1), h0,
      List.length_cons, List.range_succ_eq_map, List.filter_cons, List.filter_map, hm]
    cases q 0 <;> rfl
theorem trueIdx_map_bool {α} (p : α → Bool) (l : List α) (d : α) (i : Nat) :
    trueIdx (l.map fun x => .bool (p x)) i =
      ((List.range l.length).filter fun j => p (l.getD j d)).map fun (j : Nat) => PV.int ((i + j : Nat) : Int) := by
  rw [trueIdx_eq_filter_range (l := l.map fun x => PV.bool (p x)) (fun j => p (l.getD j d))
    (fun j h => by rw [List.getElem_map, getD_eq_getElem (by rwa [List.length_map] at h)]; rfl) i,
    List.length_map]
theorem npWhere_map_bool {α} (p : α → Bool) (l : List α) (d : α) :
    (bnd (npWhere (.arr (l.map fun x => .bool (p x)))) fun t => pyIndex t (.int 0)) =
      .ok (.arr (((List.range l.length).filter fun j => p (l.getD j d)).map fun (j : Nat) => PV.int (j : Int))) := by
  rw [npWhere_zero (any_isArr_map_bool p l), trueIdx_map_bool p l d 0]; simp

theorem idxOf_cons_ne {α} [BEq α] [LawfulBEq α] {x y : α} (l : List α) (h : x ≠ y) :
    (x :: l).idxOf y = l.idxOf y + 1 := by
  rw [List.idxOf_cons, beq_false_of_ne h]; rfl
/-- `where(arr == p)[0]` starts with the first position of `p`. -/
theorem trueIdx_beq_of_mem {l : List Nat} {p : Nat} (h : p ∈ l) (i : Nat) :
    ∃ rest, trueIdx (l.map fun x => .bool (x == p)) i = .int ((i + l.idxOf p : Nat) : Int) :: rest := by
  induction l generalizing i with
  | nil => cases h
  | cons x xs ih =>
    by_cases hx : x = p
    · subst hx
      exact ⟨trueIdx (xs.map fun y => .bool (y == x)) (i + 1), by
        rw [List.map_cons, trueIdx_cons_bool, beq_self_eq_true, if_pos rfl, List.idxOf_cons_self]; rfl⟩
    · obtain ⟨rest, hr⟩ := ih ((List.mem_cons.mp h).resolve_left fun e => hx e.symm) (i + 1)
      refine ⟨rest, ?_⟩
      rw [List.map_cons, trueIdx_cons_bool, beq_false_of_ne hx, hr, idxOf_cons_ne _ hx, Nat.add_assoc,
        Nat.add_comm 1]
      rfl
theorem trueIdx_beq_of_not_mem {l : List Nat} {p : Nat} (h : p ∉ l) (i : Nat) :
    trueIdx (l.map fun x => .bool (x == p)) i = [] := by
  induction l generalizing i with
  | nil => rfl
  | cons x xs ih =>
    have hx : x ≠ p := fun e => h (e ▸ List.mem_cons_self)
    rw [List.map_cons, trueIdx_cons_bool, beq_false_of_ne hx, ih fun hm => h (List.mem_cons_of_mem x hm)]; rfl
/-- the idiom `where(arr == p)[0][0]`: the first position of `p`. -/
theorem where_eq_first {l : List Nat} {p : Nat} (h : p ∈ l) :
    (bnd (bnd (bnd (npCmp pyEq (.arr (l.map fun (n : Nat) => .int (n : Int))) (.int p)) fun t => npWhere t)
        fun t => pyIndex t (.int 0)) fun t => pyIndex t (.int 0)) = .ok (.int ((l.idxOf p : Nat) : Int)) := by
  obtain ⟨rest, hr⟩ := trueIdx_beq_of_mem h 0
  rw [npCmp_pyEq_nats_nat]
  simp only [bnd_ok, npWhere_arr_map_bool, pyIndex_tup_cons_zero, hr, pyIndex_arr_cons_zero, Nat.zero_add]
/-- … `IndexError` when `p` does not occur. -/
theorem where_eq_first_of_not_mem {l : List Nat} {p : Nat} (h : p ∉ l) :
    (bnd (bnd (bnd (npCmp pyEq (.arr (l.map fun (n : Nat) => .int (n : Int))) (.int p)) fun t => npWhere t)
        fun t => pyIndex t (.int 0)) fun t => pyIndex t (.int 0)) = .error .indexError := by
  rw [npCmp_pyEq_nats_nat]
  simp only [bnd_ok, npWhere_arr_map_bool, pyIndex_tup_cons_zero, trueIdx_beq_of_not_mem h 0, pyIndex_arr_nil]

/-- a row of an accessor / of a shuffle table as the one-dimensional integer array the code sees. -/
def rowPV (r : Array Int) : PV := .arr (r.toList.map .int)

theorem accPV_eq (a : Acc) : accPV a = .arr (a.toList.map rowPV) := rfl
theorem tblPV_some (t : Tbl) : tblPV (some t) = accPV t := rfl
@[simp] theorem tblPV_none : tblPV Option.none = .none := rfl
@[simp] theorem pyLen_accPV (a : Acc) : pyLen (accPV a) = .ok (.int a.size) := by simp [accPV]
@[simp] theorem pyLen_rowPV (r : Array Int) : pyLen (rowPV r) = .ok (.int r.size) := by simp [rowPV]

/-- `Acc.row` normalises its index the way a subscript does. -/
theorem row_eq_normIndex (a : Acc) (v : Int) :
    a.row v = match normIndex a.size v with
              | some j => a.getD j #[]
              | Option.none => #[] := by
  simp only [Acc.row, normIndex]
  by_cases h : 0 ≤ (if v < 0 then v + (a.size : Int) else v) ∧ (if v < 0 then v + (a.size : Int) else v) < a.size
  · rw [if_pos h, if_pos h]
  · rw [if_neg h, if_neg h]
theorem row_of_nonneg {a : Acc} {v : Int} (h0 : 0 ≤ v) (hv : v < a.size) : a.row v = a.getD v.toNat #[] := by
  rw [row_eq_normIndex, normIndex_of_nonneg h0 hv]
theorem row_natCast {a : Acc} {v : Nat} (hv : v < a.size) : a.row (v : Int) = a.getD v #[] :=
  row_of_nonneg (Int.natCast_nonneg v) (Int.ofNat_lt.mpr hv)
theorem row_mem_toList {a : Acc} {v : Int} (h0 : 0 ≤ v) (hv : v < a.size) : a.row v ∈ a.toList := by
  have h : v.toNat < a.size := (Int.toNat_lt h0).mpr hv
  rw [row_of_nonneg h0 hv, Array.getD_eq_getD_getElem?, Array.getElem?_eq_getElem h, Option.getD_some]
  exact Array.mem_toList_iff.mpr (Array.getElem_mem h)

theorem getD_toList {α} (r : Array α) (j : Nat) (d : α) : r.toList.getD j d = r.getD j d := by
  rw [List.getD_eq_getElem?_getD, Array.getElem?_toList, ← Array.getD_eq_getD_getElem?]
/-- `accessor[v]` for any integer `v` (negative indices wrap once, as in `Acc.row`). -/
theorem pyIndex_accPV (a : Acc) (v : Int) :
    pyIndex (accPV a) (.int v) =
      if -(a.size : Int) ≤ v ∧ v < a.size then .ok (rowPV (a.row v)) else .error .indexError := by
  have hl : (a.toList.map rowPV).length = a.size := by rw [List.length_map, Array.length_toList]
  rw [accPV_eq, row_eq_normIndex]
  cases hn : normIndex a.size v with
  | none =>
    rw [pyIndex_arr_none (hl ▸ hn), if_neg]
    intro h; rw [normIndex_eq, if_pos h] at hn; cases hn
  | some j =>
    have hj : j < a.toList.length := by rw [Array.length_toList]; exact normIndex_lt hn
    rw [pyIndex_arr_some (hl ▸ hn), getD_map rowPV hj #[], if_pos, getD_toList]
    exact Decidable.by_contra fun h => by rw [normIndex_eq, if_neg h] at hn; cases hn
theorem pyIndex_accPV_of_nonneg {a : Acc} {v : Int} (h0 : 0 ≤ v) (hv : v < a.size) :
    pyIndex (accPV a) (.int v) = .ok (rowPV (a.row v)) := by
  rw [pyIndex_accPV, if_pos ⟨Int.le_trans (Int.neg_nonpos_of_nonneg (Int.natCast_nonneg _)) h0, hv⟩]
theorem pyIndex_accPV_nat {a : Acc} {v : Nat} (hv : v < a.size) :
    pyIndex (accPV a) (.int v) = .ok (rowPV (a.row v)) :=
  pyIndex_accPV_of_nonneg (Int.natCast_nonneg v) (Int.ofNat_lt.mpr hv)
theorem pyIndex_accPV_of_ge {a : Acc} {v : Int} (hv : (a.size : Int) ≤ v) :
    pyIndex (accPV a) (.int v) = .error .indexError := by
  rw [pyIndex_accPV, if_neg fun h => Int.not_lt.mpr hv h.2]

/-- `row[j]`. The default `d` is free: `-1` gives `Acc.ent`, `0` the keys of `Tbl.keys`. -/
theorem pyIndex_rowPV {r : Array Int} {j : Nat} (h : j < r.size) (d : Int) :
    pyIndex (rowPV r) (.int j) = .ok (.int (r.getD j d)) := by
  have hj : j < r.toList.length := by rwa [Array.length_toList]
  rw [rowPV, pyIndex_arr_getD (by rwa [List.length_map]), getD_map _ hj d, getD_toList]
theorem pyIndex_rowPV_int {r : Array Int} {j : Int} (h0 : 0 ≤ j) (h : j < r.size) (d : Int) :
    pyIndex (rowPV r) (.int j) = .ok (.int (r.getD j.toNat d)) := by
  have := pyIndex_rowPV (r := r) (j := j.toNat) ((Int.toNat_lt h0).mpr h) d
  rwa [Int.toNat_of_nonneg h0] at this
theorem pyIndex_rowPV_of_ge {r : Array Int} {j : Int} (h : (r.size : Int) ≤ j) :
    pyIndex (rowPV r) (.int j) = .error .indexError :=
  pyIndex_arr_of_ge (by rwa [List.length_map, Array.length_toList])
theorem pyIndex_row_ent {a : Acc} {v : Int} {j : Nat} (h : j < (a.row v).size) :
    pyIndex (rowPV (a.row v)) (.int j) = .ok (.int (a.ent v j)) := pyIndex_rowPV h (-1)

theorem _root_.Dsw.Acc.WF.row_size {a : Acc} (ha : a.WF) {v : Int} (h0 : 0 ≤ v) (hv : v < a.size) :
    (a.row v).size = 4 := by
  rw [row_of_nonneg h0 hv]; exact (ha v.toNat ((Int.toNat_lt h0).mpr hv)).1
theorem _root_.Dsw.Acc.WF.ent_cases {a : Acc} (ha : a.WF) {v : Int} (h0 : 0 ≤ v) (hv : v < a.size) {j : Nat}
    (hj : j < 4) : a.ent v j = -1 ∨ (0 ≤ a.ent v j ∧ a.ent v j < a.size) := by
  rw [Acc.ent, row_of_nonneg h0 hv]; exact (ha v.toNat ((Int.toNat_lt h0).mpr hv)).2 j hj
/-- the successor through a live column is a row index again (the loop invariant of the walks). -/
theorem _root_.Dsw.Acc.WF.ent_of_live {a : Acc} (ha : a.WF) {v : Int} (h0 : 0 ≤ v) (hv : v < a.size) {j : Nat}
    (hj : j ∈ a.live v) : 0 ≤ a.ent v j ∧ a.ent v j < a.size := by
  obtain ⟨h4, hge⟩ := (a.mem_live v j).1 hj
  rcases ha.ent_cases h0 hv h4 with h | h
  · omega
  · exact h
theorem _root_.Dsw.Acc.WF.ent_lt {a : Acc} (ha : a.WF) {v : Int} (h0 : 0 ≤ v) (hv : v < a.size) {j : Nat}
    (hj : j < 4) (hge : 0 ≤ a.ent v j) : a.ent v j < a.size := by
  rcases ha.ent_cases h0 hv hj with h | h
  · omega
  · exact h.2
theorem toList_of_size_four (r : Array Int) (h : r.size = 4) (d : Int) :
    r.toList = [r.getD 0 d, r.getD 1 d, r.getD 2 d, r.getD 3 d] := by
  obtain ⟨l⟩ := r
  match l, h with
  | [_, _, _, _], _ => rfl
theorem _root_.Dsw.Acc.WF.row_toList {a : Acc} (ha : a.WF) {v : Int} (h0 : 0 ≤ v) (hv : v < a.size) :
    (a.row v).toList = [a.ent v 0, a.ent v 1, a.ent v 2, a.ent v 3] :=
  toList_of_size_four _ (ha.row_size h0 hv) (-1)
theorem _root_.Dsw.Acc.WF.rowPV_eq {a : Acc} (ha : a.WF) {v : Int} (h0 : 0 ≤ v) (hv : v < a.size) :
    rowPV (a.row v) = .arr [.int (a.ent v 0), .int (a.ent v 1), .int (a.ent v 2), .int (a.ent v 3)] := by
  rw [rowPV, ha.row_toList h0 hv]; rfl

/-- the live columns as the array `used_indices`. -/
theorem live_eq_filter_row (a : Acc) (v : Int) :
    a.live v = (List.range 4).filter fun j => decide (0 ≤ [a.ent v 0, a.ent v 1, a.ent v 2, a.ent v 3].getD j 0) :=
  List.filter_congr fun j hj => by
    match j, List.mem_range.mp hj with
    | 0, _ | 1, _ | 2, _ | 3, _ => simp only [List.getD_cons_zero, List.getD_cons_succ, ge_iff_le]

/-- the idiom `where(accessor[v] >= 0)[0]`: the live columns `Acc.live a v`. -/
theorem where_row_ge_zero {a : Acc} (ha : a.WF) {v : Int} (h0 : 0 ≤ v) (hv : v < a.size) :
    (bnd (bnd (bnd (pyIndex (accPV a) (.int v)) fun t => npCmp pyGe t (.int 0)) fun t => npWhere t)
        fun t => pyIndex t (.int 0)) = .ok (.arr ((a.live v).map fun (j : Nat) => .int (j : Int))) := by
  rw [pyIndex_accPV_of_nonneg h0 hv, bnd_ok, rowPV, ha.row_toList h0 hv, npCmp_pyGe_ints_int, bnd_ok,
    npWhere_map_bool (fun x => decide ((0 : Int) ≤ x)) _ 0, live_eq_filter_row]
  rfl
theorem acc_index_index {a : Acc} (ha : a.WF) {v : Int} (h0 : 0 ≤ v) (hv : v < a.size) {j : Nat} (hj : j < 4) :
    (bnd (pyIndex (accPV a) (.int v)) fun t => pyIndex t (.int j)) = .ok (.int (a.ent v j)) := by
  rw [pyIndex_accPV_of_nonneg h0 hv, bnd_ok, pyIndex_row_ent (by rw [ha.row_size h0 hv]; exact hj)]
theorem npIndex2_accPV_int {a : Acc} {v : Int} (h0 : 0 ≤ v) (hv : v < a.size) {j : Nat}
    (hj : j < (a.row v).size) : npIndex2 (accPV a) (.int v) (.int j) = .ok (.int (a.ent v j)) := by
  simp only [npIndex2, pyIndex_accPV_of_nonneg h0 hv, pyIndex_row_ent hj]

/-- `shuffles[v, used_indices]` (gather): the keys `Tbl.keys`. -/
theorem npIndex2_accPV_arr {t : Tbl} {v : Int} (h0 : 0 ≤ v) (hv : v < t.size) {used : List Nat}
    (hu : ∀ j ∈ used, j < (Acc.row t v).size) :
    npIndex2 (accPV t) (.int v) (.arr (used.map fun (j : Nat) => .int (j : Int))) =
      .ok (.arr ((t.keys v used).map .int)) := by
  simp only [npIndex2, pyIndex_accPV_of_nonneg h0 hv]
  rw [mapM'_map (g := fun j => PV.int ((Acc.row t v).getD j 0)) (fun j hj => pyIndex_rowPV (hu j hj) 0),
    R_map_ok, Tbl.keys, List.map_map]
  rfl
theorem _root_.Dsw.Tie.TblOK.lt_size {t : Tbl} {a : Acc} (ht : TblOK (some t) a) {v : Int} (hv : v < a.size) :
    v < t.size := by
  exact Int.lt_of_lt_of_le hv (Int.ofNat_le.mpr (ht t rfl).1)
theorem _root_.Dsw.Tie.TblOK.row_size {t : Tbl} {a : Acc} (ht : TblOK (some t) a) {v : Int} (h0 : 0 ≤ v)
    (hv : v < a.size) : (Acc.row t v).size = 4 :=
  (ht t rfl).2 _ (row_mem_toList h0 (ht.lt_size hv))
theorem TblOK_none (a : Acc) : TblOK Option.none a := fun _ h => by cases h

theorem shuffles_gather {t : Tbl} {a : Acc} (ht : TblOK (some t) a) {v : Int} (h0 : 0 ≤ v) (hv : v < a.size)
    {used : List Nat} (hu : ∀ j ∈ used, j < 4) :
    npIndex2 (tblPV (some t)) (.int v) (.arr (used.map fun (j : Nat) => .int (j : Int))) =
      .ok (.arr ((t.keys v used).map .int)) :=
  npIndex2_accPV_arr h0 (ht.lt_size hv) (fun j hj => by rw [ht.row_size h0 hv]; exact hu j hj)
/-- the idiom `argsort(shuffles[v, used_indices])`. -/
theorem shuffles_argsort {t : Tbl} {a : Acc} (ht : TblOK (some t) a) {v : Int} (h0 : 0 ≤ v) (hv : v < a.size)
    {used : List Nat} (hu : ∀ j ∈ used, j < 4) :
    (bnd (npIndex2 (tblPV (some t)) (.int v) (.arr (used.map fun (j : Nat) => .int (j : Int)))) fun k => npArgsort k) =
      .ok (.arr ((argsort (t.keys v used)).map fun (i : Nat) => .int (i : Int))) := by
  rw [shuffles_gather ht h0 hv hu, bnd_ok, npArgsort_ints]
/-- the idiom `argsort(shuffles[v, used_indices])[d]`: `digitToPos`. -/
theorem shuffles_digitToPos {t : Tbl} {a : Acc} (ht : TblOK (some t) a) {v : Int} (h0 : 0 ≤ v) (hv : v < a.size)
    {used : List Nat} (hu : ∀ j ∈ used, j < 4) {d : Nat} (hd : d < used.length) :
    (bnd (bnd (npIndex2 (tblPV (some t)) (.int v) (.arr (used.map fun (j : Nat) => .int (j : Int))))
        fun k => npArgsort k) fun k => pyIndex k (.int d)) =
      .ok (.int ((digitToPos (some t) v used d : Nat) : Int)) := by
  rw [shuffles_argsort ht h0 hv hu, bnd_ok,
    pyIndex_nats_nat (by rw [argsort_length, keys_length]; exact hd)]
  rfl
/-- the idiom `where(argsort(shuffles[v, used_indices]) == p)[0][0]`: `posToDigit`. -/
theorem shuffles_posToDigit {t : Tbl} {a : Acc} (ht : TblOK (some t) a) {v : Int} (h0 : 0 ≤ v) (hv : v < a.size)
    {used : List Nat} (hu : ∀ j ∈ used, j < 4) {p : Nat} (hp : p < used.length) :
    (bnd (bnd (bnd (bnd (bnd (npIndex2 (tblPV (some t)) (.int v) (.arr (used.map fun (j : Nat) => .int (j : Int))))
        fun k => npArgsort k) fun k => npCmp pyEq k (.int p)) fun k => npWhere k) fun k => pyIndex k (.int 0))
        fun k => pyIndex k (.int 0)) =
      .ok (.int ((posToDigit (some t) v used p : Nat) : Int)) := by
  rw [shuffles_argsort ht h0 hv hu, bnd_ok,
    where_eq_first ((mem_argsort _ _).2 (by rw [keys_length]; exact hp))]
  rfl

@[simp] theorem pyIsNone_none : pyIsNone .none = true := rfl
@[simp] theorem pyIsNone_int (i : Int) : pyIsNone (.int i) = false := rfl
@[simp] theorem pyIsNone_str (s : List Char) : pyIsNone (.str s) = false := rfl
@[simp] theorem pyIsNone_list (l : List PV) : pyIsNone (.list l) = false := rfl
@[simp] theorem pyIsNone_tup (l : List PV) : pyIsNone (.tup l) = false := rfl
@[simp] theorem pyIsNone_bool (b : Bool) : pyIsNone (.bool b) = false := rfl
@[simp] theorem pyIsNone_arr (l : List PV) : pyIsNone (.arr l) = false := rfl
@[simp] theorem pyIsNone_accPV (a : Acc) : pyIsNone (accPV a) = false := rfl
@[simp] theorem pyIsNone_bitsPV (l : List Nat) : pyIsNone (bitsPV l) = false := rfl
/-- `shuffles is not None`. -/
theorem pyIsNone_tblPV (tbl : Option Tbl) : pyIsNone (tblPV tbl) = tbl.isNone := by cases tbl <;> rfl
/-- `vt_check is not None`. -/
theorem pyIsNone_chkPV (chk : Option (List Char)) : pyIsNone (chkPV chk) = chk.isNone := by cases chk <;> rfl
@[simp] theorem chkPV_none : chkPV Option.none = .none := rfl
@[simp] theorem chkPV_some (c : List Char) : chkPV (some c) = .str c := rfl

theorem eqb_char_str (c d : Char) : PV.eqb (.str [c]) (.str [d]) = decide (c = d) := by
  rw [eqb_str, Bool.eq_iff_iff, beq_iff_eq, decide_eq_true_iff, List.singleton_inj]
theorem nucIdx_nucChar {j : Nat} (h : j < 4) : nucIdx (nucChar j) = some j := Dsw.nucIdx_nucChar j h
theorem nucChar_inj {i j : Nat} (hi : i < 4) (hj : j < 4) : nucChar i = nucChar j ↔ i = j := by
  constructor
  · intro h
    have := congrArg nucIdx h
    rw [nucIdx_nucChar hi, nucIdx_nucChar hj] at this
    exact Option.some.inj this
  · intro h; rw [h]
theorem nucChar_ne_of_nucIdx_none {c : Char} (h : nucIdx c = Option.none) {j : Nat} (hj : j < 4) :
    nucChar j ≠ c := by
  intro he; rw [← he, nucIdx_nucChar hj] at h; cases h

@[simp] theorem pyIndexOf_str (s : List Char) (x : PV) : pyIndexOf (.str s) x = pyStrIndex (.str s) x := rfl
/-- `nucleotides.index(c)`. -/
theorem pyIndexOf_ACGT (c : Char) :
    pyIndexOf (.str ['A', 'C', 'G', 'T']) (.str [c]) =
      match nucIdx c with
      | some j => .ok (.int j)
      | Option.none => .error .valueError := pyStrIndex_ACGT c
theorem pyIndexOf_ACGT_of_some {c : Char} {j : Nat} (h : nucIdx c = some j) :
    pyIndexOf (.str ['A', 'C', 'G', 'T']) (.str [c]) = .ok (.int j) := pyStrIndex_ACGT_of_some h
theorem pyIndexOf_ACGT_of_none {c : Char} (h : nucIdx c = Option.none) :
    pyIndexOf (.str ['A', 'C', 'G', 'T']) (.str [c]) = .error .valueError := pyStrIndex_ACGT_of_none h
/-- `nucleotides[j]` for a column given as an integer entry. -/
theorem pyIndex_ACGT_int {j : Int} (h0 : 0 ≤ j) (h : j < 4) :
    pyIndex (.str ['A', 'C', 'G', 'T']) (.int j) = .ok (.str [nucChar j.toNat]) := by
  have := pyIndex_ACGT (j := j.toNat) ((Int.toNat_lt h0).mpr h)
  rwa [Int.toNat_of_nonneg h0] at this

/-- `[nucleotides[i] for i in used_indices]`. -/
theorem pyMap_nucs {used : List Nat} (hu : ∀ j ∈ used, j < 4) :
    pyMap (fun it => pyIndex (.str ['A', 'C', 'G', 'T']) it) (.arr (used.map fun (j : Nat) => .int (j : Int))) =
      .ok (.list (used.map fun j => .str [nucChar j])) :=
  pyMap_arr_map (fun j hj => pyIndex_ACGT (hu j hj))

@[simp] theorem findIdxEq_nil (x : PV) (i : Nat) : findIdxEq x [] i = Option.none := rfl
theorem findIdxEq_cons (x y : PV) (ys : List PV) (i : Nat) :
    findIdxEq x (y :: ys) i = if PV.eqb y x then some i else findIdxEq x ys (i + 1) := rfl
theorem findIdxEq_chars (c : Char) (cs : List Char) (i : Nat) :
    findIdxEq (.str [c]) (cs.map fun d => .str [d]) i = if c ∈ cs then some (i + cs.idxOf c) else Option.none := by
  induction cs generalizing i with
  | nil => rfl
  | cons d r ih =>
    rw [List.map_cons, findIdxEq_cons, eqb_char_str, ih]
    by_cases hd : d = c
    · subst hd; rw [if_pos (decide_eq_true rfl), if_pos List.mem_cons_self, List.idxOf_cons_self]; rfl
    · rw [if_neg fun h => hd (of_decide_eq_true h), idxOf_cons_ne r hd, Nat.add_assoc, Nat.add_comm 1]
      by_cases hm : c ∈ r
      · rw [if_pos hm, if_pos (List.mem_cons_of_mem d hm)]
      · rw [if_neg hm, if_neg fun h => (List.mem_cons.mp h).elim (fun e => hd e.symm) hm]
theorem pyIn_chars (c : Char) (cs : List Char) :
    pyIn (.str [c]) (.list (cs.map fun d => .str [d])) = .ok (decide (c ∈ cs)) := by
  simp only [pyIn, findIdxEq_chars]
  by_cases h : c ∈ cs <;> simp [h]
theorem pyIndexOf_chars_of_mem {c : Char} {cs : List Char} (h : c ∈ cs) :
    pyIndexOf (.list (cs.map fun d => .str [d])) (.str [c]) = .ok (.int ((cs.idxOf c : Nat) : Int)) := by
  simp only [pyIndexOf, findIdxEq_chars, h, if_true, Nat.zero_add]
theorem pyIndexOf_chars_of_not_mem {c : Char} {cs : List Char} (h : c ∉ cs) :
    pyIndexOf (.list (cs.map fun d => .str [d])) (.str [c]) = .error .valueError := by
  simp only [pyIndexOf, findIdxEq_chars, h, if_false]

/-- first position of the letter `c` among the letters of the columns `used` (all below 4):
the computation inside `livePos`. -/
theorem findIdxEq_nucs (c : Char) {used : List Nat} (hu : ∀ j ∈ used, j < 4) (i : Nat) :
    findIdxEq (.str [c]) (used.map fun j => .str [nucChar j]) i =
      match nucIdx c with
      | Option.none => Option.none
      | some j => if used.contains j then some (i + used.idxOf j) else Option.none := by
  induction used generalizing i with
  | nil => cases nucIdx c <;> rfl
  | cons u r ih =>
    have hu4 : u < 4 := hu u List.mem_cons_self
    rw [List.map_cons, findIdxEq_cons, eqb_char_str, ih (fun j hj => hu j (List.mem_cons_of_mem u hj)) (i + 1)]
    cases hc : nucIdx c with
    | none => exact if_neg fun h => nucChar_ne_of_nucIdx_none hc hu4 (of_decide_eq_true h)
    | some j =>
      have hcj : nucChar j = c := nucChar_nucIdx hc
      dsimp only
      by_cases huj : u = j
      · subst huj
        rw [if_pos (decide_eq_true hcj), List.contains_cons, beq_self_eq_true, Bool.true_or, if_pos rfl,
          List.idxOf_cons_self]; rfl
      · have hne : ¬ nucChar u = c := fun e => huj ((nucChar_inj hu4 (nucIdx_lt hc)).1 (e.trans hcj.symm))
        rw [if_neg fun h => hne (of_decide_eq_true h), List.contains_cons, beq_false_of_ne (Ne.symm huj),
          Bool.false_or, idxOf_cons_ne r huj, Nat.add_assoc, Nat.add_comm 1]
/-- `nucleotide in used_nucleotides` / `used_nucleotides.index(nucleotide)` are `livePos`. -/
theorem findIdxEq_live (a : Acc) (v : Int) (c : Char) :
    findIdxEq (.str [c]) ((a.live v).map fun j => .str [nucChar j]) 0 = livePos a v c := by
  rw [findIdxEq_nucs c (fun j hj => live_lt_four a v hj) 0, livePos]
  cases nucIdx c with
  | none => rfl
  | some j => simp
theorem pyIn_live (a : Acc) (v : Int) (c : Char) :
    pyIn (.str [c]) (.list ((a.live v).map fun j => .str [nucChar j])) = .ok (livePos a v c).isSome := by
  simp only [pyIn, findIdxEq_live]
theorem pyIndexOf_live (a : Acc) (v : Int) (c : Char) :
    pyIndexOf (.list ((a.live v).map fun j => .str [nucChar j])) (.str [c]) =
      match livePos a v c with
      | some p => .ok (.int (p : Int))
      | Option.none => .error .valueError := by
  simp only [pyIndexOf, findIdxEq_live]
  cases livePos a v c <;> rfl
theorem pyIndexOf_live_of_some {a : Acc} {v : Int} {c : Char} {p : Nat} (h : livePos a v c = some p) :
    pyIndexOf (.list ((a.live v).map fun j => .str [nucChar j])) (.str [c]) = .ok (.int (p : Int)) := by
  rw [pyIndexOf_live, h]
theorem livePos_some {a : Acc} {v : Int} {c : Char} {p : Nat} (h : livePos a v c = some p) :
    ∃ j, nucIdx c = some j ∧ j ∈ a.live v ∧ p = (a.live v).idxOf j ∧ p < (a.live v).length := by
  unfold livePos at h
  cases hc : nucIdx c with
  | none => rw [hc] at h; cases h
  | some j =>
    rw [hc] at h
    by_cases hm : (a.live v).contains j = true
    · simp only [hm, if_true, Option.some.injEq] at h
      have hmem : j ∈ a.live v := by simpa using hm
      exact ⟨j, rfl, hmem, h.symm, h ▸ List.idxOf_lt_length_of_mem hmem⟩
    · simp only [hm, Bool.false_eq_true, if_false] at h; cases h
/-- the idiom `accessor[v][nucleotides.index(c)]`: follow the arc labelled `c`. -/
theorem acc_index_nuc {a : Acc} (ha : a.WF) {v : Int} (h0 : 0 ≤ v) (hv : v < a.size) {c : Char} {j : Nat}
    (hc : nucIdx c = some j) :
    (bnd (pyIndex (accPV a) (.int v)) fun r => bnd (pyIndexOf (.str ['A', 'C', 'G', 'T']) (.str [c])) fun k =>
        pyIndex r k) = .ok (.int (a.ent v ((nucIdx c).getD 0))) := by
  rw [pyIndex_accPV_of_nonneg h0 hv, bnd_ok, pyIndexOf_ACGT_of_some hc, bnd_ok,
    pyIndex_row_ent (by rw [ha.row_size h0 hv]; exact nucIdx_lt hc), hc]
  rfl

theorem eqb_nat_nat (n k : Nat) : PV.eqb (.int n) (.int k) = decide (n = k) := by
  rw [eqb_int, natCast_beq, Bool.eq_iff_iff, beq_iff_eq, decide_eq_true_iff]
theorem eqb_nat_lit_one (n : Nat) : PV.eqb (.int n) (.int 1) = decide (n = 1) := eqb_nat_nat n 1
theorem eqb_nat_lit_two (n : Nat) : PV.eqb (.int n) (.int 2) = decide (n = 2) := eqb_nat_nat n 2
theorem eqb_nat_lit_three (n : Nat) : PV.eqb (.int n) (.int 3) = decide (n = 3) := eqb_nat_nat n 3
theorem eqb_nat_lit_four (n : Nat) : PV.eqb (.int n) (.int 4) = decide (n = 4) := eqb_nat_nat n 4
/-- `len(used_indices) > 1`. -/
theorem pyGt_nat_one (n : Nat) : pyGt (.int n) (.int 1) = .ok (decide (1 < n)) := pyGt_nat n 1
/-- `pyGt_nat_zero` under the name the spiderweb ties' rewrite sets use. -/
theorem pyGt_nat_zero' (n : Nat) : pyGt (.int n) (.int 0) = .ok (decide (0 < n)) := pyGt_nat_zero n

theorem pyPow_int_nat (a : Int) (b : Nat) : pyPow (.int a) (.int b) = .ok (.int (a ^ b)) := by
  simp only [pyPow, asInt?_int, if_neg (Int.not_lt.mpr (Int.natCast_nonneg b)), Int.toNat_natCast]
theorem pyPow_nat (a b : Nat) : pyPow (.int a) (.int b) = .ok (.int ((a ^ b : Nat) : Int)) := by
  rw [pyPow_int_nat]; push_cast; rfl
/-- `len(nucleotides) ** m`. -/
theorem pyPow_four_nat (b : Nat) : pyPow (.int 4) (.int b) = .ok (.int ((4 ^ b : Nat) : Int)) :=
  pyPow_nat 4 b
theorem pyPow_neg {a b : Int} (h : b < 0) : pyPow (.int a) (.int b) = .error .other := by
  simp only [pyPow, asInt?_int, if_pos h]

/-! ## a table filled row by row (`accessor[v] = …` in a loop over the vertices) -/

/-- a table of `n` entries after `i` iterations of a loop that replaces, in order, the default `d` by `f v`. -/
def filled {α : Type} (f : Nat → α) (d : α) (n i : Nat) : List α :=
  (List.range n).map fun v => if v < i then f v else d

section filled
variable {α : Type} (f : Nat → α) (d : α) (n i : Nat)

theorem filled_length : (filled f d n i).length = n := by
  rw [filled, List.length_map, List.length_range]

theorem filled_zero : filled f d n 0 = List.replicate n d := by
  have h : filled f d n 0 = (List.range n).map fun _ => d :=
    List.map_congr_left fun v _ => if_neg (Nat.not_lt_zero v)
  rw [h, List.map_const', List.length_range]

theorem filled_getElem? {v : Nat} (h : v < n) : (filled f d n i)[v]? = some (if v < i then f v else d) := by
  rw [filled, List.getElem?_map, List.getElem?_range h]
  rfl

theorem filled_full : filled f d n n = (List.range n).map f :=
  List.map_congr_left fun _ hv => if_pos (List.mem_range.mp hv)

theorem filled_set : (filled f d n i).set i (f i) = filled f d n (i + 1) := by
  apply List.ext_getElem (by rw [List.length_set, filled_length, filled_length])
  intro j h1 _
  have hj : j < n := by rwa [List.length_set, filled_length] at h1
  simp only [filled, List.getElem_set, List.getElem_map, List.getElem_range]
  by_cases hij : i = j
  · rw [if_pos hij, if_pos (hij ▸ Nat.lt_succ_self i), hij]
  · rw [if_neg hij]
    by_cases hlt : j < i
    · rw [if_pos hlt, if_pos (Nat.lt_succ_of_lt hlt)]
    · rw [if_neg hlt, if_neg fun h => hlt (Nat.lt_of_le_of_ne (Nat.le_of_lt_succ h) (Ne.symm hij))]

end filled

namespace GzTie

theorem set_self_of_getElem? {α} {l : List α} {i : Nat} {x : α} (h : l[i]? = some x) : l.set i x = l := by
  obtain ⟨hlt, hx⟩ := List.getElem?_eq_some_iff.mp h
  subst hx
  exact List.set_getElem_self hlt

end GzTie

theorem filled_skip {α : Type} (f : Nat → α) (d : α) (n i : Nat) (h : f i = d) :
    filled f d n i = filled f d n (i + 1) := by
  rw [← filled_set, h]
  by_cases hi : i < n
  · exact (GzTie.set_self_of_getElem? (by rw [filled_getElem? f d n i hi, if_neg (Nat.lt_irrefl i)])).symm
  · rw [List.set_eq_of_length_le (by rw [filled_length]; exact Nat.le_of_not_lt hi)]

/-- A loop `for position, x in enumerate(xs)` whose body overwrites cell `position` of row `v` (so far `s`) by `c x`
turns the tail of `s`'s into `xs.map c`; `Rel rows e` carries the row table and whatever else the body keeps. -/
theorem forLoop_setrow {ε : Type} {body : PV → ε → R (Flow ε)} (Rel : List PV → ε → Prop) (v : Nat) (s : Int)
    (c : Nat → PV) (xs : List Nat)
    (hstep : ∀ (pre : List PV) (j : Nat) (rows : List PV) (x : Nat) (e : ε), x ∈ xs → Rel rows e →
      rows[v]? = some (.arr (pre ++ PV.int s :: List.replicate j (.int s))) →
      ∃ e', body (.tup [.int (pre.length : Int), .int (x : Int)]) e = .ok (.norm e') ∧
        Rel (rows.set v (.arr ((pre ++ [c x]) ++ List.replicate j (.int s)))) e') :
    ∀ (n : Nat) (pre rows : List PV) (e : ε), n = pre.length → Rel rows e →
      rows[v]? = some (.arr (pre ++ List.replicate xs.length (.int s))) →
      ∃ e', forLoop body (enumFrom n (xs.map fun (x : Nat) => PV.int (x : Int))) e = .ok (.norm e') ∧
        Rel (rows.set v (.arr (pre ++ xs.map c))) e' := by
  induction xs with
  | nil =>
    intro n pre rows e _ h hr
    rw [List.length_nil, List.replicate_zero] at hr
    rw [List.map_nil, List.map_nil, GzTie.set_self_of_getElem? hr]
    exact ⟨e, rfl, h⟩
  | cons x xs ih =>
    intro n pre rows e hn h hr
    subst hn
    rw [List.length_cons, List.replicate_succ] at hr
    obtain ⟨e1, hb, h1⟩ := hstep pre xs.length rows x e List.mem_cons_self h hr
    obtain ⟨e', hl, h'⟩ := ih (fun pre j rows y e hy => hstep pre j rows y e (List.mem_cons_of_mem _ hy))
      (pre.length + 1) (pre ++ [c x]) _ e1 (List.length_append (bs := [_])).symm h1
      (List.getElem?_set_self (List.getElem?_eq_some_iff.mp hr).1)
    refine ⟨e', ?_, ?_⟩
    · rw [List.map_cons, enumFrom_cons, forLoop_cons_norm hb, hl]
    · rw [List.set_set, List.append_assoc] at h'
      exact h'

end Dsw.Tie
