import DswModel.Model.Basic
import DswModel.Model.Float
/-!
# DswModel.Py.Value — the Python fragment the translator `harness/py2lean.py` targets

A small *shallow* embedding of the Python (and the NumPy fragment) that `dsw/*.py` is written in: dynamically typed
values (`PV`), the built-in operations the translated functions use (each returns `R PV`, i.e. a
value or a Python exception class), and the control-flow plumbing (`Flow`, `seq`) that the generated
definitions are made of.  Everything here is hand-written and therefore part of the trusted base of
the *translation tie* (see DESIGN.md §11); it is exercised against CPython by the driver operations
`gen <function>` and `fop` on every run.

Core Lean only: the generated definitions are linked into the native driver.
-/
namespace Dsw.Py
open Dsw

/-- a Python value of the fragment. `unbound` marks a local that has not been assigned yet
(reading it is `UnboundLocalError`, modelled as `PyErr.other`). -/
inductive PV where
  | int (i : Int)
  | str (s : List Char)
  | list (l : List PV)
  | tup (l : List PV)
  | bool (b : Bool)
  | none
  | unbound
  | arr (l : List PV)     -- a NumPy array: 1-D when the items are scalars, 2-D when they are arrays
  | set (l : List PV)     -- a set: its distinct elements in insertion order
  | dict (ks vs : List PV) -- a dict: keys and values in insertion order (same length)
  | rat (num den : Int)   -- an exact fraction (`den > 0`): a true division `a / b` of two ints, or the value of a float
deriving Repr, Inhabited

abbrev RV := R PV

/-! ## control flow -/

/-- how a statement list ends: normally, by `break`, by `continue`, or by `return v`. -/
inductive Flow (ε : Type) where
  | norm (e : ε)
  | brk (e : ε)
  | cnt (e : ε)
  | ret (v : PV)
deriving Inhabited

/-- statement sequencing: run `k` only if `m` ended normally. -/
@[inline] def seq {ε} (m : R (Flow ε)) (k : ε → R (Flow ε)) : R (Flow ε) :=
  match m with
  | .error e => .error e
  | .ok (.norm e) => k e
  | .ok f => .ok f

/-- what a loop does with the outcome of one iteration of its body. -/
inductive LoopStep (ε : Type) where
  | again (e : ε)      -- fell through or `continue`
  | stop (e : ε)       -- `break`
  | out (v : PV)       -- `return`

def Flow.loopStep {ε} : Flow ε → LoopStep ε
  | .norm e => .again e
  | .cnt e => .again e
  | .brk e => .stop e
  | .ret v => .out v

/-- `for x in items: body` (no `else` clause). -/
def forLoop {ε} (body : PV → ε → R (Flow ε)) : List PV → ε → R (Flow ε)
  | [], e => .ok (.norm e)
  | x :: xs, e =>
    match body x e with
    | .error err => .error err
    | .ok f =>
      match f.loopStep with
      | .again e' => forLoop body xs e'
      | .stop e' => .ok (.norm e')
      | .out v => .ok (.ret v)

/-- `while cond: body` with fuel (`outOfFuel` is not a Python outcome). -/
def whileLoop {ε} (cond : ε → R Bool) (body : ε → R (Flow ε)) : Nat → ε → R (Flow ε)
  | 0, _ => .error .outOfFuel
  | fuel + 1, e =>
    match cond e with
    | .error err => .error err
    | .ok false => .ok (.norm e)
    | .ok true =>
      match body e with
      | .error err => .error err
      | .ok f =>
        match f.loopStep with
        | .again e' => whileLoop cond body fuel e'
        | .stop e' => .ok (.norm e')
        | .out v => .ok (.ret v)

/-- the value of a function call: the returned value, or `None` when the body falls off the end. -/
def callResult {ε} (m : R (Flow ε)) : RV :=
  match m with
  | .error e => .error e
  | .ok (.ret v) => .ok v
  | .ok _ => .ok .none

/-! ## equality, truthiness, ordering -/

mutual
/-- Python `==` on the fragment (`True == 1`, lists and tuples element-wise, never an error). -/
def PV.eqb : PV → PV → Bool
  | .int a, .int b => a == b
  | .str a, .str b => a == b
  | .bool a, .bool b => a == b
  | .int a, .bool b => a == (if b then 1 else 0)
  | .bool a, .int b => (if a then 1 else 0) == b
  | .list a, .list b => PV.eqbList a b
  | .tup a, .tup b => PV.eqbList a b
  | .arr a, .arr b => PV.eqbList a b
  | .rat n d, .int b => n == b * d
  | .int a, .rat n d => a * d == n
  | .rat n d, .rat m c => n * c == m * d
  | .none, .none => true
  | _, _ => false
def PV.eqbList : List PV → List PV → Bool
  | [], [] => true
  | x :: xs, y :: ys => PV.eqb x y && PV.eqbList xs ys
  | _, _ => false
end

/-- Python truthiness. -/
def PV.truthy : PV → Bool
  | .int i => i != 0
  | .str s => !s.isEmpty
  | .list l => !l.isEmpty
  | .tup l => !l.isEmpty
  | .bool b => b
  | .none => false
  | .unbound => false
  | .arr l => !l.isEmpty      -- (NumPy raises for more than one element; conditions on arrays are outside the fragment)
  | .set l => !l.isEmpty
  | .dict ks _ => !ks.isEmpty
  | .rat n _ => n != 0

/-- bind of the exception monad, spelled out so that `simp` sees through it. -/
@[inline] def bnd {α β} (m : R α) (k : α → R β) : R β :=
  match m with
  | .ok a => k a
  | .error e => .error e

@[simp] theorem bnd_ok {α β} (a : α) (k : α → R β) : bnd (.ok a) k = k a := rfl
@[simp] theorem bnd_error {α β} (e : PyErr) (k : α → R β) : bnd (.error e : R α) k = .error e := rfl

/-- reading a local variable. -/
@[inline] def getVar (v : PV) : RV :=
  match v with
  | .unbound => .error .other
  | v => .ok v

def PV.asInt? : PV → Option Int
  | .int i => some i
  | .bool b => some (if b then 1 else 0)
  | _ => Option.none

/-- lexicographic `<` on strings by code point. -/
def strLt : List Char → List Char → Bool
  | [], [] => false
  | [], _ :: _ => true
  | _ :: _, [] => false
  | a :: as, b :: bs => if a.toNat < b.toNat then true else if a.toNat > b.toNat then false else strLt as bs

/-- Python `<` (numbers with numbers, strings with strings; anything else is `TypeError`). -/
def pyLt (a b : PV) : R Bool :=
  match a.asInt?, b.asInt? with
  | some x, some y => .ok (decide (x < y))
  | _, _ =>
    match a, b with
    | .str s, .str t => .ok (strLt s t)
    | .rat n d, .rat m c => .ok (decide (n * c < m * d))
    | .rat n d, y => match y.asInt? with
                     | some y => .ok (decide (n < y * d))
                     | Option.none => .error .typeError
    | x, .rat n d => match x.asInt? with
                     | some x => .ok (decide (x * d < n))
                     | Option.none => .error .typeError
    | _, _ => .error .typeError

def pyLe (a b : PV) : R Bool :=
  match a.asInt?, b.asInt? with
  | some x, some y => .ok (decide (x ≤ y))
  | _, _ =>
    match a, b with
    | .str s, .str t => .ok (!strLt t s)
    | .rat n d, .rat m c => .ok (decide (n * c ≤ m * d))
    | .rat n d, y => match y.asInt? with
                     | some y => .ok (decide (n ≤ y * d))
                     | Option.none => .error .typeError
    | x, .rat n d => match x.asInt? with
                     | some x => .ok (decide (x * d ≤ n))
                     | Option.none => .error .typeError
    | _, _ => .error .typeError

@[inline] def pyGt (a b : PV) : R Bool := pyLt b a
@[inline] def pyGe (a b : PV) : R Bool := pyLe b a
@[inline] def pyEq (a b : PV) : R Bool := .ok (PV.eqb a b)
@[inline] def pyNe (a b : PV) : R Bool := .ok (!PV.eqb a b)

/-! ## floats

A Python `float` is a `.rat num den` whose value is a double (`Model/Float.lean`): an operation with a float operand
converts an int operand with `float()` and rounds the exact result to the nearest double. (`a / b` on two ints,
`pyTrueDiv` below, is the one place that keeps the exact quotient.) -/

def PV.isRat : PV → Bool
  | .rat _ _ => true
  | _ => false

/-- the operand of a float operation: a float, or an int converted with `float()`. -/
def PV.asDbl? : PV → Option Dbl
  | .rat n d => if d > 0 then some ⟨n, d.toNat⟩ else Option.none
  | .int i => Dbl.ofInt i
  | .bool b => some ⟨if b then 1 else 0, 1⟩
  | _ => Option.none

/-- a float result; a result that would be `inf` is outside the fragment (`PyErr.other`). -/
def ratOfDbl : Option Dbl → RV
  | some x => .ok (.rat x.num x.den)
  | Option.none => .error .other

/-- `a op b` when one operand is a float (`TypeError` otherwise; an int too large for `float()` is `OverflowError`). -/
def floatOp (f : Dbl → Dbl → Option Dbl) (a b : PV) : RV :=
  if a.isRat || b.isRat then
    match a.asDbl?, b.asDbl? with
    | some x, some y => ratOfDbl (f x y)
    | _, _ => match a.asInt?, b.asInt? with
              | some _, _ => .error .overflowError
              | _, some _ => .error .overflowError
              | _, _ => .error .typeError
  else .error .typeError

/-! ## arithmetic -/

def replicateList {α} (n : Int) (l : List α) : List α :=
  (List.replicate n.toNat l).flatten

/-- `a + b`: ints, string and list concatenation. -/
def pyAdd (a b : PV) : RV :=
  match a.asInt?, b.asInt? with
  | some x, some y => .ok (.int (x + y))
  | _, _ =>
    match a, b with
    | .str s, .str t => .ok (.str (s ++ t))
    | .list s, .list t => .ok (.list (s ++ t))
    | .tup s, .tup t => .ok (.tup (s ++ t))
    | _, _ => floatOp Dbl.add a b

def pySub (a b : PV) : RV :=
  match a.asInt?, b.asInt? with
  | some x, some y => .ok (.int (x - y))
  | _, _ => floatOp Dbl.sub a b

/-- `a * b`: ints, and sequence repetition (a non-positive count gives the empty sequence). -/
def pyMul (a b : PV) : RV :=
  match a.asInt?, b.asInt? with
  | some x, some y => .ok (.int (x * y))
  | _, _ =>
    match a, b.asInt?, a.asInt?, b with
    | .str s, some n, _, _ => .ok (.str (replicateList n s))
    | .list s, some n, _, _ => .ok (.list (replicateList n s))
    | _, _, some n, .str s => .ok (.str (replicateList n s))
    | _, _, some n, .list s => .ok (.list (replicateList n s))
    | _, _, _, _ => floatOp Dbl.mul a b

/-- `a // b` on ints (floor division; `ZeroDivisionError` is `PyErr.other`). -/
def pyFloorDiv (a b : PV) : RV :=
  match a.asInt?, b.asInt? with
  | some x, some y => if y = 0 then .error .other else .ok (.int (Int.fdiv x y))
  | _, _ => .error .typeError

/-- `a % b` on ints (sign of the divisor). String formatting is outside the fragment. -/
def pyMod (a b : PV) : RV :=
  match a.asInt?, b.asInt? with
  | some x, some y => if y = 0 then .error .other else .ok (.int (Int.fmod x y))
  | _, _ => .error .typeError

/-- `divmod(a, b)`. -/
def pyDivmod (a b : PV) : RV :=
  match a.asInt?, b.asInt? with
  | some x, some y => if y = 0 then .error .other else .ok (.tup [.int (Int.fdiv x y), .int (Int.fmod x y)])
  | _, _ => .error .typeError

def pyNeg (a : PV) : RV :=
  match a.asInt? with
  | some x => .ok (.int (-x))
  | Option.none => match a with
                   | .rat n d => .ok (.rat (-n) d)
                   | _ => .error .typeError

/-! ## conversions -/

def digitChar (d : Nat) : Char := Char.ofNat (48 + d)

/-- decimal digits of a natural number, most significant first (`str(n)` for `n ≥ 0`). -/
def natDigits (n : Nat) : List Char := Nat.toDigits 10 n

/-- `str(v)` for ints, bools, strings, `None` (containers are outside the fragment). -/
def pyStr (v : PV) : RV :=
  match v with
  | .int i => .ok (.str (if i < 0 then '-' :: natDigits i.natAbs else natDigits i.natAbs))
  | .str s => .ok (.str s)
  | .bool true => .ok (.str "True".toList)
  | .bool false => .ok (.str "False".toList)
  | .none => .ok (.str "None".toList)
  | _ => .error .other

def charDigit? (c : Char) : Option Nat :=
  if '0'.toNat ≤ c.toNat ∧ c.toNat ≤ '9'.toNat then some (c.toNat - '0'.toNat) else Option.none

/-- value of a non-empty all-digit string. -/
def parseNat? : List Char → Option Nat
  | [] => Option.none
  | cs => cs.foldl (fun acc c => match acc, charDigit? c with
                                  | some a, some d => some (a * 10 + d)
                                  | _, _ => Option.none) (some 0)

/-- `int(v)`: ints and bools unchanged; a string of ASCII digits with an optional sign.
(CPython also accepts surrounding white space, underscores and non-ASCII digits: outside the
fragment, reported as `ValueError` here.) -/
def pyInt (v : PV) : RV :=
  match v with
  | .int i => .ok (.int i)
  | .bool b => .ok (.int (if b then 1 else 0))
  | .str ('-' :: cs) => match parseNat? cs with
                        | some n => .ok (.int (-(n : Int)))
                        | Option.none => .error .valueError
  | .str ('+' :: cs) => match parseNat? cs with
                        | some n => .ok (.int n)
                        | Option.none => .error .valueError
  | .str cs => match parseNat? cs with
               | some n => .ok (.int n)
               | Option.none => .error .valueError
  | .rat n d => if d > 0 then .ok (.int (Int.tdiv n d)) else .error .other     -- `int(float)` truncates toward zero
  | _ => .error .typeError

/-- the items a `for` loop / `list()` / `map` / `join` sees. -/
def pyIter (v : PV) : R (List PV) :=
  match v with
  | .list l => .ok l
  | .tup l => .ok l
  | .str s => .ok (s.map fun c => .str [c])
  | .arr l => .ok l
  | .set l => .ok l
  | .dict ks _ => .ok ks
  | _ => .error .typeError

def pyList (v : PV) : RV := (pyIter v).map .list

def pyLen (v : PV) : RV :=
  match v with
  | .list l => .ok (.int l.length)
  | .tup l => .ok (.int l.length)
  | .str s => .ok (.int s.length)
  | .arr l => .ok (.int l.length)
  | .set l => .ok (.int l.length)
  | .dict ks _ => .ok (.int ks.length)
  | _ => .error .typeError

/-- `range(a, b, s)` as an eager list. -/
def rangeList (a b s : Int) : List Int :=
  if s > 0 then
    (List.range ((b - a + s - 1) / s).toNat).map fun (i : Nat) => a + s * (i : Int)
  else if s < 0 then
    (List.range ((a - b + (-s) - 1) / (-s)).toNat).map fun (i : Nat) => a + s * (i : Int)
  else []

def pyRange3 (a b s : PV) : RV :=
  match a, b, s with
  | .int a, .int b, .int s => if s = 0 then .error .valueError else .ok (.list ((rangeList a b s).map .int))
  | _, _, _ => .error .typeError

def pyRange2 (a b : PV) : RV := pyRange3 a b (.int 1)
def pyRange1 (b : PV) : RV := pyRange3 (.int 0) b (.int 1)

def enumFrom (n : Nat) : List PV → List PV
  | [] => []
  | x :: xs => .tup [.int n, x] :: enumFrom (n + 1) xs

/-- `enumerate(v)` as an eager list of pairs. -/
def pyEnumerate (v : PV) : RV := (pyIter v).map fun l => .list (enumFrom 0 l)

/-- `[f(x) for x in items]` / `map(f, items)`, left to right, first exception wins. -/
def mapM' (f : PV → RV) : List PV → R (List PV)
  | [] => .ok []
  | x :: xs =>
    match f x with
    | .error e => .error e
    | .ok y =>
      match mapM' f xs with
      | .error e => .error e
      | .ok ys => .ok (y :: ys)

def pyMap (f : PV → RV) (v : PV) : RV :=
  match pyIter v with
  | .error e => .error e
  | .ok l => (mapM' f l).map .list

/-- `sep.join(items)`: every item must be a string. -/
def joinStrs (sep : List Char) : List PV → R (List Char)
  | [] => .ok []
  | [.str s] => .ok s
  | .str s :: rest => (joinStrs sep rest).map fun t => s ++ sep ++ t
  | _ => .error .typeError

def pyJoin (sep v : PV) : RV :=
  match sep, pyIter v with
  | .str sp, .ok l => (joinStrs sp l).map .str
  | .str _, .error e => .error e
  | _, _ => .error .typeError

/-- `s.zfill(n)` (a leading sign stays in front; not needed by the fragment's callers but kept). -/
def pyZfill (s n : PV) : RV :=
  match s, n with
  | .str ('-' :: cs), .int n => .ok (.str ('-' :: (List.replicate (n.toNat - (cs.length + 1)) '0' ++ cs)))
  | .str ('+' :: cs), .int n => .ok (.str ('+' :: (List.replicate (n.toNat - (cs.length + 1)) '0' ++ cs)))
  | .str cs, .int n => .ok (.str (List.replicate (n.toNat - cs.length) '0' ++ cs))
  | _, _ => .error .typeError

/-- position of the first occurrence of `pat` in `s`. -/
def findSub (pat : List Char) : List Char → Nat → Option Nat
  | [], i => if pat.isEmpty then some i else Option.none
  | c :: cs, i => if pat.isPrefixOf (c :: cs) then some i else findSub pat cs (i + 1)

/-- `s.index(sub)` (`ValueError` when absent). -/
def pyStrIndex (s sub : PV) : RV :=
  match s, sub with
  | .str s, .str p => match findSub p s 0 with
                      | some i => .ok (.int i)
                      | Option.none => .error .valueError
  | _, _ => .error .typeError

/-! ## subscripts -/

/-- first position of `x` in a list (by `==`). -/
def findIdxEq (x : PV) : List PV → Nat → Option Nat
  | [], _ => Option.none
  | y :: ys, i => if PV.eqb y x then some i else findIdxEq x ys (i + 1)

/-- index normalisation for `seq[i]` (`IndexError` outside `-n … n-1`). -/
def normIndex (n : Nat) (i : Int) : Option Nat :=
  let j := if i < 0 then i + n else i
  if 0 ≤ j ∧ j < n then some j.toNat else Option.none

def pyIndexSeq (v i : PV) : RV :=
  match i.asInt? with
  | Option.none => .error .typeError
  | some i =>
    match v with
    | .list l => match normIndex l.length i with
                 | some j => .ok (l.getD j .none)
                 | Option.none => .error .indexError
    | .tup l => match normIndex l.length i with
                | some j => .ok (l.getD j .none)
                | Option.none => .error .indexError
    | .str s => match normIndex s.length i with
                | some j => .ok (.str [s.getD j 'A'])
                | Option.none => .error .indexError
    | .arr l => match normIndex l.length i with
                | some j => .ok (l.getD j .none)
                | Option.none => .error .indexError
    | _ => .error .typeError

/-- `v[i]`: a dict looks the key up (`KeyError` is `PyErr.other`), a sequence is indexed. -/
def pyIndex (v i : PV) : RV :=
  match v with
  | .dict ks vs => match findIdxEq i ks 0 with
                   | some j => .ok (vs.getD j .none)
                   | Option.none => .error .other
  | .arr _ =>
    match i with
    | .list js => (mapM' (fun k => pyIndexSeq v k) js).map .arr      -- `a[[i, j, …]]` gathers
    | .arr js => (mapM' (fun k => pyIndexSeq v k) js).map .arr
    | _ => pyIndexSeq v i
  | _ => pyIndexSeq v i

/-- an optional slice bound: `None` or an int. -/
def boundOr (v : PV) (dflt : Int) : R Int :=
  match v with
  | .none => .ok dflt
  | .int i => .ok i
  | .bool b => .ok (if b then 1 else 0)
  | _ => .error .typeError

/-- `v[a:b]` with step 1 (`a`, `b` may be `None`). -/
def pySliceV (v a b : PV) : RV :=
  match v with
  | .list l => match boundOr a 0, boundOr b l.length with
               | .ok a, .ok b => .ok (.list (pySlice l a b))
               | .error e, _ => .error e
               | _, .error e => .error e
  | .tup l => match boundOr a 0, boundOr b l.length with
              | .ok a, .ok b => .ok (.tup (pySlice l a b))
              | .error e, _ => .error e
              | _, .error e => .error e
  | .str l => match boundOr a 0, boundOr b l.length with
              | .ok a, .ok b => .ok (.str (pySlice l a b))
              | .error e, _ => .error e
              | _, .error e => .error e
  | .arr l => match boundOr a 0, boundOr b l.length with
              | .ok a, .ok b => .ok (.arr (pySlice l a b))
              | .error e, _ => .error e
              | _, .error e => .error e
  | _ => .error .typeError

/-- `v[::-1]`. -/
def pyReverse (v : PV) : RV :=
  match v with
  | .list l => .ok (.list l.reverse)
  | .tup l => .ok (.tup l.reverse)
  | .str l => .ok (.str l.reverse)
  | .arr l => .ok (.arr l.reverse)
  | _ => .error .typeError

/-- `v[i] = x` on a list, as a new list. -/
def pySetItemSeq (v i x : PV) : RV :=
  match v, i.asInt? with
  | .list l, some i => match normIndex l.length i with
                       | some j => .ok (.list (l.set j x))
                       | Option.none => .error .indexError
  | .arr l, some i => match normIndex l.length i, x.asInt? with
                      | some j, some n => .ok (.arr (l.set j (.int n)))     -- integer arrays only
                      | Option.none, _ => .error .indexError
                      | _, Option.none => .error .typeError
  | _, _ => .error .typeError

/-- `v[i] = x`: a dict gets / updates the key (an existing key keeps its position), a sequence is updated. -/
def pySetItem (v i x : PV) : RV :=
  match v with
  | .dict ks vs => match findIdxEq i ks 0 with
                   | some j => .ok (.dict ks (vs.set j x))
                   | Option.none => .ok (.dict (ks ++ [i]) (vs ++ [x]))
  | .arr l =>
    match i.asInt?, x.asInt? with
    | some i', some n =>
      match normIndex l.length i' with
      | some j => match l.getD j .none with
                  | .arr row => .ok (.arr (l.set j (.arr (row.map fun _ => .int n))))    -- `a[i] = c` fills row i
                  | .bool _ => .ok (.arr (l.set j (.bool (n != 0))))                     -- a boolean array stays boolean
                  | _ => pySetItemSeq v i x
      | Option.none => .error .indexError
    | _, _ => pySetItemSeq v i x
  | _ => pySetItemSeq v i x

/-- `v.insert(i, x)` on a list, as a new list (the position clamps like a slice bound). -/
def pyInsert (v i x : PV) : RV :=
  match v, i.asInt? with
  | .list l, some i => let j := pyNorm l.length i
                       .ok (.list (l.take j ++ x :: l.drop j))
  | _, _ => .error .typeError

def pyAppend (v x : PV) : RV :=
  match v with
  | .list l => .ok (.list (l ++ [x]))
  | _ => .error .typeError

/-- unpacking `a, b, … = v` into exactly `n` items (`ValueError` on a length mismatch). -/
def pyUnpack (n : Nat) (v : PV) : R (List PV) :=
  match pyIter v with
  | .error e => .error e
  | .ok l => if l.length = n then .ok l else .error .valueError

/-- `type(v) == str` / `type(v) == int` (`bool` is not `int` for `type(...) ==`). -/
def pyTypeIs (v : PV) (name : String) : Bool :=
  match v, name with
  | .str _, "str" => true
  | .int _, "int" => true
  | .bool _, "bool" => true
  | .list _, "list" => true
  | .tup _, "tuple" => true
  | _, _ => false

/-! ## more built-ins -/

/-- `a ** b` on ints with a non-negative exponent (a negative exponent gives a float in Python:
outside the fragment, reported as `PyErr.other`). -/
def pyPow (a b : PV) : RV :=
  match a.asInt?, b.asInt? with
  | some x, some y => if y < 0 then .error .other else .ok (.int (x ^ y.toNat))
  | _, _ => .error .typeError

/-- `x is None` / `x is not None` (identity is only ever tested against `None` in the fragment). -/
def pyIsNone (v : PV) : Bool :=
  match v with
  | .none => true
  | _ => false

/-- `container.index(x)`: lists and tuples by `==`, strings by sub-string search (`ValueError` when absent). -/
def pyIndexOf (c x : PV) : RV :=
  match c with
  | .str _ => pyStrIndex c x
  | .list l => match findIdxEq x l 0 with
               | some i => .ok (.int i)
               | Option.none => .error .valueError
  | .tup l => match findIdxEq x l 0 with
              | some i => .ok (.int i)
              | Option.none => .error .valueError
  | _ => .error .other

/-- `x in container`. -/
def pyIn (x c : PV) : R Bool :=
  match c, x with
  | .list l, _ => .ok ((findIdxEq x l 0).isSome)
  | .tup l, _ => .ok ((findIdxEq x l 0).isSome)
  | .set l, _ => .ok ((findIdxEq x l 0).isSome)
  | .dict ks _, _ => .ok ((findIdxEq x ks 0).isSome)
  | .str s, .str p => .ok ((findSub p s 0).isSome)
  | .str _, _ => .error .typeError
  | _, _ => .error .typeError

/-! ## NumPy (integer and boolean arrays, one or two dimensions)

NumPy scalars are modelled as plain ints/bools (`int64` wrap-around is outside the fragment). -/

/-- elementwise binary operation between an array and a scalar / an array of the same length. -/
def arrZip (f : PV → PV → RV) : List PV → List PV → R (List PV)
  | [], [] => .ok []
  | x :: xs, y :: ys =>
    match f x y with
    | .error e => .error e
    | .ok z => match arrZip f xs ys with
               | .error e => .error e
               | .ok zs => .ok (z :: zs)
  | _, _ => .error .valueError      -- shapes that do not broadcast

def arrBroadcast (f : PV → PV → RV) (a b : PV) : RV :=
  match a, b with
  | .arr xs, .arr ys => (arrZip f xs ys).map .arr
  | .arr xs, y => (mapM' (fun x => f x y) xs).map .arr
  | x, .arr ys => (mapM' (fun y => f x y) ys).map .arr
  | x, y => f x y

def liftCmp (c : PV → PV → R Bool) (a b : PV) : RV := (c a b).map .bool

/-- `a - b`, `a + b`, `a * b` with NumPy broadcasting when an operand is an array. -/
def npSub (a b : PV) : RV := arrBroadcast pySub a b
/-- `+` on one item of an array: a row of a two-dimensional array broadcasts once more. -/
def addItem (x y : PV) : RV :=
  match x with
  | .arr _ => arrBroadcast pyAdd x y
  | _ => pyAdd x y

def npAdd (a b : PV) : RV :=
  match a, b with
  | .arr _, _ => arrBroadcast addItem a b
  | _, .arr _ => arrBroadcast pyAdd a b
  | _, _ => pyAdd a b
def npMul (a b : PV) : RV :=
  match a, b with
  | .arr _, _ => arrBroadcast pyMul a b
  | _, .arr _ => arrBroadcast pyMul a b
  | _, _ => pyMul a b

/-- comparison of one item of an array: a row of a two-dimensional array broadcasts once more. -/
def cmpItem (c : PV → PV → R Bool) (x y : PV) : RV :=
  match x with
  | .arr _ => arrBroadcast (liftCmp c) x y
  | _ => liftCmp c x y

/-- comparisons: elementwise (an array of bools) when an operand is an array, otherwise Python's. -/
def npCmp (c : PV → PV → R Bool) (a b : PV) : RV :=
  match a, b with
  | .arr _, _ => arrBroadcast (cmpItem c) a b
  | _, .arr _ => arrBroadcast (liftCmp c) a b
  | _, _ => (c a b).map .bool

/-- indices of the truthy entries. -/
def trueIdx : List PV → Nat → List PV
  | [], _ => []
  | x :: xs, i => if x.truthy then .int i :: trueIdx xs (i + 1) else trueIdx xs (i + 1)

def PV.isArr : PV → Bool
  | .arr _ => true
  | _ => false

/-- row and column indices of the truthy cells of a two-dimensional array, row-major. -/
def trueIdx2 : List PV → Nat → List PV × List PV
  | [], _ => ([], [])
  | r :: rs, i =>
    let cols := match r with
      | .arr cells => trueIdx cells 0
      | _ => []
    let rest := trueIdx2 rs (i + 1)
    (cols.map (fun _ => PV.int i) ++ rest.1, cols ++ rest.2)

/-- `numpy.where(cond)`: for a one-dimensional array a 1-tuple holding the index array; for a two-dimensional array
(every item is a row) the pair (row indices, column indices) of the truthy cells in row-major order. -/
def npWhere (c : PV) : RV :=
  match c with
  | .arr l =>
    if l.any PV.isArr then .ok (.tup [.arr (trueIdx2 l 0).1, .arr (trueIdx2 l 0).2])
    else .ok (.tup [.arr (trueIdx l 0)])
  | _ => .error .other

/-- stable ascending argsort of a short integer array (NumPy sorts rows of fewer than 17 items by
insertion, which is stable). -/
def npArgsort (v : PV) : RV :=
  match v with
  | .arr l =>
    match l.mapM PV.asInt? with
    | some ks => .ok (.arr ((Dsw.argsort ks).map fun (i : Nat) => .int (i : Int)))
    | Option.none => .error .typeError
  | _ => .error .other

/-- `numpy.sum` of a one-dimensional integer/boolean array. -/
def npSum (v : PV) : RV :=
  match v with
  | .arr l => match l.mapM PV.asInt? with
              | some ks => .ok (.int (ks.foldl (· + ·) 0))
              | Option.none => .error .typeError
  | .list l => match l.mapM PV.asInt? with
               | some ks => .ok (.int (ks.foldl (· + ·) 0))
               | Option.none => .error .typeError
  | _ => .error .other

/-- `numpy.array(x, dtype=int)`: a (nested) list of ints becomes an array. -/
def npArrayItem (v : PV) : RV :=
  match v with
  | .list l => .ok (.arr l)
  | .tup l => .ok (.arr l)
  | .arr l => .ok (.arr l)
  | .int i => .ok (.int i)
  | .bool b => .ok (.int (if b then 1 else 0))
  | _ => .error .other

def npArray (v : PV) : RV :=
  match v with
  | .list l => (mapM' npArrayItem l).map .arr
  | .tup l => (mapM' npArrayItem l).map .arr
  | .arr l => .ok (.arr l)
  | _ => .error .other

/-- `numpy.zeros(shape=(n,), dtype=int)`. -/
def npZeros (shape : PV) : RV :=
  match shape with
  | .tup [.int n] => if n < 0 then .error .valueError else .ok (.arr (List.replicate n.toNat (.int 0)))
  | .int n => if n < 0 then .error .valueError else .ok (.arr (List.replicate n.toNat (.int 0)))
  | _ => .error .other

/-- `a[i, j]`: row `i`, then `j` is an int (one entry) or an index array (gather). -/
def npIndex2 (a i j : PV) : RV :=
  match pyIndex a i with
  | .error e => .error e
  | .ok row =>
    match j with
    | .arr js => (mapM' (fun k => pyIndex row k) js).map .arr
    | _ => pyIndex row j

/-- `a[idx]` where `idx` may be an index array (gather) or an int. -/
def npIndex (a i : PV) : RV :=
  match a, i with
  | .arr _, .arr js => (mapM' (fun k => pyIndex a k) js).map .arr
  | _, _ => pyIndex a i

/-! ## NumPy, second instalment (two-dimensional construction and element assignment) -/

/-- `-a` on an int or an integer array of one or two dimensions. -/
def npNegList : List PV → R (List PV)
  | [] => .ok []
  | x :: xs =>
    match (match x with
           | .arr row => (mapM' pyNeg row).map PV.arr
           | y => pyNeg y), npNegList xs with
    | .ok y, .ok ys => .ok (y :: ys)
    | .error e, _ => .error e
    | _, .error e => .error e

def npNeg (a : PV) : RV :=
  match a with
  | .arr l => (npNegList l).map .arr
  | x => pyNeg x

/-- an array of shape `(n,)` or `(n, m)` filled with `c`. -/
def npFull (c : Int) (shape : PV) : RV :=
  match shape with
  | .tup [.int n] => if n < 0 then .error .valueError else .ok (.arr (List.replicate n.toNat (.int c)))
  | .int n => if n < 0 then .error .valueError else .ok (.arr (List.replicate n.toNat (.int c)))
  | .tup [.int n, .int m] =>
    if n < 0 ∨ m < 0 then .error .valueError
    else .ok (.arr (List.replicate n.toNat (.arr (List.replicate m.toNat (.int c)))))
  | _ => .error .other

/-- `numpy.ones(shape, dtype=int)`. -/
def npOnes (shape : PV) : RV := npFull 1 shape

/-- `a[i][j] = x` / `a[i, j] = x` on a two-dimensional integer array, as a new array. -/
def npSetItem2 (a i j x : PV) : RV :=
  match a, i.asInt? with
  | .arr rows, some i =>
    match normIndex rows.length i with
    | Option.none => .error .indexError
    | some r =>
      match pySetItem (rows.getD r .none) j x with
      | .error e => .error e
      | .ok row' => .ok (.arr (rows.set r row'))
  | _, _ => .error .typeError

/-! ## sets, zip, sorted, filter, itertools.product, del

A `set` is modelled as the list of its distinct elements **in insertion order** (`list(s)` and iteration
see that order; CPython's order depends on the hashes — the functions in the fragment only feed such lists
into order-insensitive uses: `len`, membership, `itertools.product` followed by a set and `sorted`). -/

/-- `s.add(x)`. -/
def pySetAdd (s x : PV) : RV :=
  match s with
  | .set l => .ok (.set (if (findIdxEq x l 0).isSome then l else l ++ [x]))
  | _ => .error .other

/-- `zip(a, b)` as an eager list of pairs (stops at the shorter one). -/
def zipPairs : List PV → List PV → List PV
  | x :: xs, y :: ys => .tup [x, y] :: zipPairs xs ys
  | _, _ => []

def pyZip (a b : PV) : RV :=
  match pyIter a, pyIter b with
  | .ok xs, .ok ys => .ok (.list (zipPairs xs ys))
  | .error e, _ => .error e
  | _, .error e => .error e

/-- insertion into a list sorted by Python's `<` (strings with strings, numbers with numbers). -/
def insertSortedPV (x : PV) : List PV → R (List PV)
  | [] => .ok [x]
  | y :: ys =>
    match pyLt x y with
    | .error e => .error e
    | .ok true => .ok (x :: y :: ys)
    | .ok false => (insertSortedPV x ys).map (y :: ·)

/-- `sorted(items)` (stable; `TypeError` for items that do not compare). -/
def sortPV : List PV → R (List PV)
  | [] => .ok []
  | x :: xs =>
    match sortPV xs with
    | .error e => .error e
    | .ok s => insertSortedPV x s

def pySorted (v : PV) : RV :=
  match pyIter v with
  | .error e => .error e
  | .ok l => (sortPV l.reverse).map .list      -- (reversed first so that equal items keep their order)

/-- `filter(f, items)` as an eager list. -/
def filterM' (f : PV → R Bool) : List PV → R (List PV)
  | [] => .ok []
  | x :: xs =>
    match f x with
    | .error e => .error e
    | .ok b =>
      match filterM' f xs with
      | .error e => .error e
      | .ok ys => .ok (if b then x :: ys else ys)

def pyFilter (f : PV → R Bool) (v : PV) : RV :=
  match pyIter v with
  | .error e => .error e
  | .ok l => (filterM' f l).map .list

/-- `itertools.product(*lists)`: tuples in lexicographic order, the last list varying fastest. -/
def productLists : List (List PV) → List (List PV)
  | [] => [[]]
  | fs :: rest => fs.flatMap fun f => (productLists rest).map (f :: ·)

def pyProduct (v : PV) : RV :=
  match pyIter v with
  | .error e => .error e
  | .ok ls =>
    match ls.mapM (fun l => match pyIter l with | .ok xs => some xs | .error _ => Option.none) with
    | some lists => .ok (.list ((productLists lists).map .tup))
    | Option.none => .error .typeError

/-- `del v[i]` on a list, as a new list. -/
def pyDelItem (v i : PV) : RV :=
  match v, i.asInt? with
  | .list l, some i => match normIndex l.length i with
                       | some j => .ok (.list (l.eraseIdx j))
                       | Option.none => .error .indexError
  | .dict ks vs, _ => match findIdxEq i ks 0 with            -- `del d[key]` (`KeyError` is `PyErr.other`)
                      | some j => .ok (.dict (ks.eraseIdx j) (vs.eraseIdx j))
                      | Option.none => .error .other
  | _, _ => .error .typeError

/-! ## dicts (insertion ordered) and the remaining NumPy idioms of dsw/graphized.py -/

def pyDictItems (d : PV) : RV :=
  match d with
  | .dict ks vs => .ok (.list (zipPairs ks vs))
  | _ => .error .other

def pyDictKeys (d : PV) : RV :=
  match d with
  | .dict ks _ => .ok (.list ks)
  | _ => .error .other

def pyDictValues (d : PV) : RV :=
  match d with
  | .dict _ vs => .ok (.list vs)
  | _ => .error .other

/-- `a.tolist()` (one or two dimensions). -/
def npToList (a : PV) : RV :=
  match a with
  | .arr l => .ok (.list (l.map fun x => match x with | .arr r => .list r | y => y))
  | _ => .error .other

/-- `a.astype(bool)` / `a.astype(int)` elementwise (one or two dimensions). -/
def astypeItem (toBool : Bool) (x : PV) : PV :=
  match x.asInt? with
  | some i => if toBool then .bool (i != 0) else .int i
  | Option.none => x

def npAstype (toBool : Bool) (a : PV) : RV :=
  match a with
  | .arr l => .ok (.arr (l.map fun x => match x with
                                        | .arr r => .arr (r.map (astypeItem toBool))
                                        | y => astypeItem toBool y))
  | x => .ok (astypeItem toBool x)

def npAstypeBool (a : PV) : RV := npAstype true a
def npAstypeInt (a : PV) : RV := npAstype false a

/-- `numpy.sum(a, axis=1)` of a two-dimensional integer/boolean array. -/
def npSumAxis1 (a : PV) : RV :=
  match a with
  | .arr rows => (mapM' npSum rows).map .arr
  | _ => .error .other

/-- `a[mask]` with a boolean mask of the same length. -/
def maskSelect : List PV → List PV → R (List PV)
  | [], [] => .ok []
  | x :: xs, m :: ms =>
    match maskSelect xs ms with
    | .error e => .error e
    | .ok r => .ok (if m.truthy then x :: r else r)
  | _, _ => .error .indexError

def npMaskIndex (a m : PV) : RV :=
  match a, m with
  | .arr xs, .arr ms => (maskSelect xs ms).map .arr
  | _, _ => .error .other


/-! ## true division, boolean arrays -/

/-- `a / b` on ints: the exact quotient (Python gives the nearest float; the fragment only ever compares it
with an int, which is exact for the magnitudes involved). `ZeroDivisionError` is `PyErr.other`. -/
def pyTrueDiv (a b : PV) : RV :=
  match a.asInt?, b.asInt? with
  | some x, some y => if y = 0 then .error .other
                      else if y > 0 then .ok (.rat x y) else .ok (.rat (-x) (-y))
  | _, _ => .error .typeError

/-- `numpy.zeros(shape, dtype=bool)` / `numpy.ones(shape, dtype=bool)`, one dimension. -/
def npFullBool (c : Bool) (shape : PV) : RV :=
  match shape with
  | .tup [.int n] => if n < 0 then .error .valueError else .ok (.arr (List.replicate n.toNat (.bool c)))
  | .int n => if n < 0 then .error .valueError else .ok (.arr (List.replicate n.toNat (.bool c)))
  | _ => .error .other

def npZerosBool (shape : PV) : RV := npFullBool false shape
def npOnesBool (shape : PV) : RV := npFullBool true shape

/-! ## string methods used by `dsw/biofilter.py`, attributes of objects -/

/-- `s.replace(old, new)` for a non-empty `old` (`skip` = characters of a match still to be dropped). -/
def replaceGo (old new : List Char) : Nat → List Char → List Char
  | _, [] => []
  | skip + 1, _ :: cs => replaceGo old new skip cs
  | 0, c :: cs =>
    if old.isPrefixOf (c :: cs) then new ++ replaceGo old new (old.length - 1) cs
    else c :: replaceGo old new 0 cs

/-- `s.replace(old, new)` (all occurrences, left to right, non-overlapping; an empty `old` matches before every
character and at the end). -/
def pyReplace (s old new : PV) : RV :=
  match s, old, new with
  | .str s, .str o, .str n =>
    if o.isEmpty then .ok (.str (n ++ (s.map fun c => c :: n).flatten))
    else .ok (.str (replaceGo o n 0 s))
  | _, _, _ => .error .typeError

/-- `s.upper()` on ASCII strings (a non-ASCII character is outside the fragment: `PyErr.other`). -/
def pyUpper (s : PV) : RV :=
  match s with
  | .str s => if s.all (fun c => c.toNat < 128) then .ok (.str (s.map Char.toUpper)) else .error .other
  | _ => .error .other

/-- number of non-overlapping occurrences of a non-empty `pat`, scanning left to right. -/
def countGo (pat : List Char) : Nat → List Char → Nat
  | _, [] => 0
  | skip + 1, _ :: cs => countGo pat skip cs
  | 0, c :: cs => if pat.isPrefixOf (c :: cs) then 1 + countGo pat (pat.length - 1) cs else countGo pat 0 cs

/-- `s.count(sub)` on strings (`len(s) + 1` for the empty pattern); other receivers are outside the fragment. -/
def pyCount (s sub : PV) : RV :=
  match s, sub with
  | .str s, .str p => if p.isEmpty then .ok (.int (s.length + 1)) else .ok (.int (countGo p 0 s))
  | .str _, _ => .error .typeError
  | _, _ => .error .other

/-- `obj.name` — an object of a translated class is the `.dict` of its attributes (keys = attribute names, in the
order of their first assignment); a missing attribute (`AttributeError`) is `PyErr.other`. -/
def pyGetAttr (obj : PV) (name : String) : RV :=
  match obj with
  | .dict ks vs => match findIdxEq (.str name.toList) ks 0 with
                   | some j => .ok (vs.getD j .none)
                   | Option.none => .error .other
  | _ => .error .other

/-- `obj.name = v`, as a new object. -/
def pySetAttr (obj : PV) (name : String) (v : PV) : RV :=
  match obj with
  | .dict _ _ => pySetItem obj (.str name.toList) v
  | _ => .error .other

/-- what a constructor call returns: the object its `__init__` built (`__init__` may not `return` a value). -/
def initResult {ε} (m : R (Flow ε)) (self : ε → PV) : RV :=
  match m with
  | .error e => .error e
  | .ok (.norm e) => .ok (self e)
  | .ok _ => .error .other

/-! ## objects handed in by the caller

An object whose methods the translated code calls (the constraint filter of `find_vertices`) is represented
by the TABLE of its answers: a `.dict` from the argument to the result. Which method is called does not
matter for a one-method object; an argument outside the table is `PyErr.other`. -/
def pyCallMethod (obj : PV) (_name : String) (args : List PV) : RV :=
  match obj, args with
  | .dict ks vs, [x] => match findIdxEq x ks 0 with
                        | some j => .ok (vs.getD j .none)
                        | Option.none => .error .other
  | _, _ => .error .other

/-! ## `numpy.union1d`, `itertools.combinations(…, 2)`, two-dimensional `zeros` -/

/-- the integers of an array / list, one level of nesting flattened (`numpy.ravel` of what `union1d` receives). -/
def flattenInts (v : PV) : Option (List Int) :=
  let items : Option (List PV) := match v with
    | .arr l => some l
    | .list l => some l
    | .tup l => some l
    | _ => Option.none
  match items with
  | Option.none => Option.none
  | some l => (l.mapM fun (x : PV) => match x with
      | PV.arr r => r.mapM PV.asInt?
      | PV.list r => r.mapM PV.asInt?
      | y => (y.asInt?).map fun i => [i]).map List.flatten

def insertInt (x : Int) : List Int → List Int
  | [] => [x]
  | y :: ys => if x < y then x :: y :: ys else if x = y then y :: ys else y :: insertInt x ys

/-- `numpy.union1d(a, b)`: the sorted distinct values of both. -/
def npUnion1d (a b : PV) : RV :=
  match flattenInts a, flattenInts b with
  | some xs, some ys => .ok (.arr (((xs ++ ys).foldl (fun acc x => insertInt x acc) []).map .int))
  | _, _ => .error .other

/-- all pairs `(x_i, x_j)` with `i < j`, in `itertools.combinations` order. -/
def pairsOf : List PV → List PV
  | [] => []
  | x :: xs => (xs.map fun y => PV.tup [x, y]) ++ pairsOf xs

def pyCombinations2 (v : PV) : RV :=
  match pyIter v with
  | .error e => .error e
  | .ok l => .ok (.list (pairsOf l))

/-- `numpy.zeros(shape=(n, m), dtype=int)`. -/
def npZeros2 (n m : PV) : RV :=
  match n.asInt?, m.asInt? with
  | some n, some m => if n < 0 ∨ m < 0 then .error .valueError
                      else .ok (.arr (List.replicate n.toNat (.arr (List.replicate m.toNat (.int 0)))))
  | _, _ => .error .typeError

/-! ## NumPy / collections idioms of `remove_nasty_arc` -/

/-- `numpy.max` of a one- or two-dimensional integer array (`ValueError` when empty). -/
def npMax (a : PV) : RV :=
  match flattenInts a with
  | some (x :: xs) => .ok (.int (xs.foldl max x))
  | some [] => .error .valueError
  | Option.none => .error .other

/-- `numpy.unique` of a one-dimensional integer array: sorted, without repetitions. -/
def npUnique (a : PV) : RV :=
  match a with
  | .arr l => match l.mapM PV.asInt? with
              | some ks => .ok (.arr ((ks.foldr insertInt []).map PV.int))
              | Option.none => .error .other
  | _ => .error .other

/-- `numpy.intersect1d(a, b)`: the sorted common values of two one-dimensional integer arrays. -/
def npIntersect1d (a b : PV) : RV :=
  match a, b with
  | .arr x, .arr y =>
    match x.mapM PV.asInt?, y.mapM PV.asInt? with
    | some xs, some ys =>
      .ok (.arr (((xs.foldr insertInt []).filter fun v => ys.contains v).map PV.int))
    | _, _ => .error .other
  | _, _ => .error .other

/-- `numpy.argmax` of a one-dimensional integer array: the first position of the maximum (`ValueError` when empty). -/
def npArgmax (a : PV) : RV :=
  match a with
  | .arr l => match l.mapM PV.asInt? with
              | some (k :: ks) => .ok (.int (((k :: ks).idxOf ((k :: ks).foldl max k) : Nat) : Int))
              | some [] => .error .valueError
              | Option.none => .error .other
  | _ => .error .other

/-- `a.reshape(-1)`: the cells of a one- or two-dimensional array in row-major order. -/
def npFlatten (a : PV) : RV :=
  match a with
  | .arr l => .ok (.arr (l.flatMap fun r => match r with
                                            | .arr cells => cells
                                            | x => [x]))
  | _ => .error .other

/-- `collections.Counter(items)` as a dict: distinct items in order of first occurrence, with their counts. -/
def pyCounter (v : PV) : RV :=
  match pyIter v with
  | .error e => .error e
  | .ok items =>
    let keys := items.foldl (fun ks x => if (findIdxEq x ks 0).isSome then ks else ks ++ [x]) []
    .ok (.dict keys (keys.map fun k => .int ((items.filter fun x => PV.eqb x k).length : Nat)))

/-- `a.T`: the transpose of a two-dimensional array with rows of equal length; a one-dimensional array (also the empty
one that `array([])` is) is its own transpose. -/
def npT (a : PV) : RV :=
  match a with
  | .arr [] => .ok (.arr [])
  | .arr (r :: rs) =>
    match r with
    | .arr cells =>
      let n := cells.length
      .ok (.arr ((List.range n).map fun j => .arr ((r :: rs).map fun row => match row with
                                                                          | .arr cs => cs.getD j .none
                                                                          | x => x)))
    | _ => .ok a
  | _ => .error .other

/-- `a[:, idx]`: for every row of a two-dimensional array the cells at the positions of the index array `idx`. -/
def npIndexCols (a idx : PV) : RV :=
  match a, idx with
  | .arr rows, .arr js =>
    (mapM' (fun row => match row with
                       | .arr _ => (mapM' (fun k => pyIndex row k) js).map PV.arr
                       | _ => .error .indexError) rows).map PV.arr
  | _, _ => .error .other

/-- `⌊log_b n⌋` for `b ≥ 2` (fuel = `n`). -/
def natLogFuel (b : Nat) : Nat → Nat → Nat
  | 0, _ => 0
  | f + 1, n => if n < b then 0 else 1 + natLogFuel b f (n / b)

/-- `int(log(a) / log(b))` for positive ints `a`, `b ≥ 2`: the exact `⌊log_b a⌋`. CPython computes the quotient of two
doubles; for the table sizes `4^k` the code passes the quotient is exactly `k` (validated by the harness for every size
it generates, like `log4` of the hand-written model). -/
def pyIntLogRatio (a b : PV) : RV :=
  match a.asInt?, b.asInt? with
  | some x, some y => if x ≤ 0 ∨ y ≤ 1 then .error .other else .ok (.int (natLogFuel y.toNat x.toNat x.toNat))
  | _, _ => .error .typeError

end Dsw.Py
