import DswModel.Lemmas.FloatSpecPos
import Mathlib.Tactic.LinearCombination
/-!
# `roundDouble` against the binary64 specification: the arguments, on the scaled form of `FloatSpecPos.lean`

`Props/FloatSpec.lean` defines `EqPow2 a b m e := if e ≥ 0 then a = m * 2^e.toNat * b else a * 2^(-e).toNat = m * b`
and `IsB64` and states the theorems; here that condition is written out. `roundDouble_shape` hands out the scaled
description of a result; on it: a significand `2^53` renormalised, no binary64 value nearer than the result, the
overflow test against the threshold.
-/
namespace Dsw

/-- the overflow test of `roundDouble` on `(m, e)`. -/
def Ovf (m : Nat) (e : Int) : Prop := e > 971 ∨ (e = 971 ∧ m ≥ 2 ^ 53)

theorem roundDouble_shape {num : Int} {den : Nat} (hnum : num ≠ 0) (hden : 0 < den) :
    ∃ m e k, PosSpec 1074 num.natAbs den m e k ∧
      ((Ovf m e ∧ roundDouble num den = none) ∨
       (¬ Ovf m e ∧ roundDouble num den =
          some ⟨(if num < 0 then -1 else 1) * (magNum (m, e) : Int), magDen (m, e)⟩)) := by
  obtain ⟨k, S⟩ := roundPos_posSpec num.natAbs den (by omega) hden
  refine ⟨(roundPos num.natAbs den).1, (roundPos num.natAbs den).2, k, S, ?_⟩
  rw [roundDouble_eq_ite hnum (by omega)]
  unfold Ovf
  split
  · rename_i h
    exact Or.inl ⟨h, rfl⟩
  · rename_i h
    exact Or.inr ⟨h, rfl⟩

/-- `a / b = m * 2^e` (sign-split) is `a * 2^O = m * 2^k * b` whenever `e = k − O`. -/
theorem eqPow2_iff (O : Nat) {a b m : Nat} {e : Int} (k : Nat) (hk : e = (k : Int) - (O : Int)) :
    (if e ≥ 0 then a = m * 2 ^ e.toNat * b else a * 2 ^ (-e).toNat = m * b) ↔ a * 2 ^ O = m * 2 ^ k * b := by
  by_cases he : e ≥ 0
  · have hkk : k = e.toNat + O := by omega
    have e1 : m * (2 ^ e.toNat * 2 ^ O) * b = m * 2 ^ e.toNat * b * 2 ^ O := by ring
    rw [if_pos he, hkk, Nat.pow_add, e1]
    exact (Nat.mul_right_cancel_iff (Nat.two_pow_pos O)).symm
  · have hO : O = (-e).toNat + k := by omega
    rw [if_neg he, hO, Nat.pow_add, ← Nat.mul_assoc, Nat.mul_right_comm m]
    exact (Nat.mul_right_cancel_iff (Nat.two_pow_pos k)).symm

theorem eqPow2_scaled (O : Nat) {a b m : Nat} {e : Int} (k : Nat) (hk : e = (k : Int) - (O : Int))
    (h : if e ≥ 0 then a = m * 2 ^ e.toNat * b else a * 2 ^ (-e).toNat = m * b) :
    a * 2 ^ O = m * 2 ^ k * b :=
  (eqPow2_iff O k hk).1 h

/-- the significand `2^53`, reached by rounding up, is `2^52` at the next exponent. -/
theorem eqPow2_renorm {a b : Nat} {e : Int}
    (h : if e ≥ 0 then a = 2 ^ 53 * 2 ^ e.toNat * b else a * 2 ^ (-e).toNat = 2 ^ 53 * b) :
    if e + 1 ≥ 0 then a = 2 ^ 52 * 2 ^ (e + 1).toNat * b else a * 2 ^ (-(e + 1)).toNat = 2 ^ 52 * b := by
  have h1 := (eqPow2_iff (-e).toNat e.toNat (by omega)).1 h
  refine (eqPow2_iff (-e).toNat (e.toNat + 1) (by omega)).2 ?_
  rw [h1, Nat.pow_succ 2 52, Nat.pow_succ 2 e.toNat, Nat.mul_assoc (2 ^ 52), Nat.mul_comm 2]

theorem mag_eqPow2 (m : Nat) (e : Int) :
    if e ≥ 0 then magNum (m, e) = m * 2 ^ e.toNat * magDen (m, e)
    else magNum (m, e) * 2 ^ (-e).toNat = m * magDen (m, e) := by
  unfold magNum magDen
  simp only
  split
  · rw [Nat.mul_one]
  · rfl

theorem sign_natAbs (num : Int) (x : Nat) : ((if num < 0 then -1 else 1) * (x : Int)).natAbs = x := by
  split
  · simp
  · simp

/-- a multiple `Y` of the unit `U` other than the result `X` is at least half a unit away from `A`. -/
theorem away_of_multiple {A U X Y : Nat} (half_lo : 2 * X ≤ 2 * A + U) (half_hi : 2 * A ≤ 2 * X + U)
    (h : Y + U ≤ X ∨ X + U ≤ Y) : 2 * Y + U ≤ 2 * A ∨ 2 * A + U ≤ 2 * Y := by
  omega

/-- a value `Y` of a finer grid, `2 * Y ≤ Z` with `Z` below `2^53` units, stays half a unit below `2^52 * U ≤ A`. -/
theorem away_of_finer {A U Y Z : Nat} (hlow : 2 ^ 52 * U ≤ A) (h2 : 2 * Y ≤ Z) (h3 : Z + U ≤ 2 ^ 53 * U) :
    2 * Y + U ≤ 2 * A := by
  omega

/-- scaled: `A` the exact value, `m * U` the result, `Y = m' * 2^k' * d` any value with a significand below `2^53`.
`Y` is the result itself or at least half a unit `U` away from `A`, whether it lies on the grid of the result
(`k ≤ k'`) or on a finer one (`k' < k`). -/
theorem half_ulp_away {A U m d k k' m' : Nat} (hUdef : U = d * 2 ^ k)
    (half_lo : 2 * (m * U) ≤ 2 * A + U) (half_hi : 2 * A ≤ 2 * (m * U) + U)
    (lower : 0 < k → 2 ^ 52 * U ≤ A) (hm' : m' < 2 ^ 53) :
    m' * 2 ^ k' * d = m * U ∨ 2 * (m' * 2 ^ k' * d) + U ≤ 2 * A ∨ 2 * A + U ≤ 2 * (m' * 2 ^ k' * d) := by
  by_cases hkk : k ≤ k'
  · obtain ⟨j, rfl⟩ : ∃ j, k' = k + j := ⟨k' - k, by omega⟩
    have hY : m' * 2 ^ (k + j) * d = (m' * 2 ^ j) * U := by
      rw [hUdef, Nat.pow_add]; ring
    rw [hY]
    generalize m' * 2 ^ j = c
    rcases Nat.lt_trichotomy c m with hlt | heq | hgt
    · have h1 : (c + 1) * U ≤ m * U := Nat.mul_le_mul_right _ hlt
      rw [Nat.add_mul, Nat.one_mul] at h1
      exact Or.inr (away_of_multiple half_lo half_hi (Or.inl h1))
    · subst heq
      exact Or.inl rfl
    · have h1 : (m + 1) * U ≤ c * U := Nat.mul_le_mul_right _ hgt
      rw [Nat.add_mul, Nat.one_mul] at h1
      exact Or.inr (away_of_multiple half_lo half_hi (Or.inr h1))
  · obtain ⟨j, rfl⟩ : ∃ j, k = k' + 1 + j := ⟨k - k' - 1, by omega⟩
    have hU2 : U = 2 * (2 ^ k' * d) * 2 ^ j := by
      rw [hUdef, Nat.pow_add, Nat.pow_succ]; ring
    have h1 : 2 * (2 ^ k' * d) ≤ U := by
      rw [hU2]; exact Nat.le_mul_of_pos_right _ (Nat.two_pow_pos j)
    have h2 : 2 * (m' * 2 ^ k' * d) ≤ m' * U := by
      have : 2 * (m' * 2 ^ k' * d) = m' * (2 * (2 ^ k' * d)) := by ring
      rw [this]; exact Nat.mul_le_mul_left _ h1
    have h3 : (m' + 1) * U ≤ 2 ^ 53 * U := Nat.mul_le_mul_right _ hm'
    rw [Nat.add_mul, Nat.one_mul] at h3
    exact Or.inr (Or.inl (away_of_finer (lower (by omega)) h2 h3))

theorem natAbs_le_of_away {A U X Y : Nat} (half_lo : 2 * X ≤ 2 * A + U) (half_hi : 2 * A ≤ 2 * X + U)
    (h : 2 * Y + U ≤ 2 * A ∨ 2 * A + U ≤ 2 * Y) : ((A : Int) - (X : Int)).natAbs ≤ ((A : Int) - (Y : Int)).natAbs := by
  omega

theorem nearest_core {A U m d k k' m' : Nat} (hUdef : U = d * 2 ^ k)
    (half_lo : 2 * (m * U) ≤ 2 * A + U) (half_hi : 2 * A ≤ 2 * (m * U) + U)
    (lower : 0 < k → 2 ^ 52 * U ≤ A) (hm' : m' < 2 ^ 53) :
    ((A : Int) - ((m * U : Nat) : Int)).natAbs ≤ ((A : Int) - ((m' * 2 ^ k' * d : Nat) : Int)).natAbs := by
  rcases half_ulp_away (k' := k') hUdef half_lo half_hi lower hm' with h | h
  · rw [h]
  · exact natAbs_le_of_away half_lo half_hi h

theorem natAbs_cross {X Z a b : Int} {P rd yd : Nat} (hP : 0 < P) (hX : X * P = a * rd) (hZ : Z * P = b * yd)
    (hab : a.natAbs ≤ b.natAbs) : X.natAbs * yd ≤ Z.natAbs * rd := by
  have h1 : X.natAbs * P = a.natAbs * rd := by
    have := congrArg Int.natAbs hX
    simpa [Int.natAbs_mul] using this
  have h2 : Z.natAbs * P = b.natAbs * yd := by
    have := congrArg Int.natAbs hZ
    simpa [Int.natAbs_mul] using this
  have h3 : X.natAbs * yd * P ≤ Z.natAbs * rd * P := by
    calc X.natAbs * yd * P = a.natAbs * rd * yd := by rw [Nat.mul_right_comm, h1]
      _ ≤ b.natAbs * rd * yd := Nat.mul_le_mul_right _ (Nat.mul_le_mul_right _ hab)
      _ = Z.natAbs * rd * P := by rw [Nat.mul_right_comm Z.natAbs, h2]; ring
  exact Nat.le_of_mul_le_mul_right h3 hP

theorem natAbs_sub_neg_le {p q : Int} (hp : 0 ≤ p) (hq : 0 ≤ -q) : (p - -q).natAbs ≤ (p - q).natAbs := by
  omega

/-- the cross-multiplied distance of `n/d` from a value `xn/xd = M / P`, after scaling by `P`. -/
theorem scale_diff {n d xn xd M P : Nat} (F : xn * P = M * xd) :
    ((n : Int) * (xd : Int) - (xn : Int) * (d : Int)) * (P : Int) =
      (((n * P : Nat) : Int) - ((M * d : Nat) : Int)) * (xd : Int) := by
  have F' : (xn : Int) * (P : Int) = (M : Int) * (xd : Int) := by exact_mod_cast F
  push_cast
  linear_combination (-(d : Int)) * F'

/-- round to nearest for a positive input and a non-negative candidate `y / yd`. -/
theorem nearest_pos {O n d m k : Nat} {e : Int} (S : PosSpec O n d m e k)
    (y yd m' : Nat) (e' : Int) (hm' : m' < 2 ^ 53) (he' : -(O : Int) ≤ e')
    (hy : if e' ≥ 0 then y = m' * 2 ^ e'.toNat * yd else y * 2 ^ (-e').toNat = m' * yd) :
    ((n : Int) * (magDen (m, e) : Nat) - (magNum (m, e) : Nat) * (d : Int)).natAbs * yd ≤
      ((n : Int) * yd - (y : Int) * d).natAbs * magDen (m, e) := by
  obtain ⟨k', hk'⟩ : ∃ k' : Nat, e' = (k' : Int) - (O : Int) := ⟨(e' + O).toNat, by omega⟩
  have c1 := nearest_core (A := n * 2 ^ O) (U := d * 2 ^ k) (m := m) (d := d) (k := k) (k' := k') (m' := m') rfl
    S.half_lo S.half_hi S.lower hm'
  have hX := scale_diff (n := n) (d := d) (eqPow2_scaled O k S.hk (mag_eqPow2 m e))
  rw [Nat.mul_assoc m, Nat.mul_comm (2 ^ k) d] at hX
  exact natAbs_cross (Nat.two_pow_pos O) hX (scale_diff (eqPow2_scaled O k' hk' hy)) c1

/-- a candidate `yn / yd` of either sign is no nearer to a positive input than `|yn| / yd`. -/
theorem roundDouble_nearest_pos (num : Int) (den : Nat) (r : Dbl) (hden : 0 < den) (hnum : 0 < num)
    (h : roundDouble num den = some r)
    (yn : Int) (yd m' : Nat) (e' : Int) (hm' : m' < 2 ^ 53) (he' : -1074 ≤ e')
    (hy : if e' ≥ 0 then yn.natAbs = m' * 2 ^ e'.toNat * yd else yn.natAbs * 2 ^ (-e').toNat = m' * yd) :
    (num * r.den - r.num * den).natAbs * yd ≤ (num * yd - yn * den).natAbs * r.den := by
  obtain ⟨m, e, k, S, hcase⟩ := roundDouble_shape (num := num) (den := den) (by omega) hden
  rcases hcase with ⟨_, h2⟩ | ⟨_, h2⟩
  · rw [h2] at h; cases h
  · rw [h2] at h
    cases h
    have hneg : ¬ num < 0 := by omega
    simp only [hneg, if_false, Int.one_mul]
    have := nearest_pos S yn.natAbs yd m' e' hm' (by omega) hy
    rw [show ((num.natAbs : Nat) : Int) = num by omega] at this
    refine Nat.le_trans this (Nat.mul_le_mul_right _ ?_)
    have hp : 0 ≤ num * (yd : Int) := Int.mul_nonneg (by omega) (by omega)
    rcases Int.natAbs_eq yn with hyn | hyn
    · rw [← hyn]
    · have hq : 0 ≤ (yn.natAbs : Int) * (den : Int) := Int.mul_nonneg (by omega) (by omega)
      rw [show (yn.natAbs : Int) = -yn by omega, Int.neg_mul] at hq ⊢
      exact natAbs_sub_neg_le hp hq

/-! Scaled: `A` the exact value, `U` the unit of the result `m * U`, `2 * W` the unit of the top binade; the threshold
is `(2^54 − 1) * W`, half-way between the largest finite value `(2^53 − 1) * (2 * W)` and `2^53 * (2 * W)`. -/

theorem thr_below {A U W : Nat} (hU : U ≤ W) (hW : 0 < W) (upper : A < 2 ^ 53 * U) : ¬ (2 ^ 54 - 1) * W ≤ A := by
  omega

theorem thr_above {A U W : Nat} (hU : 4 * W ≤ U) (lower : 2 ^ 52 * U ≤ A) : (2 ^ 54 - 1) * W ≤ A := by
  omega

/-- in the top binade the significand is rounded up to `2^53` exactly from the threshold on: at the threshold itself
because the tie goes to the even `2^53`, not to the odd `2^53 − 1`. -/
theorem thr_top {A U W m : Nat} (hU : U = 2 * W) (hW : 0 < W) (m_le : m ≤ 2 ^ 53)
    (half_lo : 2 * (m * U) ≤ 2 * A + U) (half_hi : 2 * A ≤ 2 * (m * U) + U)
    (tie : (2 * (m * U) = 2 * A + U ∨ 2 * A = 2 * (m * U) + U) → m % 2 = 0) :
    m ≥ 2 ^ 53 ↔ (2 ^ 54 - 1) * W ≤ A := by
  constructor
  · intro h
    have : 2 ^ 53 * U ≤ m * U := Nat.mul_le_mul_right _ h
    omega
  · intro h
    by_contra hm
    by_cases hm2 : m + 2 ≤ 2 ^ 53
    · have : (m + 2) * U ≤ 2 ^ 53 * U := Nat.mul_le_mul_right _ hm2
      rw [Nat.add_mul] at this
      omega
    · have hodd : ¬ m % 2 = 0 := by omega
      have hnt : ¬ (2 * A = 2 * (m * U) + U) := fun hh => hodd (tie (Or.inr hh))
      have : (m + 1) * U = 2 ^ 53 * U := by rw [show m + 1 = 2 ^ 53 by omega]
      rw [Nat.add_mul, Nat.one_mul] at this
      omega

theorem thr_scaled (c a O den n : Nat) : c * (den * 2 ^ (a + O)) ≤ n * 2 ^ O ↔ c * 2 ^ a * den ≤ n := by
  have e : c * (den * 2 ^ (a + O)) = c * 2 ^ a * den * 2 ^ O := by rw [Nat.pow_add]; ring
  rw [e]
  exact Nat.mul_le_mul_right_iff (Nat.two_pow_pos O)

/-- the overflow test against the threshold, with the offset `O` (= 1074) and `a` (= 970) as parameters. -/
theorem ovf_iff_thr {O a n den m k : Nat} {e : Int} (ha : (a : Int) + 1 = 971) (hden : 0 < den)
    (S : PosSpec O n den m e k) : Ovf m e ↔ (2 ^ 54 - 1) * 2 ^ a * den ≤ n := by
  have hk := S.hk
  have hW : 0 < den * 2 ^ (a + O) := Nat.mul_pos hden (Nat.two_pow_pos _)
  rw [← thr_scaled]
  unfold Ovf
  rcases Nat.lt_trichotomy k (a + O + 1) with hlt | heq | hgt
  · have hU : den * 2 ^ k ≤ den * 2 ^ (a + O) :=
      Nat.mul_le_mul_left _ (Nat.pow_le_pow_right (by omega) (by omega))
    have := thr_below hU hW S.upper
    exact ⟨fun h => by omega, fun h => absurd h this⟩
  · subst heq
    have hU : den * 2 ^ (a + O + 1) = 2 * (den * 2 ^ (a + O)) := by rw [Nat.pow_succ]; ring
    rw [← thr_top hU hW S.m_le S.half_lo S.half_hi S.tie]
    exact ⟨fun h => by omega, fun h => Or.inr ⟨by omega, h⟩⟩
  · have hU : 4 * (den * 2 ^ (a + O)) ≤ den * 2 ^ k := by
      have : 2 ^ (a + O + 2) ≤ 2 ^ k := Nat.pow_le_pow_right (by omega) (by omega)
      rw [Nat.pow_add] at this
      calc 4 * (den * 2 ^ (a + O)) = den * (2 ^ (a + O) * 2 ^ 2) := by ring
        _ ≤ den * 2 ^ k := Nat.mul_le_mul_left _ this
    have := thr_above hU (S.lower (by omega))
    exact ⟨fun _ => this, fun _ => Or.inl (by omega)⟩

/-- a value `m' * 2^e'` with `m' < 2^53`, `e' ≤ 971` is below the overflow threshold (parameters as in `ovf_iff_thr`). -/
theorem below_thr {O a n den m' k' : Nat} (hden : 0 < den) (hm' : m' < 2 ^ 53) (hk2 : k' ≤ a + O + 1)
    (F2 : n * 2 ^ O = m' * 2 ^ k' * den) : ¬ (2 ^ 54 - 1) * 2 ^ a * den ≤ n := by
  intro hthr
  have h1 : 2 ^ k' ≤ 2 ^ (a + O + 1) := Nat.pow_le_pow_right (by omega) hk2
  have h2 := (thr_scaled _ a O den n).2 hthr
  have e2 : 2 ^ (a + O + 1) = 2 * 2 ^ (a + O) := by rw [Nat.pow_succ, Nat.mul_comm]
  have h3 : m' * 2 ^ k' * den ≤ (2 ^ 53 - 1) * (2 * 2 ^ (a + O)) * den := by
    apply Nat.mul_le_mul_right
    rw [← e2]
    exact Nat.mul_le_mul (by omega) h1
  have e3 : (2 ^ 53 - 1) * (2 * 2 ^ (a + O)) * den = ((2 ^ 53 - 1) * 2) * (den * 2 ^ (a + O)) := by
    generalize (2 ^ 53 - 1 : Nat) = c
    ring
  have hW : 0 < den * 2 ^ (a + O) := Nat.mul_pos hden (Nat.two_pow_pos _)
  have h4 : (2 ^ 54 - 1) * (den * 2 ^ (a + O)) ≤ (2 ^ 53 - 1) * 2 * (den * 2 ^ (a + O)) :=
    e3 ▸ Nat.le_trans h2 (F2 ▸ h3)
  exact absurd (Nat.le_of_mul_le_mul_right h4 hW) (by decide)

end Dsw
