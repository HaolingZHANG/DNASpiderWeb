import DswModel.Model.Spiderweb
import DswModel.Lemmas.Defs
import DswModel.Lemmas.DeBruijn
import DswModel.Lemmas.Convert3
/-! The vertex-set notions of C03 (masks are `Array Bool` of size `4^k`; `m.has v` is membership)
and helper lemmas for the trimming loop of `connect_coding_graph` (thresholds ≥ 2 and phase 1). -/
namespace Dsw

def Mask.has (m : Mask) (v : Nat) : Prop := m.getD v false = true

def Mask.Sub (s t : Mask) : Prop := ∀ v, s.has v → t.has v

/-- number of shift-successors of `v` that lie in `S`. -/
def succIn (k : Nat) (s : Mask) (v : Nat) : Nat :=
  ((obtainLatters k v).filter fun w => s.getD w false).length

def Closed (k t : Nat) (s : Mask) : Prop := ∀ v, s.has v → t ≤ succIn k s v

/-- `v` can reach, inside `S`, a vertex with two or more successors in `S`. -/
inductive ReachesBranching (k : Nat) (s : Mask) : Nat → Prop
  | here (v : Nat) : s.has v → 2 ≤ succIn k s v → ReachesBranching k s v
  | step (v w : Nat) : s.has v → w ∈ obtainLatters k v → s.has w → ReachesBranching k s w →
      ReachesBranching k s v

/-- the threshold-1 notion: at least one retained successor and a branching vertex in reach. -/
def Closed1 (k : Nat) (s : Mask) : Prop :=
  ∀ v, s.has v → 1 ≤ succIn k s v ∧ ReachesBranching k s v

theorem Mask.Sub.refl (a : Mask) : a.Sub a := fun _ h => h

theorem Mask.Sub.trans {a b c : Mask} (h1 : a.Sub b) (h2 : b.Sub c) : a.Sub c :=
  fun v h => h2 v (h1 v h)

end Dsw

namespace Dsw.Trim

theorem sublist_filter {α} {p : α → Bool} {l' l : List α} (h : l'.Sublist l)
    (hp : ∀ x ∈ l', p x = true) : l'.Sublist (l.filter p) := by
  have := h.filter p
  rwa [List.filter_eq_self.2 hp] at this

theorem filter_length_mono_mem {α} (p q : α → Bool) (l : List α)
    (h : ∀ x ∈ l, p x = true → q x = true) : (l.filter p).length ≤ (l.filter q).length :=
  (sublist_filter List.filter_sublist fun x hx =>
    h x (List.mem_filter.1 hx).1 (List.mem_filter.1 hx).2).length_le

theorem filter_length_mono {α} (p q : α → Bool) (hpq : ∀ x, p x = true → q x = true) (l : List α) :
    (l.filter p).length ≤ (l.filter q).length :=
  filter_length_mono_mem p q l fun x _ => hpq x

theorem filter_length_lt {α} (p q : α → Bool) (hpq : ∀ x, p x = true → q x = true) (l : List α)
    (x : α) (hx : x ∈ l) (hq : q x = true) (hp : p x = false) :
    (l.filter p).length < (l.filter q).length := by
  have hs : (l.filter p).Sublist (l.filter q) :=
    sublist_filter List.filter_sublist fun y hy => hpq y (List.mem_filter.1 hy).2
  -- equal lengths would make the two filtered lists equal, and `x` is only in the second
  refine Nat.lt_of_le_of_ne hs.length_le fun he => ?_
  have hxp : x ∈ l.filter p := hs.eq_of_length he ▸ List.mem_filter.2 ⟨hx, hq⟩
  rw [(List.mem_filter.1 hxp).2] at hp
  cases hp

/-- pointwise inclusion of masks (definitionally `Mask.Sub`). -/
def Mask.Le (a b : Mask) : Prop := ∀ v, a.getD v false = true → b.getD v false = true

theorem Mask.getD_toList (m : Mask) (i : Nat) : m.toList.getD i false = m.getD i false := by
  simp [List.getD_eq_getElem?_getD, Array.getD_eq_getD_getElem?]

theorem Mask.lt_size_of_getD {m : Mask} {v : Nat} (h : m.getD v false = true) : v < m.size := by
  by_cases hv : v < m.size
  · exact hv
  · simp [Array.getD_eq_getD_getElem?, Array.getElem?_eq_none (Nat.le_of_not_lt hv)] at h

theorem Mask.ext {a b : Mask} (hs : a.size = b.size) (h : ∀ v, a.getD v false = b.getD v false) :
    a = b := by
  apply Array.ext hs
  intro i h1 h2
  have := h i
  simpa [Array.getD, h1, h2] using this

theorem Mask.mem_indices {m : Mask} {v : Nat} : v ∈ m.indices ↔ m.getD v false = true := by
  unfold Mask.indices
  simp only [List.mem_filter, List.mem_range]
  exact ⟨fun h => h.2, fun h => ⟨Mask.lt_size_of_getD h, h⟩⟩

/-- the count of a mask is the number of its indices; the facts about `count` below are facts
about filtering `List.range`. -/
theorem Mask.count_eq (m : Mask) : m.count = m.indices.length := by
  have : m.toList = (List.range m.size).map fun v => m.getD v false := by
    apply List.ext_getElem
    · simp
    · intro i h1 h2
      simp only [Array.length_toList] at h1
      simp [Array.getD, h1]
  unfold Mask.count Mask.indices
  rw [this, List.filter_map, List.length_map]
  rfl

theorem Mask.count_le_size (m : Mask) : m.count ≤ m.size := by
  rw [Mask.count_eq]
  have := List.length_filter_le (fun v => m.getD v false) (List.range m.size)
  rwa [List.length_range] at this

theorem Mask.count_le_of_le {a b : Mask} (hs : a.size = b.size) (h : Mask.Sub a b) :
    a.count ≤ b.count := by
  rw [Mask.count_eq, Mask.count_eq]
  unfold Mask.indices
  rw [hs]
  exact filter_length_mono _ _ h _

theorem Mask.eq_of_le_of_count {a b : Mask} (hs : a.size = b.size) (h : Mask.Sub a b)
    (hc : b.count = a.count) : a = b := by
  apply Mask.ext hs
  intro v
  cases hb : b.getD v false with
  | false => cases ha : a.getD v false with
    | false => rfl
    | true => rw [h v ha] at hb; cases hb
  | true => cases ha : a.getD v false with
    | true => rfl
    | false =>
      -- a vertex of `b` missing from `a` would make the count of `a` strictly smaller
      have := filter_length_lt _ _ h (List.range b.size) v
        (List.mem_range.2 (Mask.lt_size_of_getD hb)) hb ha
      rw [Mask.count_eq, Mask.count_eq] at hc
      unfold Mask.indices at hc
      rw [hs] at hc
      omega

theorem Mask.exists_of_count_pos {m : Mask} (h : 1 ≤ m.count) :
    ∃ v, v < m.size ∧ m.getD v false = true := by
  rw [Mask.count_eq] at h
  obtain ⟨v, hv⟩ := List.exists_mem_of_length_pos h
  have hv' := Mask.mem_indices.1 hv
  exact ⟨v, Mask.lt_size_of_getD hv', hv'⟩

theorem Mask.count_zero_of_forall {m : Mask} (h : ∀ v, m.getD v false ≠ true) : m.count = 0 := by
  by_cases hc : 1 ≤ m.count
  · obtain ⟨v, _, hv⟩ := Mask.exists_of_count_pos hc
    exact absurd hv (h v)
  · omega

theorem Mask.indices_eq_nil {m : Mask} (h : ∀ v, ¬ m.getD v false = true) : m.indices = [] :=
  List.eq_nil_iff_forall_not_mem.2 fun v hv => h v (Mask.mem_indices.1 hv)

theorem Mask.indices_ne_nil_of_count_pos {m : Mask} (h : 1 ≤ m.count) : m.indices ≠ [] := by
  rw [Mask.count_eq] at h
  exact List.ne_nil_of_length_pos h

theorem Mask.count_pos_of_getD {m : Mask} {v : Nat} (h : m.getD v false = true) : 1 ≤ m.count := by
  rw [Mask.count_eq]
  exact List.length_pos_of_mem (Mask.mem_indices.2 h)

theorem succIn_mono {k : Nat} {a b : Mask} (h : Mask.Sub a b) (v : Nat) :
    succIn k a v ≤ succIn k b v :=
  filter_length_mono _ _ (fun w hw => h w hw) _

theorem trimStep_size (k t : Nat) (m : Mask) : (trimStep k t m).size = 4 ^ k := by
  simp [trimStep]

theorem trimStep_getD (k t : Nat) (m : Mask) (v : Nat) :
    (trimStep k t m).getD v false =
      (decide (v < 4 ^ k) && (m.getD v false && decide (t ≤ succIn k m v))) := by
  unfold trimStep succIn
  by_cases hv : v < 4 ^ k
  · rw [getD_range_map _ _ _ _ hv, decide_eq_true hv, Bool.true_and]
  · simp [Array.getD, hv]

theorem trimStep_le (k t : Nat) (m : Mask) : Mask.Sub (trimStep k t m) m := by
  intro v (h : (trimStep k t m).getD v false = true)
  rw [trimStep_getD] at h
  simp only [Bool.and_eq_true, decide_eq_true_eq] at h
  exact h.2.1

theorem trimStep_mono {k t : Nat} {a b : Mask} (h : Mask.Le a b) :
    Mask.Le (trimStep k t a) (trimStep k t b) := by
  intro v hv
  rw [trimStep_getD] at hv ⊢
  simp only [Bool.and_eq_true, decide_eq_true_eq] at hv ⊢
  exact ⟨hv.1, h v hv.2.1, Nat.le_trans hv.2.2 (succIn_mono h v)⟩

theorem trimStep_closed_le {k t : Nat} {c m : Mask} (hm : m.size = 4 ^ k) (hcm : Mask.Sub c m)
    (hc : Closed k t c) : Mask.Sub c (trimStep k t m) := by
  intro v hv
  show (trimStep k t m).getD v false = true
  rw [trimStep_getD]
  have h1 := hcm v hv
  have h2 := Mask.lt_size_of_getD h1
  simp only [Bool.and_eq_true, decide_eq_true_eq]
  exact ⟨by omega, h1, Nat.le_trans (hc v hv) (succIn_mono hcm v)⟩

theorem closed_of_trimStep_eq {k t : Nat} {m : Mask} (h : trimStep k t m = m) :
    Closed k t m := by
  intro v (hv : m.getD v false = true)
  rw [← h, trimStep_getD] at hv
  simp only [Bool.and_eq_true, decide_eq_true_eq] at hv
  exact hv.2.2

theorem trimLoop_succ (k t f : Nat) (m : Mask) :
    trimLoop k t (f + 1) m =
      if (trimStep k t m).count < 1 then .error .valueError
      else if m.count = (trimStep k t m).count then .ok m
      else trimLoop k t f (trimStep k t m) := rfl

theorem trimLoop_ok (k t : Nat) : ∀ (f : Nat) (m s : Mask), m.size = 4 ^ k →
    trimLoop k t f m = .ok s →
      s.size = 4 ^ k ∧ Mask.Sub s m ∧ Closed k t s ∧
      (∀ c : Mask, Mask.Sub c m → Closed k t c → Mask.Sub c s) ∧ 1 ≤ s.count := by
  intro f
  induction f with
  | zero => intro m s _ h; simp [trimLoop] at h
  | succ f ih =>
    intro m s hm h
    rw [trimLoop_succ] at h
    by_cases hpos : (trimStep k t m).count < 1
    · rw [if_pos hpos] at h; cases h
    · rw [if_neg hpos] at h
      by_cases heq : m.count = (trimStep k t m).count
      · rw [if_pos heq] at h
        cases h
        have hfix : trimStep k t m = m :=
          Mask.eq_of_le_of_count (by rw [trimStep_size, hm]) (trimStep_le k t m) heq
        exact ⟨hm, Mask.Sub.refl _, closed_of_trimStep_eq hfix, fun c hc _ => hc, by omega⟩
      · rw [if_neg heq] at h
        obtain ⟨h1, h2, h3, h4, h5⟩ := ih _ _ (trimStep_size k t m) h
        exact ⟨h1, h2.trans (trimStep_le k t m), h3,
          fun c hcm hc => h4 c (trimStep_closed_le hm hcm hc) hc, h5⟩

/-- with more fuel than marked vertices the loop can only fail with `ValueError`, and then no
closed subset of the input has a vertex. -/
theorem trimLoop_error (k t : Nat) : ∀ (f : Nat) (m : Mask) (e : PyErr), m.size = 4 ^ k →
    m.count < f → trimLoop k t f m = .error e →
      e = .valueError ∧
      ∀ c : Mask, Mask.Sub c m → Closed k t c → ∀ v, ¬ c.getD v false = true := by
  intro f
  induction f with
  | zero => intro m e _ h; omega
  | succ f ih =>
    intro m e hm hf h
    rw [trimLoop_succ] at h
    by_cases hzero : (trimStep k t m).count < 1
    · rw [if_pos hzero] at h
      cases h
      refine ⟨rfl, fun c hcm hc v hv => ?_⟩
      have h1 := trimStep_closed_le hm hcm hc v hv
      have h2 := Mask.count_pos_of_getD h1
      omega
    · rw [if_neg hzero] at h
      by_cases hne : m.count = (trimStep k t m).count
      · rw [if_pos hne] at h; cases h
      · rw [if_neg hne] at h
        have hle := Mask.count_le_of_le (by rw [trimStep_size, hm]) (trimStep_le k t m)
        obtain ⟨h1, h2⟩ := ih _ e (trimStep_size k t m) (by omega) h
        exact ⟨h1, fun c hcm hc => h2 c (trimStep_closed_le hm hcm hc) hc⟩

theorem trimLoop_ok_closed {k t f : Nat} {m s : Mask} (hm : m.size = 4 ^ k)
    (h : trimLoop k t f m = .ok s) : s.size = 4 ^ k ∧ Mask.Sub s m ∧ Closed k t s :=
  have := trimLoop_ok k t f m s hm h
  ⟨this.1, this.2.1, this.2.2.1⟩

theorem trimLoop_ok_max {k t f : Nat} {m s : Mask} (hm : m.size = 4 ^ k)
    (h : trimLoop k t f m = .ok s) {c : Mask} (hcm : Mask.Sub c m) (hc : Closed k t c) :
    Mask.Sub c s :=
  (trimLoop_ok k t f m s hm h).2.2.2.1 c hcm hc

theorem trimLoop_ok_count_pos {k t f : Nat} {m s : Mask} (hm : m.size = 4 ^ k)
    (h : trimLoop k t f m = .ok s) : 1 ≤ s.count :=
  (trimLoop_ok k t f m s hm h).2.2.2.2

/-- `4^k + 1` rounds of fuel always suffice. -/
theorem trimLoop_ne_outOfFuel {k t : Nat} {m : Mask} (hm : m.size = 4 ^ k) :
    trimLoop k t (4 ^ k + 1) m ≠ .error .outOfFuel := by
  intro h
  have := Mask.count_le_size m
  have := (trimLoop_error k t _ m _ hm (by omega) h).1
  cases this

theorem mem_obtainLatters_trim {k v w : Nat} :
    w ∈ obtainLatters k v ↔ ∃ j, j < 4 ∧ w = (v * 4 + j) % 4 ^ k :=
  mem_obtainLatters k v w

theorem inducedAccessor_ent_nonneg {k : Nat} {s : Mask} {v j : Nat} (hv : v < 4 ^ k) (hj : j < 4) :
    0 ≤ (inducedAccessor k s).ent v j ↔
      s.getD v false = true ∧ s.getD ((v * 4 + j) % 4 ^ k) false = true := by
  rw [inducedAccessor_ent k s v j hv hj]
  by_cases hc : s.getD v false = true ∧ s.getD ((v * 4 + j) % 4 ^ k) false = true
  · rw [if_pos hc]; exact ⟨fun _ => hc, fun _ => Int.natCast_nonneg _⟩
  · rw [if_neg hc]; exact ⟨fun h => absurd h (by decide), fun h => absurd h hc⟩

theorem inducedAccessor_row_any (k : Nat) (s : Mask) (v : Nat) (hv : v < 4 ^ k) :
    (((inducedAccessor k s).getD v #[]).any fun e => e + 1 != 0) =
      (s.getD v false && decide (1 ≤ succIn k s v)) := by
  rw [(wfdb_induced k s).hasArcs_iff hv, Bool.eq_iff_iff, decide_eq_true_iff,
    Bool.and_eq_true, decide_eq_true_iff]
  constructor
  · intro h
    obtain ⟨j, hj⟩ := List.exists_mem_of_ne_nil _ h
    obtain ⟨hj4, he⟩ := (Acc.mem_live _ _ _).1 hj
    obtain ⟨h1, h2⟩ := (inducedAccessor_ent_nonneg hv hj4).1 he
    exact ⟨h1, List.length_pos_of_mem
      (List.mem_filter.2 ⟨(mem_obtainLatters k v _).2 ⟨j, hj4, rfl⟩, h2⟩)⟩
  · rintro ⟨h1, h2⟩
    obtain ⟨w, hw⟩ := List.exists_mem_of_length_pos h2
    obtain ⟨hw1, hw2⟩ := List.mem_filter.1 hw
    obtain ⟨j, hj4, rfl⟩ := (mem_obtainLatters k v w).1 hw1
    exact List.ne_nil_of_mem
      ((Acc.mem_live _ _ _).2 ⟨hj4, (inducedAccessor_ent_nonneg hv hj4).2 ⟨h1, hw2⟩⟩)

theorem trimStep_one_of_closed {k : Nat} {s : Mask} (hs : s.size = 4 ^ k) (hc : Closed k 1 s) :
    trimStep k 1 s = s := by
  apply Mask.ext (by rw [trimStep_size, hs])
  intro v
  rw [trimStep_getD, Bool.eq_iff_iff]
  simp only [Bool.and_eq_true, decide_eq_true_eq]
  constructor
  · rintro ⟨_, h, _⟩; exact h
  · intro h
    exact ⟨hs ▸ Mask.lt_size_of_getD h, h, hc v h⟩

theorem obtainVertices_induced (k : Nat) (m : Mask) :
    obtainVertices (inducedAccessor k m) = (trimStep k 1 m).indices := by
  unfold obtainVertices Mask.indices
  rw [inducedAccessor_size, trimStep_size]
  apply List.filter_congr
  intro v hv
  rw [List.mem_range] at hv
  rw [inducedAccessor_row_any k m v hv, trimStep_getD, decide_eq_true hv, Bool.true_and]

theorem obtainVertices_inducedAccessor {k t : Nat} {s : Mask} (hs : s.size = 4 ^ k) (ht : 1 ≤ t)
    (hc : Closed k t s) : obtainVertices (inducedAccessor k s) = s.indices := by
  rw [obtainVertices_induced, trimStep_one_of_closed hs fun v hv => Nat.le_trans ht (hc v hv)]

/-- reading an accessor at an `Int` row index: Python wraps a negative index around once (`i`); an
index that is then inside the table reads that row, any other reads `-1`. -/
theorem Acc.ent_int (a : Acc) (v : Int) (j : Nat) (i : Int)
    (hi : i = if v < 0 then v + a.size else v) :
    a.ent v j = if 0 ≤ i ∧ i < a.size then a.ent ((i.toNat : Nat) : Int) j else -1 := by
  subst hi
  rw [Acc.ent_natCast]
  unfold Acc.ent Acc.row
  exact apply_ite (fun r : Array Int => r.getD j (-1)) _ _ _

theorem inducedAccessor_ent_mono_nat {k : Nat} {s s' : Mask} (h : Mask.Sub s s') (v j : Nat)
    (hv : v < 4 ^ k) (hj : j < 4) (hent : 0 ≤ (inducedAccessor k s).ent v j) :
    (inducedAccessor k s').ent v j = (inducedAccessor k s).ent v j := by
  have hs := (inducedAccessor_ent_nonneg hv hj).1 hent
  rw [inducedAccessor_ent k s v j hv hj, inducedAccessor_ent k s' v j hv hj,
    if_pos ⟨h _ hs.1, h _ hs.2⟩, if_pos hs]

/-- enlarging the mask keeps every arc of the induced accessor (Python row index, negative
indices wrap). -/
theorem inducedAccessor_ent_mono {k : Nat} {s s' : Mask} (h : Mask.Sub s s') (v : Int) (j : Nat)
    (hj : j < 4) (hent : 0 ≤ (inducedAccessor k s).ent v j) :
    (inducedAccessor k s').ent v j = (inducedAccessor k s).ent v j := by
  obtain ⟨i, hi⟩ : ∃ i : Int, i = if v < 0 then v + ((4 ^ k : Nat) : Int) else v := ⟨_, rfl⟩
  rw [Acc.ent_int _ v j i (by rw [inducedAccessor_size]; exact hi),
    inducedAccessor_size] at hent ⊢
  rw [Acc.ent_int _ v j i (by rw [inducedAccessor_size]; exact hi), inducedAccessor_size]
  by_cases hlt : 0 ≤ i ∧ i < ((4 ^ k : Nat) : Int)
  · rw [if_pos hlt] at hent ⊢
    rw [if_pos hlt]
    exact inducedAccessor_ent_mono_nat h _ j (by omega) hj hent
  · rw [if_neg hlt] at hent; omega

theorem connectCodingGraph_eq (k : Nat) (m : Mask) (t : Nat) (ht : t ≠ 1) :
    connectCodingGraph k m t =
      (trimLoop k t (4 ^ k + 1) m).map fun s => (s.indices, inducedAccessor k s) := by
  unfold connectCodingGraph
  cases trimLoop k t (4 ^ k + 1) m with
  | error e => rfl
  | ok s => simp [ht, Except.map, bind, Except.bind, pure, Except.pure]

theorem connectCodingGraph_ok {k t : Nat} {m : Mask} (ht : t ≠ 1) {vs : List Nat} {a : Acc}
    (h : connectCodingGraph k m t = .ok (vs, a)) :
    ∃ s, trimLoop k t (4 ^ k + 1) m = .ok s ∧ vs = s.indices ∧ a = inducedAccessor k s := by
  rw [connectCodingGraph_eq k m t ht] at h
  cases hl : trimLoop k t (4 ^ k + 1) m with
  | error e => rw [hl] at h; cases h
  | ok s => rw [hl] at h; cases h; exact ⟨s, rfl, rfl, rfl⟩

theorem connectCodingGraph_error {k t : Nat} {m : Mask} (ht : t ≠ 1) {e : PyErr}
    (h : connectCodingGraph k m t = .error e) : trimLoop k t (4 ^ k + 1) m = .error e := by
  rw [connectCodingGraph_eq k m t ht] at h
  cases hl : trimLoop k t (4 ^ k + 1) m with
  | error e' => rw [hl] at h; cases h; rfl
  | ok s => rw [hl] at h; cases h

end Dsw.Trim
