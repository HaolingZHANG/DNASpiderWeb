import DswModel.Model.Capacity
import DswModel.Lemmas.Defs
import DswModel.Lemmas.DeBruijn
import DswModel.Lemmas.Convert3
import Mathlib.Algebra.Order.Field.Rat
import Mathlib.Tactic.Linarith
import Mathlib.Tactic.Positivity
/-! Helper lemmas for the power iteration (C17). -/
namespace Dsw

/-- all entries in `[0, 1]` (the all-ones start vector, `numpy.random.random`, and every
normalised eigenvector). -/
def VecIn01 (x : Vec) : Prop := ∀ i, 0 ≤ x.getD i 0 ∧ x.getD i 0 ≤ 1

/-- `A x` restricted to row `v`: sum of `x` over the live successors of `v`. -/
def applyRow (a : Acc) (x : Vec) (v : Nat) : Rat :=
  (a.liveEntries (v : Int)).foldl (fun s w => s + x.getD w 0) 0

/-- number of live successors of `v` that are themselves live (have an arc). -/
def liveSucc (a : Acc) (v : Nat) : Nat :=
  ((a.liveEntries (v : Int)).filter fun (w : Nat) => decide (a.live (w : Int) ≠ [])).length

end Dsw

namespace Dsw.Power

theorem sum_map_mul_le (l : List Nat) (f g : Nat → Nat) (c d : Nat)
    (h : ∀ w ∈ l, c * f w ≤ d * g w) : c * (l.map f).sum ≤ d * (l.map g).sum := by
  induction l with
  | nil => simp
  | cons a l ih =>
    simp only [List.map_cons, List.sum_cons, Nat.mul_add]
    exact Nat.add_le_add (h a (by simp)) (ih fun w hw => h w (by simp [hw]))

theorem foldl_max_ge_init (l : List Rat) (i : Rat) : i ≤ l.foldl max i := by
  induction l generalizing i with
  | nil => exact le_refl _
  | cons a l ih => exact le_trans (le_max_left i a) (ih _)

theorem foldl_max_ge_mem (l : List Rat) (i x : Rat) (h : x ∈ l) : x ≤ l.foldl max i := by
  induction l generalizing i with
  | nil => cases h
  | cons a l ih =>
    rcases List.mem_cons.1 h with rfl | h
    · exact le_trans (le_max_right i x) (foldl_max_ge_init _ _)
    · exact ih _ h

theorem foldl_max_le (l : List Rat) (i b : Rat) (hi : i ≤ b) (h : ∀ x ∈ l, x ≤ b) :
    l.foldl max i ≤ b := by
  induction l generalizing i with
  | nil => exact hi
  | cons a l ih =>
    exact ih _ (max_le hi (h a (by simp))) fun x hx => h x (by simp [hx])

theorem foldl_add_bounds (l : List Nat) (f : Nat → Rat) (s : Rat)
    (h : ∀ w ∈ l, 0 ≤ f w ∧ f w ≤ 1) :
    s ≤ l.foldl (fun s w => s + f w) s ∧ l.foldl (fun s w => s + f w) s ≤ s + l.length := by
  induction l generalizing s with
  | nil => simp
  | cons a l ih =>
    have h1 := h a (by simp)
    have h2 := ih (s + f a) fun w hw => h w (by simp [hw])
    rw [List.foldl_cons, List.length_cons, Nat.cast_succ]
    refine ⟨le_trans (le_add_of_nonneg_right h1.1) h2.1, le_trans h2.2 ?_⟩
    rw [add_assoc, add_comm (f a)]
    exact add_le_add (le_refl s) (add_le_add (le_refl _) h1.2)

theorem liveEntries_length_le (a : Acc) (v : Int) : (a.liveEntries v).length ≤ 4 := by
  unfold Acc.liveEntries
  rw [List.length_map]; exact live_length_le a v

/-- the un-normalised product `A x`. -/
def capY (a : Acc) (x : Vec) : Vec :=
  (Array.range a.size).map fun (v : Nat) => applyRow a x v

def capEv (a : Acc) (x : Vec) : Rat := (capY a x).foldl max 0

theorem capStep_eq (a : Acc) (x : Vec) :
    capStep a x = (if capEv a x > 0 then (capY a x).map (· / capEv a x)
      else (capY a x).map (fun _ => 0), capEv a x) := rfl

theorem capY_size (a : Acc) (x : Vec) : (capY a x).size = a.size := by simp [capY]

theorem capY_getD (a : Acc) (x : Vec) (v : Nat) :
    (capY a x).getD v 0 = applyRow a x v := by
  by_cases hv : v < a.size
  · unfold capY; exact getD_range_map _ _ _ _ hv
  · rw [getD_of_size_le _ _ _ (by rw [capY_size]; omega), applyRow, Acc.liveEntries,
      Acc.live_oob a v (Nat.le_of_not_lt hv)]
    rfl

theorem getD_map (y : Vec) (f : Rat → Rat) (hf : f 0 = 0) (i : Nat) : (y.map f).getD i 0 = f (y.getD i 0) := by
  have h := getD_map_apply y f 0 i
  rwa [hf] at h

theorem mem_toList_iff_getD {α} (y : Array α) (d r : α) : r ∈ y.toList ↔ ∃ i, i < y.size ∧ y.getD i d = r := by
  rw [Array.mem_toList_iff, Array.mem_iff_getElem]
  constructor
  · rintro ⟨i, hi, rfl⟩; exact ⟨i, hi, by simp [Array.getD, hi]⟩
  · rintro ⟨i, hi, rfl⟩; exact ⟨i, hi, by simp [Array.getD, hi]⟩

theorem capY_bounds (a : Acc) (x : Vec) (hx : VecIn01 x) (v : Nat) :
    0 ≤ (capY a x).getD v 0 ∧ (capY a x).getD v 0 ≤ 4 := by
  have h := foldl_add_bounds (a.liveEntries (v : Int)) (fun w => x.getD w 0) 0 fun w _ => hx w
  have h4 : ((a.liveEntries (v : Int)).length : Rat) ≤ 4 := by
    exact_mod_cast liveEntries_length_le a v
  rw [zero_add] at h
  rw [capY_getD, applyRow]
  exact ⟨h.1, le_trans h.2 h4⟩

theorem capEv_nonneg (a : Acc) (x : Vec) : 0 ≤ capEv a x := by
  unfold capEv
  rw [← Array.foldl_toList]
  exact foldl_max_ge_init _ _

theorem capEv_le (a : Acc) (x : Vec) (b : Rat) (hb : 0 ≤ b) (h : ∀ v, (capY a x).getD v 0 ≤ b) : capEv a x ≤ b := by
  unfold capEv
  rw [← Array.foldl_toList]
  apply foldl_max_le _ _ _ hb
  intro r hr
  obtain ⟨i, _, rfl⟩ := (mem_toList_iff_getD _ 0 _).1 hr
  exact h i

theorem capEv_bounds (a : Acc) (x : Vec) (hx : VecIn01 x) : 0 ≤ capEv a x ∧ capEv a x ≤ 4 :=
  ⟨capEv_nonneg a x, capEv_le a x 4 (by norm_num) fun v => (capY_bounds a x hx v).2⟩

theorem capY_le_ev (a : Acc) (x : Vec) (v : Nat) : (capY a x).getD v 0 ≤ capEv a x := by
  by_cases hv : v < (capY a x).size
  · unfold capEv
    rw [← Array.foldl_toList]
    exact foldl_max_ge_mem _ _ _ ((mem_toList_iff_getD _ 0 _).2 ⟨v, hv, rfl⟩)
  · rw [getD_of_size_le _ _ _ (Nat.le_of_not_lt hv)]
    exact capEv_nonneg a x

/-- the normalised vector, entry by entry; when the estimate is `0` both sides are `0` (`y / 0 = 0`). -/
theorem capStep_getD (a : Acc) (x : Vec) (v : Nat) :
    (capStep a x).1.getD v 0 = (capY a x).getD v 0 / capEv a x := by
  rw [capStep_eq]
  by_cases hev : capEv a x > 0
  · rw [if_pos hev]
    exact getD_map _ (· / capEv a x) (zero_div _) v
  · rw [if_neg hev, getD_map _ _ rfl v, le_antisymm (not_lt.1 hev) (capEv_nonneg a x), div_zero]

theorem capStep_in01 (a : Acc) (x : Vec) (hx : VecIn01 x) : VecIn01 (capStep a x).1 := by
  intro i
  rw [capStep_getD]
  exact ⟨div_nonneg (capY_bounds a x hx i).1 (capEv_nonneg a x),
    div_le_one_of_le₀ (capY_le_ev a x i) (capEv_nonneg a x)⟩

def Pos4 (r : Rat) : Prop := 0 < r ∧ r ≤ 4

theorem clampEv_pos4 (tol x : Rat) (htol : 0 < tol) (hx : x ≤ 4) : Pos4 (clampEv tol x) := by
  unfold clampEv Pos4
  split
  · rename_i h
    exact ⟨lt_trans htol h, hx⟩
  · constructor <;> norm_num

theorem list_getD_prop {α} (P : α → Prop) (l : List α) (i : Nat) (d : α) (h0 : P d) (h : ∀ t ∈ l, P t) :
    P (l.getD i d) := by
  by_cases hi : i < l.length
  · simp only [List.getD_eq_getElem?_getD, List.getElem?_eq_getElem hi, Option.getD_some]
    exact h _ (List.getElem_mem hi)
  · simp only [List.getD_eq_getElem?_getD, List.getElem?_eq_none (Nat.le_of_not_lt hi), Option.getD_none]
    exact h0

theorem ratMedian_le (l : List Rat) (b : Rat) (hb : 0 ≤ b) (h : ∀ x ∈ l, x ≤ b) : ratMedian l ≤ b := by
  unfold ratMedian
  have hs : ∀ x ∈ isort (fun x y : Rat => decide (x ≤ y)) l, x ≤ b := fun x hx =>
    h x ((mem_isort _ _ _).1 hx)
  simp only
  split
  · exact list_getD_prop (· ≤ b) _ _ 0 hb hs
  · have h1 := list_getD_prop (· ≤ b) _ ((isort (fun x y : Rat => decide (x ≤ y)) l).length / 2 - 1) 0 hb hs
    have h2 := list_getD_prop (· ≤ b) _ ((isort (fun x y : Rat => decide (x ≤ y)) l).length / 2) 0 hb hs
    rw [div_le_iff₀ (by norm_num : (0 : Rat) < 2), mul_two]
    exact add_le_add h1 h2

theorem mem_ite_singleton {α} {c : Prop} [Decidable c] {x r : α} (h : r ∈ if c then [x] else []) : r = x := by
  split at h
  · exact List.mem_singleton.1 h
  · cases h

def loopRel (ev le : Rat) : Rat := if le > 0 then ratAbs (ev - le) / le else 0

def loopDiff (a : Acc) (new last : Vec) : Rat :=
  ((List.range a.size).map fun v => ratAbs (new.getD v 0 - last.getD v 0)).foldl max 0

def loopRes1 (a : Acc) (tol : Rat) (last : Vec) (le : Rat) : List Rat :=
  if loopRel (capStep a last).2 le < tol ∧ decide (loopDiff a (capStep a last).1 last < tol) then
    [clampEv tol (capStep a last).2] else []

def loopRes2 (tol : Rat) (maxIter : Nat) (queue : List Rat) : List Rat :=
  if queue.length > maxIter then [clampEv tol (ratMedian queue)] else []

theorem capLoop_none (a : Acc) (tol : Rat) (maxIter : Nat) (f : Nat) (last : Vec)
    (queue record : List Rat) :
    capLoop a tol maxIter (f + 1) last none queue record =
      capLoop a tol maxIter f (capStep a last).1 (some (capStep a last).2) queue
        (record ++ [clampEv tol (capStep a last).2]) := rfl

theorem capLoop_some (a : Acc) (tol : Rat) (maxIter : Nat) (f : Nat) (last : Vec)
    (le : Rat) (queue record : List Rat) :
    capLoop a tol maxIter (f + 1) last (some le) queue record =
      if loopRes1 a tol last le ++ loopRes2 tol maxIter (queue ++ [(capStep a last).2]) ≠ [] then
        some ⟨loopRes1 a tol last le ++ loopRes2 tol maxIter (queue ++ [(capStep a last).2]),
          record ++ [clampEv tol (capStep a last).2]⟩
      else capLoop a tol maxIter f (capStep a last).1 (some (capStep a last).2)
        (queue ++ [(capStep a last).2]) (record ++ [clampEv tol (capStep a last).2]) := rfl

theorem capLoop_bounds (a : Acc) (tol : Rat) (maxIter : Nat) (htol : 0 < tol) :
    ∀ (f : Nat) (last : Vec) (lastEv : Option Rat) (queue record : List Rat) (run : CapRun),
      VecIn01 last → (∀ r ∈ queue, r ≤ 4) → (∀ r ∈ record, Pos4 r) →
      capLoop a tol maxIter f last lastEv queue record = some run →
      (∀ r ∈ run.results, Pos4 r) ∧ ∀ r ∈ run.record, Pos4 r := by
  intro f
  induction f with
  | zero => intro last lastEv queue record run _ _ _ h; simp [capLoop] at h
  | succ f ih =>
    intro last lastEv queue record run hl hq hr h
    have hev := capEv_bounds a last hl
    have hv := capStep_in01 a last hl
    have hev2 : (capStep a last).2 ≤ 4 := hev.2
    have hrec : ∀ r ∈ record ++ [clampEv tol (capStep a last).2], Pos4 r :=
      List.forall_mem_append.2 ⟨hr, List.forall_mem_singleton.2 (clampEv_pos4 _ _ htol hev2)⟩
    cases lastEv with
    | none =>
      rw [capLoop_none] at h
      exact ih _ _ _ _ _ hv hq hrec h
    | some le =>
      rw [capLoop_some] at h
      have hq' : ∀ r ∈ queue ++ [(capStep a last).2], r ≤ 4 :=
        List.forall_mem_append.2 ⟨hq, List.forall_mem_singleton.2 hev2⟩
      split at h
      · cases h
        refine ⟨?_, hrec⟩
        intro r hr'
        simp only at hr'
        rcases List.mem_append.1 hr' with h' | h'
        · rw [mem_ite_singleton h']; exact clampEv_pos4 _ _ htol hev2
        · rw [mem_ite_singleton h']; exact clampEv_pos4 _ _ htol (ratMedian_le _ _ (by norm_num) hq')
      · exact ih _ _ _ _ _ hv hq' hrec h

theorem zeroDead_getD (a : Acc) (x : Vec) (v : Nat) (hv : v < a.size) :
    (zeroDead a x).getD v 0 = if (a.getD v #[]).foldl (· + ·) 0 == -4 then 0 else x.getD v 0 := by
  unfold zeroDead; exact getD_range_map _ _ _ _ hv

theorem zeroDead_size (a : Acc) (x : Vec) : (zeroDead a x).size = a.size := by simp [zeroDead]

theorem zeroDead_in01 (a : Acc) (x : Vec) (hx : VecIn01 x) : VecIn01 (zeroDead a x) := by
  intro i
  by_cases hi : i < a.size
  · rw [zeroDead_getD a x i hi]
    by_cases c : ((a.getD i #[]).foldl (· + ·) 0 == -4) = true
    · rw [if_pos c]; constructor <;> norm_num
    · rw [if_neg c]; exact hx i
  · rw [getD_of_size_le _ _ _ (by rw [zeroDead_size]; omega)]
    constructor <;> norm_num

/-- how `approximate_capacity` (exact or in double precision) adds the run of one repeat to what it has collected. -/
def addRun {α β ρ : Type} (results record : ρ → List β) (loop : α → Option ρ)
    (acc : Option (List β × List (List β))) (x0 : α) : Option (List β × List (List β)) :=
  match acc with
  | none => none
  | some (res, recs) =>
    match loop x0 with
    | none => none
    | some run => some (res ++ results run, recs ++ [record run])

section addRun
variable {α β ρ : Type} {results record : ρ → List β} {loop : α → Option ρ}

theorem foldl_addRun_none : ∀ starts : List α, starts.foldl (addRun results record loop) none = none
  | [] => rfl
  | _ :: l => foldl_addRun_none l

theorem foldl_addRun_cons (x : α) (l : List α) (res0 : List β) (recs0 : List (List β)) :
    (x :: l).foldl (addRun results record loop) (some (res0, recs0)) =
      (loop x).bind fun run => l.foldl (addRun results record loop) (some (res0 ++ results run, recs0 ++ [record run])) := by
  rw [List.foldl_cons]
  cases hrun : loop x with
  | none => simp only [addRun, hrun, foldl_addRun_none, Option.bind_none]
  | some run => simp only [addRun, hrun, Option.bind_some]

theorem foldl_addRun_forall (P : β → Prop) :
    ∀ (starts : List α) (res0 : List β) (recs0 : List (List β)) (res : List β) (recs : List (List β)),
      (∀ x ∈ starts, ∀ run, loop x = some run → (∀ r ∈ results run, P r) ∧ ∀ r ∈ record run, P r) →
      (∀ r ∈ res0, P r) → (∀ rec ∈ recs0, ∀ r ∈ rec, P r) →
      starts.foldl (addRun results record loop) (some (res0, recs0)) = some (res, recs) →
      (∀ r ∈ res, P r) ∧ ∀ rec ∈ recs, ∀ r ∈ rec, P r
  | [], res0, recs0, res, recs, _, h1, h2, h => by
    cases h
    exact ⟨h1, h2⟩
  | x :: l, res0, recs0, res, recs, hl, h1, h2, h => by
    rw [foldl_addRun_cons] at h
    obtain ⟨run, hrun, h⟩ := Option.bind_eq_some_iff.1 h
    obtain ⟨g1, g2⟩ := hl x (by simp) run hrun
    exact foldl_addRun_forall P l _ _ res recs (fun y hy => hl y (by simp [hy]))
      (List.forall_mem_append.2 ⟨h1, g1⟩) (List.forall_mem_append.2 ⟨h2, List.forall_mem_singleton.2 g2⟩) h

theorem foldl_addRun_some :
    ∀ (starts : List α) (res0 : List β) (recs0 : List (List β)), (∀ x ∈ starts, ∃ run, loop x = some run) →
      ∃ res recs, starts.foldl (addRun results record loop) (some (res0, recs0)) = some (res, recs)
  | [], res0, recs0, _ => ⟨res0, recs0, rfl⟩
  | x :: l, res0, recs0, hl => by
    obtain ⟨run, hrun⟩ := hl x (by simp)
    rw [foldl_addRun_cons, hrun, Option.bind_some]
    exact foldl_addRun_some l _ _ fun y hy => hl y (by simp [hy])

end addRun

/-- what the arc-less case returns: one value, once in the results and once per repeat in the records. -/
theorem forall_const_runs {α β} (P : β → Prop) (one : β) (h1 : P one) (starts : List α) :
    (∀ r ∈ [one], P r) ∧ ∀ rec ∈ starts.map (fun _ => [one]), ∀ r ∈ rec, P r := by
  refine ⟨List.forall_mem_singleton.2 h1, fun rec hrec r hr => ?_⟩
  obtain ⟨_, _, rfl⟩ := List.mem_map.1 hrec
  rw [List.mem_singleton.1 hr]
  exact h1

theorem approximateCapacity_eq (a : Acc) (tol : Rat) (maxIter : Nat) (starts : List Vec) :
    approximateCapacity a tol maxIter starts =
      if a.all (fun r => r.all (· == -1)) then some ([1], starts.map fun _ => [1])
      else starts.foldl (addRun CapRun.results CapRun.record fun x0 =>
        capLoop a tol maxIter (maxIter + 2) (zeroDead a x0) none [] []) (some ([], [])) := by
  unfold approximateCapacity
  congr 2
  funext acc x0
  cases acc with
  | none => rfl
  | some p =>
    obtain ⟨res, recs⟩ := p
    cases hrun : capLoop a tol maxIter (maxIter + 2) (zeroDead a x0) none [] [] <;> simp only [addRun, hrun]

theorem approx_bounds (a : Acc) (tol : Rat) (maxIter : Nat) (starts : List Vec) (res : List Rat)
    (recs : List (List Rat)) (htol : 0 < tol) (hs : ∀ x ∈ starts, VecIn01 x)
    (h : approximateCapacity a tol maxIter starts = some (res, recs)) :
    (∀ r ∈ res, Pos4 r) ∧ ∀ rec ∈ recs, ∀ r ∈ rec, Pos4 r := by
  rw [approximateCapacity_eq] at h
  split at h
  · cases h
    exact forall_const_runs Pos4 1 (by constructor <;> norm_num) starts
  · exact foldl_addRun_forall Pos4 starts [] [] res recs
      (fun x0 hx0 run hrun => capLoop_bounds a tol maxIter htol _ _ _ _ _ run
        (zeroDead_in01 a x0 (hs x0 hx0)) (by simp) (by simp) hrun) (by simp) (by simp) h

/-- `x` is (pointwise) the indicator vector of the vertices that have an arc. -/
def IsInd (a : Acc) (x : Vec) : Prop :=
  ∀ v : Nat, x.getD v 0 = if a.live (v : Int) ≠ [] then 1 else 0

theorem foldl_add_ind (l : List Nat) (p : Nat → Bool) (f : Nat → Rat) (s : Rat)
    (h : ∀ w ∈ l, f w = if p w then 1 else 0) :
    l.foldl (fun s w => s + f w) s = s + ((l.filter p).length : Rat) := by
  induction l generalizing s with
  | nil => simp
  | cons b l ih =>
    rw [List.foldl_cons, ih _ fun w hw => h w (by simp [hw]), h b (by simp), List.filter_cons]
    split
    · rw [List.length_cons, Nat.cast_succ, add_assoc, add_comm 1]
    · rw [add_zero]

theorem foldl_add_eq_neg_length (l : List Int) (h : ∀ x ∈ l, -1 ≤ x) (s : Int) :
    s - l.length ≤ l.foldl (· + ·) s ∧ (l.foldl (· + ·) s = s - l.length ↔ ∀ x ∈ l, x < 0) := by
  induction l generalizing s with
  | nil => simp
  | cons x l ih =>
    have hx := h x (by simp)
    obtain ⟨h1, h2⟩ := ih (fun y hy => h y (by simp [hy])) (s + x)
    rw [List.foldl_cons, List.forall_mem_cons, ← h2, List.length_cons]
    omega

/-- the code's test `sum(row) == -4` for "no arc leaves `v`". -/
theorem rowSum_iff {k : Nat} {a : Acc} (hw : WFdB k a) {v : Nat} (hv : v < a.size) :
    ((a.getD v #[]).foldl (· + ·) 0 == -4) = true ↔ a.live (v : Int) = [] := by
  obtain ⟨hsize, hrow⟩ := hw.rowOK (by rw [← hw.1]; exact hv : v < 4 ^ k)
  have hmem : ∀ x, x ∈ (a.getD v #[]).toList ↔ ∃ j, j < 4 ∧ a.ent (v : Int) j = x := by
    intro x
    simp only [Acc.ent_natCast]
    rw [mem_toList_iff_getD _ (-1), hsize]
  have hge : ∀ x ∈ (a.getD v #[]).toList, -1 ≤ x := by
    intro x hx
    obtain ⟨j, hj, rfl⟩ := (hmem x).1 hx
    rw [Acc.ent_natCast]
    rcases hrow j hj with h | h <;> omega
  have hlen : (0 : Int) - (a.getD v #[]).toList.length = -4 := by rw [Array.length_toList, hsize]; rfl
  rw [beq_iff_eq, ← Array.foldl_toList, ← hlen, (foldl_add_eq_neg_length _ hge 0).2, List.eq_nil_iff_forall_not_mem]
  constructor
  · intro h j hj
    rw [Acc.mem_live] at hj
    have := h _ ((hmem _).2 ⟨j, hj.1, rfl⟩)
    omega
  · intro h x hx
    obtain ⟨j, hj, rfl⟩ := (hmem x).1 hx
    exact Int.not_le.1 fun h0 => h j ((Acc.mem_live _ _ _).2 ⟨hj, h0⟩)

theorem zeroDead_ones_ind {k : Nat} {a : Acc} (hw : WFdB k a) :
    IsInd a (zeroDead a (Array.replicate a.size 1)) := by
  intro v
  by_cases hv : v < a.size
  · rw [zeroDead_getD a _ v hv]
    have h1 : (Array.replicate a.size (1 : Rat)).getD v 0 = 1 := by simp [Array.getD, hv]
    by_cases hl : a.live (v : Int) = []
    · rw [if_pos ((rowSum_iff hw hv).2 hl), if_neg (not_not.2 hl)]
    · rw [if_neg (fun c => hl ((rowSum_iff hw hv).1 c)), h1, if_pos hl]
  · rw [getD_of_size_le _ _ _ (by rw [zeroDead_size]; omega),
      if_neg (not_not.2 (Acc.live_oob a v (Nat.le_of_not_lt hv)))]

theorem not_arcless {k : Nat} {a : Acc} (hw : WFdB k a)
    (hlive : ∃ v : Nat, v < 4 ^ k ∧ a.live (v : Int) ≠ []) :
    ¬ a.all (fun r => r.all (· == -1)) = true := by
  intro h
  obtain ⟨v, hv, hl⟩ := hlive
  obtain ⟨j, hj⟩ := List.exists_mem_of_ne_nil _ hl
  rw [Acc.mem_live, Acc.ent_natCast] at hj
  have hvs : v < a.size := by rw [hw.1]; exact hv
  have hr := hw.rowOK hv
  rw [Array.all_eq_true] at h
  have h1 := h v hvs
  rw [Array.all_eq_true] at h1
  have hjs : j < a[v].size := by
    have : a.getD v #[] = a[v] := by simp [Array.getD, hvs]
    rw [← this, hr.1]; exact hj.1
  have h2 := h1 j hjs
  have h3 : (a.getD v #[]).getD j (-1) = a[v][j] := by simp [Array.getD, hvs, hjs]
  rw [h3] at hj
  simp at h2
  omega

section regular
variable {k d : Nat} {a : Acc} (hw : WFdB k a) (hd : 1 ≤ d)
  (hlive : ∃ v : Nat, v < 4 ^ k ∧ a.live (v : Int) ≠ [])
  (hreg : ∀ v : Nat, v < 4 ^ k → a.live (v : Int) ≠ [] → liveSucc a v = d)
include hw hreg

theorem capY_ind (x : Vec) (hx : IsInd a x) (v : Nat) :
    (capY a x).getD v 0 = if a.live (v : Int) ≠ [] then (d : Rat) else 0 := by
  rw [capY_getD, applyRow, foldl_add_ind _ (fun (w : Nat) => decide (a.live (w : Int) ≠ [])) (fun w => x.getD w 0) 0
    fun w _ => by simp only [hx w, decide_eq_true_eq], zero_add]
  by_cases hl : a.live (v : Int) = []
  · have : a.liveEntries (v : Int) = [] := by unfold Acc.liveEntries; rw [hl]; rfl
    rw [this, if_neg (not_not.2 hl)]
    rfl
  · have hv : v < 4 ^ k := by rw [← hw.1]; exact Nat.lt_of_not_le fun h => hl (Acc.live_oob a v h)
    rw [← liveSucc, hreg v hv hl, if_pos hl]

include hlive in
theorem capEv_ind (x : Vec) (hx : IsInd a x) : capEv a x = (d : Rat) := by
  have hd0 : (0 : Rat) ≤ (d : Rat) := Nat.cast_nonneg d
  apply le_antisymm
  · apply capEv_le a x _ hd0
    intro i
    rw [capY_ind hw hreg x hx i]
    split
    · exact le_refl _
    · exact hd0
  · obtain ⟨v, _, hl⟩ := hlive
    have h := capY_le_ev a x v
    rwa [capY_ind hw hreg x hx v, if_pos hl] at h

include hlive hd in
theorem capStep_ind (x : Vec) (hx : IsInd a x) :
    (capStep a x).2 = (d : Rat) ∧ IsInd a (capStep a x).1 := by
  have hev := capEv_ind hw hlive hreg x hx
  have hdpos : (0 : Rat) < (d : Rat) := Nat.cast_pos.2 hd
  refine ⟨hev, ?_⟩
  intro v
  rw [capStep_getD, capY_ind hw hreg x hx v, hev]
  split
  · exact div_self (ne_of_gt hdpos)
  · exact zero_div _

end regular

theorem ratAbs_zero : ratAbs 0 = 0 := if_neg (lt_irrefl 0)

theorem loopDiff_zero (a : Acc) (new last : Vec) (h : ∀ v, new.getD v 0 = last.getD v 0) :
    loopDiff a new last = 0 := by
  unfold loopDiff
  apply le_antisymm
  · apply foldl_max_le _ _ _ (le_refl _)
    intro r hr
    obtain ⟨v, _, rfl⟩ := List.mem_map.1 hr
    rw [h v, sub_self, ratAbs_zero]
  · exact foldl_max_ge_init _ _

theorem capLoop_regular {k d : Nat} {a : Acc} (tol : Rat) (maxIter : Nat) (hw : WFdB k a) (hd : 1 ≤ d)
    (htol : 0 < tol ∧ tol < 1) (hmax : 1 ≤ maxIter)
    (hlive : ∃ v : Nat, v < 4 ^ k ∧ a.live (v : Int) ≠ [])
    (hreg : ∀ v : Nat, v < 4 ^ k → a.live (v : Int) ≠ [] → liveSucc a v = d)
    (x : Vec) (hx : IsInd a x) :
    capLoop a tol maxIter (maxIter + 2) x none [] [] = some ⟨[(d : Rat)], [(d : Rat), (d : Rat)]⟩ := by
  obtain ⟨h1e, h1v⟩ := capStep_ind hw hd hlive hreg x hx
  obtain ⟨h2e, h2v⟩ := capStep_ind hw hd hlive hreg _ h1v
  have hd1 : (1 : Rat) ≤ (d : Rat) := Nat.one_le_cast.2 hd
  have hdpos : (0 : Rat) < (d : Rat) := Nat.cast_pos.2 hd
  have hclamp : clampEv tol (d : Rat) = (d : Rat) := by
    unfold clampEv; rw [if_pos (lt_of_lt_of_le htol.2 hd1)]
  have hrel : loopRel (d : Rat) (d : Rat) = 0 := by
    unfold loopRel; rw [if_pos hdpos, sub_self, ratAbs_zero, zero_div]
  have hdiff : loopDiff a (capStep a (capStep a x).1).1 (capStep a x).1 = 0 :=
    loopDiff_zero _ _ _ fun v => by rw [h2v v, h1v v]
  have hres1 : loopRes1 a tol (capStep a x).1 (d : Rat) = [(d : Rat)] := by
    unfold loopRes1
    rw [h2e, hrel, hdiff, hclamp, if_pos ⟨htol.1, decide_eq_true htol.1⟩]
  have hres2 : loopRes2 tol maxIter ([] ++ [(d : Rat)]) = [] := by
    unfold loopRes2; exact if_neg (Nat.not_lt.2 hmax)
  rw [capLoop_none, h1e, capLoop_some, h2e, hres1, hres2, hclamp]
  exact if_pos (List.cons_ne_nil _ _)

end Dsw.Power
