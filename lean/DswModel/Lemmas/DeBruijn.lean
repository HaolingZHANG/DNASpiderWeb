import DswModel.Model.Spiderweb
import DswModel.Lemmas.Defs
import DswModel.Lemmas.Basic
import DswModel.Lemmas.Convert
/-! The base every graph file stands on: arithmetic of the shift `(v * 4 + j) % 4 ^ k`, k-mers as base-4
numbers (`kmerIdx`, `kmerOf`), `IsAcgt`, successors and predecessors (`obtainLatters`, `obtainFormers`),
reading and writing accessor cells, and the constructors that establish or preserve the de Bruijn
shape `WFdB` (`inducedAccessor` among them). -/
namespace Dsw

theorem acgt_map_comp {β} (g : Nat → β) :
    "ACGT".toList.map (fun c => g ((nucIdx c).getD 0)) = (List.range 4).map g := by
  have : "ACGT".toList.map (fun c => (nucIdx c).getD 0) = List.range 4 := by decide
  rw [← this, List.map_map]; rfl

theorem four_pow_pos (k : Nat) : 0 < 4 ^ k := Nat.pow_pos (by decide)

theorem four_pow_succ (k : Nat) : 4 ^ (k + 1) = 4 * 4 ^ k := Nat.pow_succ'

theorem shift_div (v j : Nat) (hj : j < 4) : (v * 4 + j) / 4 = v := by
  rw [Nat.add_comm, Nat.add_mul_div_right _ _ (by decide), Nat.div_eq_of_lt hj, Nat.zero_add]

theorem shift_mod_four (v j : Nat) (hj : j < 4) : (v * 4 + j) % 4 = j := by
  rw [Nat.mul_add_mod_self_right, Nat.mod_eq_of_lt hj]

theorem shift_mod (P v j : Nat) (hj : j < 4) : (v * 4 + j) % (4 * P) = (v % P) * 4 + j := by
  rw [Nat.mod_mul, shift_mod_four v j hj, shift_div v j hj, Nat.add_comm, Nat.mul_comm]

theorem shift_mod_mod_four (k v j : Nat) (hj : j < 4) : (v * 4 + j) % 4 ^ (k + 1) % 4 = j := by
  rw [four_pow_succ, shift_mod _ _ _ hj, shift_mod_four _ _ hj]

theorem shift_lt (k v j : Nat) : (v * 4 + j) % 4 ^ k < 4 ^ k := Nat.mod_lt _ (four_pow_pos k)

/-- for `k ≥ 1` the `j`-th successor sits in column `j`. -/
theorem shift_column (k u j : Nat) (hk : 1 ≤ k) (hj : j < 4) : (u * 4 + j) % 4 ^ k % 4 = j := by
  obtain ⟨k, rfl⟩ := Nat.exists_eq_add_of_le' hk
  exact shift_mod_mod_four k u j hj

theorem log4_four_pow (k : Nat) : log4 (4 ^ k) = k := by
  have : (4 : Nat) ^ k = 2 ^ (2 * k) := by rw [Nat.pow_mul]
  rw [log4, this, Nat.log2_two_pow, Nat.mul_div_cancel_left k (by decide)]

theorem div_four_lt {k v : Nat} (h : v < 4 ^ (k + 1)) : v / 4 < 4 ^ k :=
  Nat.div_lt_of_lt_mul (four_pow_succ k ▸ h)

theorem digit_mul_add_lt {P a d : Nat} (hd : d < 4) (ha : a < P) : d * P + a < 4 * P :=
  calc d * P + a < d * P + P := Nat.add_lt_add_left ha _
    _ = (d + 1) * P := (Nat.succ_mul ..).symm
    _ ≤ 4 * P := Nat.mul_le_mul_right _ hd

theorem lt_four_pow_zero {v : Nat} (h : v < 4 ^ 0) : v = 0 := Nat.lt_one_iff.1 h

theorem kmerIdx_nil : kmerIdx [] = 0 := rfl

theorem kmerIdx_foldl (s : List Char) (a : Nat) :
    s.foldl (fun n c => n * 4 + (nucIdx c).getD 0) a = a * 4 ^ s.length + kmerIdx s := by
  unfold kmerIdx
  induction s generalizing a with
  | nil => simp
  | cons x xs ih =>
    simp only [List.foldl_cons, List.length_cons]
    rw [ih (a * 4 + _), ih (0 * 4 + _)]
    simp [Nat.pow_succ, Nat.add_mul, Nat.mul_assoc, Nat.mul_comm 4, Nat.add_assoc]

theorem kmerIdx_append (s t : List Char) :
    kmerIdx (s ++ t) = kmerIdx s * 4 ^ t.length + kmerIdx t := by
  rw [kmerIdx, List.foldl_append, kmerIdx_foldl]
  rfl

theorem kmerIdx_snoc (s : List Char) (c : Char) :
    kmerIdx (s ++ [c]) = kmerIdx s * 4 + (nucIdx c).getD 0 := by
  rw [kmerIdx, List.foldl_append]; rfl

theorem kmerIdx_cons (c : Char) (s : List Char) :
    kmerIdx (c :: s) = (nucIdx c).getD 0 * 4 ^ s.length + kmerIdx s := by
  rw [kmerIdx, List.foldl_cons, kmerIdx_foldl, Nat.zero_mul, Nat.zero_add]

theorem kmerIdx_lt (s : List Char) : kmerIdx s < 4 ^ s.length := by
  induction s with
  | nil => exact Nat.zero_lt_one
  | cons c s ih =>
    rw [kmerIdx_cons, List.length_cons, four_pow_succ]
    exact digit_mul_add_lt (nucIdx_getD_lt c) ih

theorem kmerIdx_replicate_A (n : Nat) : kmerIdx (List.replicate n 'A') = 0 := by
  induction n with
  | zero => rfl
  | succ n ih => rw [List.replicate_succ, kmerIdx_cons, ih]; exact Nat.zero_mul _


theorem digitsNat_four_pos (n : Nat) (hn : n ≠ 0) (acc : List Nat) :
    digitsNat 4 n acc = digitsNat 4 (n / 4) (n % 4 :: acc) := digitsNat_pos 4 n acc hn (by decide)

theorem digitsNat_four_acc (n : Nat) (acc : List Nat) :
    digitsNat 4 n acc = digitsNat 4 n [] ++ acc := by
  induction n using Nat.strongRecOn generalizing acc with
  | _ n ih =>
    by_cases hn : n = 0
    · subst hn; rw [digitsNat_zero, digitsNat_zero]; rfl
    · have hlt : n / 4 < n := Nat.div_lt_self (Nat.pos_of_ne_zero hn) (by decide)
      rw [digitsNat_four_pos n hn, digitsNat_four_pos n hn [], ih _ hlt (n % 4 :: acc),
        ih _ hlt [n % 4], List.append_assoc]
      rfl

theorem kmerOf_zero (k : Nat) : kmerOf k 0 = List.replicate k 'A' := by
  rw [kmerOf, numberToDnaInt, digitsNat_zero]
  exact List.append_nil _

theorem padDna_snoc (ds : List Nat) (d L : Nat) :
    padDna (ds ++ [d]) (L + 1) = padDna ds L ++ [nucChar d] := by
  rw [padDna, padDna, List.length_append, List.length_singleton, Nat.add_sub_add_right,
    List.map_append, List.append_assoc]
  rfl

/-- the last nucleotide is the last base-4 digit; for `v = 0` the padding supplies it. -/
theorem kmerOf_succ (k v : Nat) : kmerOf (k + 1) v = kmerOf k (v / 4) ++ [nucChar (v % 4)] := by
  by_cases h : v = 0
  · subst h
    rw [kmerOf_zero, Nat.zero_div, kmerOf_zero, List.replicate_succ']
    rfl
  · rw [kmerOf, numberToDnaInt, digitsNat_four_pos v h, digitsNat_four_acc, padDna_snoc]
    rfl

theorem kmerOf_length (k v : Nat) (h : v < 4 ^ k) : (kmerOf k v).length = k := by
  induction k generalizing v with
  | zero => rw [lt_four_pow_zero h, kmerOf_zero]; rfl
  | succ k ih => rw [kmerOf_succ, List.length_append, ih _ (div_four_lt h)]; rfl

theorem IsAcgt.nil : IsAcgt [] := fun _ hc => nomatch hc

theorem IsAcgt.cons {c : Char} {s : List Char} : IsAcgt (c :: s) ↔ (nucIdx c).isSome = true ∧ IsAcgt s :=
  List.forall_mem_cons

theorem IsAcgt.of_subset {s t : List Char} (ht : IsAcgt t) (h : ∀ c ∈ s, c ∈ t) : IsAcgt s :=
  fun c hc => ht c (h c hc)

theorem IsAcgt.set {s : List Char} (h : IsAcgt s) (i : Nat) {c : Char}
    (hc : (nucIdx c).isSome = true) : IsAcgt (s.set i c) := by
  intro x hx
  rcases List.mem_or_eq_of_mem_set hx with hx | rfl
  · exact h x hx
  · exact hc

theorem IsAcgt.take {s : List Char} (h : IsAcgt s) (i : Nat) : IsAcgt (s.take i) :=
  h.of_subset fun _ hc => List.mem_of_mem_take hc

theorem IsAcgt.drop {s : List Char} (h : IsAcgt s) (i : Nat) : IsAcgt (s.drop i) :=
  h.of_subset fun _ hc => List.mem_of_mem_drop hc

theorem kmerOf_acgt (k v : Nat) (h : v < 4 ^ k) : IsAcgt (kmerOf k v) := by
  induction k generalizing v with
  | zero => rw [lt_four_pow_zero h, kmerOf_zero]; exact fun c hc => nomatch hc
  | succ k ih =>
    rw [kmerOf_succ]
    intro c hc
    rcases List.mem_append.1 hc with hc | hc
    · exact ih (v / 4) (div_four_lt h) c hc
    · rw [List.mem_singleton.1 hc, nucIdx_nucChar _ (Nat.mod_lt _ (by decide))]; rfl

theorem kmerIdx_kmerOf (k v : Nat) (h : v < 4 ^ k) : kmerIdx (kmerOf k v) = v := by
  induction k generalizing v with
  | zero => rw [lt_four_pow_zero h, kmerOf_zero]; rfl
  | succ k ih =>
    rw [kmerOf_succ, kmerIdx_snoc, ih _ (div_four_lt h), nucIdx_nucChar _ (Nat.mod_lt _ (by decide))]
    exact Nat.div_add_mod' v 4

theorem kmerOf_kmerIdx (s : List Char) (hs : IsAcgt s) : kmerOf s.length (kmerIdx s) = s := by
  generalize hn : s.length = n
  induction n generalizing s with
  | zero => rw [List.eq_nil_of_length_eq_zero hn]; exact kmerOf_zero 0
  | succ n ih =>
    rcases List.eq_nil_or_concat s with rfl | ⟨s', c, rfl⟩
    · cases hn
    · rw [List.concat_eq_append] at hs hn ⊢
      rw [List.length_append] at hn
      have hn' : s'.length = n := Nat.succ.inj hn
      rw [kmerIdx_snoc, kmerOf_succ, shift_div _ _ (nucIdx_getD_lt c), shift_mod_four _ _ (nucIdx_getD_lt c),
        ih s' (fun x hx => hs x (List.mem_append_left _ hx)) hn',
        nucChar_nucIdx_getD (hs c (List.mem_append_right _ (List.mem_singleton_self c)))]

theorem nucValues_acgt (s : List Char) (hs : IsAcgt s) :
    nucValues s = .ok (s.map fun c => (nucIdx c).getD 0) := nucValues_ok s hs

theorem dnaToNumberInt_acgt (s : List Char) (hs : IsAcgt s) :
    dnaToNumberInt s = .ok (kmerIdx s) := by
  simp [dnaToNumberInt, nucValues_acgt s hs, Except.map, kmerIdx, List.foldl_map]

theorem kmerIdx_tail_kmerOf (k v : Nat) (h : v < 4 ^ (k + 1)) :
    kmerIdx (kmerOf (k + 1) v).tail = v % 4 ^ k := by
  have hl := kmerOf_length (k + 1) v h
  have hi := kmerIdx_kmerOf (k + 1) v h
  generalize kmerOf (k + 1) v = s at hl hi
  cases s with
  | nil => cases hl
  | cons c t =>
    have hlt : t.length = k := Nat.succ.inj hl
    rw [kmerIdx_cons, hlt] at hi
    rw [List.tail_cons, ← hi, Nat.mul_add_mod_self_right, Nat.mod_eq_of_lt (hlt ▸ kmerIdx_lt t)]

theorem getD_range_map {α} (n : Nat) (f : Nat → α) (v : Nat) (d : α) (h : v < n) :
    ((Array.range n).map f).getD v d = f v := by
  simp [Array.getD, h]

theorem getD_map_apply {α β} (y : Array α) (f : α → β) (d : α) (i : Nat) :
    (y.map f).getD i (f d) = f (y.getD i d) := by
  by_cases h : i < y.size <;> simp [Array.getD, h]

theorem getD_range_map_decide (n : Nat) (P : Nat → Prop) [DecidablePred P] (v : Nat) :
    ((Array.range n).map fun v => decide (P v)).getD v false = true ↔ v < n ∧ P v := by
  by_cases hv : v < n
  · rw [getD_range_map _ _ _ _ hv]; simp [hv]
  · simp [Array.getD, hv]

theorem Acc.ent_range_map (n : Nat) (f : Nat → Array Int) (v j : Nat) (h : v < n) :
    Acc.ent ((Array.range n).map f) (v : Int) j = (f v).getD j (-1) := by
  rw [Acc.ent_natCast, getD_range_map n f v #[] h]

theorem Acc.row_range_map (n : Nat) (f : Nat → Array Int) (v : Nat) (h : v < n) :
    Acc.row ((Array.range n).map f) (v : Int) = f v := by
  rw [Acc.row_natCast, getD_range_map n f v #[] h]

theorem Acc.size_setEnt (a : Acc) (v j : Nat) (x : Int) : (a.setEnt v j x).size = a.size :=
  Array.size_setIfInBounds

theorem getD_setIfInBounds_self {α} (a : Array α) (v : Nat) (x d : α) (h : v < a.size) :
    (a.setIfInBounds v x).getD v d = x := by
  rw [Array.getD_eq_getD_getElem?, Array.getElem?_setIfInBounds_self_of_lt h]; rfl

theorem getD_setIfInBounds_ne {α} (a : Array α) (v u : Nat) (x d : α) (h : v ≠ u) :
    (a.setIfInBounds v x).getD u d = a.getD u d := by
  rw [Array.getD_eq_getD_getElem?, Array.getElem?_setIfInBounds_ne h, Array.getD_eq_getD_getElem?]

theorem getD_setIfInBounds_oob {α} (a : Array α) (v u : Nat) (x d : α) (h : a.size ≤ v) :
    (a.setIfInBounds v x).getD u d = a.getD u d := by
  rw [Array.setIfInBounds_eq_of_size_le h]

theorem Acc.getD_setEnt (a : Acc) (v j u : Nat) (x : Int) :
    (a.setEnt v j x).getD u #[] =
      if u = v then (a.getD v #[]).setIfInBounds j x else a.getD u #[] := by
  unfold Acc.setEnt
  by_cases huv : u = v
  · subst huv
    rw [if_pos rfl]
    by_cases h : u < a.size
    · exact getD_setIfInBounds_self _ _ _ _ h
    · have : a.getD u #[] = #[] := by rw [Array.getD, dif_neg h]
      rw [getD_setIfInBounds_oob _ _ _ _ _ (Nat.le_of_not_lt h), this]
      exact (Array.setIfInBounds_eq_of_size_le (Nat.zero_le _)).symm
  · rw [if_neg huv]; exact getD_setIfInBounds_ne _ _ _ _ _ (Ne.symm huv)

theorem Acc.ent_setEnt_self (a : Acc) (v j : Nat) (x : Int)
    (hj : j < (a.getD v #[]).size) : (a.setEnt v j x).ent (v : Int) j = x := by
  rw [Acc.ent_natCast, Acc.getD_setEnt, if_pos rfl]
  exact getD_setIfInBounds_self _ _ _ _ hj

theorem Acc.ent_setEnt_ne (a : Acc) (v j u i : Nat) (x : Int) (h : u ≠ v ∨ i ≠ j) :
    (a.setEnt v j x).ent (u : Int) i = a.ent (u : Int) i := by
  rw [Acc.ent_natCast, Acc.ent_natCast, Acc.getD_setEnt]
  by_cases huv : u = v
  · subst huv
    rw [if_pos rfl]
    exact getD_setIfInBounds_ne _ _ _ _ _ (h.resolve_left fun h => h rfl).symm
  · rw [if_neg huv]

/-- row `v` of an order-`k` de Bruijn sub-table. -/
def RowOK (k v : Nat) (r : Array Int) : Prop :=
  r.size = 4 ∧ ∀ j : Nat, j < 4 → r.getD j (-1) = -1 ∨ r.getD j (-1) = ((v * 4 + j) % 4 ^ k : Nat)

theorem wfdb_iff_rowOK (k : Nat) (a : Acc) :
    WFdB k a ↔ a.size = 4 ^ k ∧ ∀ v : Nat, v < 4 ^ k → RowOK k v (a.getD v #[]) := by
  unfold WFdB RowOK
  simp only [Acc.ent_natCast]

theorem getD_replicate_self {α} (n j : Nat) (d : α) : (Array.replicate n d).getD j d = d := by
  rw [Array.getD_eq_getD_getElem?, Array.getElem?_replicate]
  split <;> rfl

theorem not_getD_replicate_false (n v : Nat) : ¬ (Array.replicate n false).getD v false = true := by
  intro hv
  by_cases h : v < n
  · simp [Array.getD, h] at hv
  · simp [Array.getD, h] at hv

theorem rowOK_replicate (k v : Nat) : RowOK k v (Array.replicate 4 (-1)) :=
  ⟨Array.size_replicate, fun j _ => Or.inl (getD_replicate_self 4 j (-1))⟩

theorem rowOK_setIfInBounds (k v j : Nat) (r : Array Int) (x : Int) (hr : RowOK k v r)
    (hx : x = -1 ∨ x = ((v * 4 + j) % 4 ^ k : Nat)) : RowOK k v (r.setIfInBounds j x) := by
  refine ⟨Array.size_setIfInBounds.trans hr.1, fun i hi => ?_⟩
  by_cases hij : j = i
  · subst hij
    rw [getD_setIfInBounds_self _ _ _ _ (hr.1.symm ▸ hi)]
    exact hx
  · rw [getD_setIfInBounds_ne _ _ _ _ _ hij]
    exact hr.2 i hi

theorem obtainLatters_length (k v : Nat) : (obtainLatters k v).length = 4 := by
  simp [obtainLatters]

theorem obtainLatters_getElem (k v j : Nat) (hj : j < (obtainLatters k v).length) :
    (obtainLatters k v)[j] = (v * 4 + j) % 4 ^ k := by
  simp only [obtainLatters, List.getElem_map, List.getElem_range]

theorem mem_obtainLatters (k v w : Nat) :
    w ∈ obtainLatters k v ↔ ∃ j, j < 4 ∧ w = (v * 4 + j) % 4 ^ k := by
  simp only [obtainLatters, List.mem_map, List.mem_range, eq_comm]

theorem mem_obtainFormers (k v u : Nat) :
    u ∈ obtainFormers k v ↔ ∃ j, j < 4 ∧ u = v / 4 + j * 4 ^ (k - 1) := by
  simp only [obtainFormers, List.mem_map, List.mem_range, eq_comm]

theorem formers_lt {k v : Nat} (hk : 1 ≤ k) (h : v < 4 ^ k) : ∀ u ∈ obtainFormers k v, u < 4 ^ k := by
  obtain ⟨k, rfl⟩ := Nat.exists_eq_add_one_of_ne_zero (Nat.one_le_iff_ne_zero.1 hk)
  intro u hu
  rcases (mem_obtainFormers _ v u).1 hu with ⟨j, hj, rfl⟩
  rw [Nat.add_sub_cancel, four_pow_succ, Nat.add_comm]
  exact digit_mul_add_lt hj (div_four_lt h)

theorem former_iff_latter {k u v : Nat} (hk : 1 ≤ k) (hu : u < 4 ^ k) (hv : v < 4 ^ k) :
    u ∈ obtainFormers k v ↔ v ∈ obtainLatters k u := by
  obtain ⟨k, rfl⟩ := Nat.exists_eq_add_one_of_ne_zero (Nat.one_le_iff_ne_zero.1 hk)
  rw [mem_obtainFormers, mem_obtainLatters, Nat.add_sub_cancel, four_pow_succ]
  constructor
  · -- `v` is `u` shifted by the last digit of `v`
    rintro ⟨j, _, rfl⟩
    refine ⟨v % 4, Nat.mod_lt _ (by decide), ?_⟩
    rw [shift_mod _ _ _ (Nat.mod_lt _ (by decide)), Nat.add_mul_mod_self_right,
      Nat.mod_eq_of_lt (div_four_lt hv), Nat.div_add_mod']
  · -- `u` is `v / 4` with the leading digit of `u` put in front
    rintro ⟨j, hj, rfl⟩
    rw [shift_mod _ _ _ hj, shift_div _ _ hj]
    rw [four_pow_succ, Nat.mul_comm] at hu
    exact ⟨u / 4 ^ k, Nat.div_lt_of_lt_mul hu, (Nat.mod_add_div' u _).symm⟩

theorem getD_map_toArray {α β} (l : List α) (f : α → β) (j : Nat) (d : β) (hj : j < l.length) :
    (l.map f).toArray.getD j d = f l[j] := by
  simp [Array.getD, hj]

theorem rowOK_latters (k v : Nat) (p : Nat → Bool) :
    RowOK k v ((obtainLatters k v).map fun w => if p w then Int.ofNat w else -1).toArray := by
  refine ⟨?_, fun j hj => ?_⟩
  · rw [List.size_toArray, List.length_map, obtainLatters_length]
  have hj' : j < (obtainLatters k v).length := (obtainLatters_length k v).symm ▸ hj
  rw [getD_map_toArray _ _ _ _ hj', obtainLatters_getElem]
  by_cases hp : p ((v * 4 + j) % 4 ^ k) = true
  · right; rw [if_pos hp]; rfl
  · left; rw [if_neg hp]

theorem wfdb_range_map (k : Nat) (f : Nat → Array Int)
    (h : ∀ v : Nat, v < 4 ^ k → RowOK k v (f v)) : WFdB k ((Array.range (4 ^ k)).map f) := by
  rw [wfdb_iff_rowOK]
  refine ⟨by simp, fun v hv => ?_⟩
  rw [getD_range_map _ _ _ _ hv]
  exact h v hv

theorem wfdb_setIfInBounds_row (k : Nat) (a : Acc) (v : Nat) (r : Array Int)
    (h : WFdB k a) (hr : RowOK k v r) : WFdB k (a.setIfInBounds v r) := by
  rw [wfdb_iff_rowOK] at h ⊢
  refine ⟨Array.size_setIfInBounds.trans h.1, fun u hu => ?_⟩
  by_cases hvu : v = u
  · subst hvu
    rw [getD_setIfInBounds_self _ _ _ _ (h.1.symm ▸ hu)]
    exact hr
  · rw [getD_setIfInBounds_ne _ _ _ _ _ hvu]
    exact h.2 u hu

theorem wfdb_setEnt (k : Nat) (a : Acc) (v j : Nat) (x : Int) (h : WFdB k a)
    (hx : x = -1 ∨ x = ((v * 4 + j) % 4 ^ k : Nat)) : WFdB k (a.setEnt v j x) := by
  unfold Acc.setEnt
  by_cases hv : v < 4 ^ k
  · exact wfdb_setIfInBounds_row k a v _ h
      (rowOK_setIfInBounds k v j _ x (((wfdb_iff_rowOK k a).1 h).2 v hv) hx)
  · rw [Array.setIfInBounds_eq_of_size_le (h.1.symm ▸ Nat.le_of_not_lt hv)]
    exact h

theorem wfdb_replicate (k : Nat) : WFdB k (Array.replicate (4 ^ k) (Array.replicate 4 (-1))) := by
  rw [wfdb_iff_rowOK]
  refine ⟨Array.size_replicate, fun v hv => ?_⟩
  rw [Array.getD_eq_getD_getElem?, Array.getElem?_replicate, if_pos hv]
  exact rowOK_replicate k v

theorem wfdb_complete (k : Nat) : WFdB k (getCompleteAccessor k) :=
  wfdb_range_map k _ fun v _ => by simpa only [reduceIte] using rowOK_latters k v (fun _ => true)

theorem wfdb_induced (k : Nat) (m : Mask) : WFdB k (inducedAccessor k m) := by
  refine wfdb_range_map k _ fun v _ => ?_
  by_cases h : m.getD v false = true
  · rw [if_pos h]; exact rowOK_latters k v (fun w => m.getD w false)
  · rw [if_neg h]; exact rowOK_replicate k v

theorem inducedAccessor_size (k : Nat) (m : Mask) : (inducedAccessor k m).size = 4 ^ k := by
  rw [inducedAccessor, Array.size_map, Array.size_range]

theorem inducedAccessor_ent (k : Nat) (m : Mask) (u j : Nat) (hu : u < 4 ^ k) (hj : j < 4) :
    (inducedAccessor k m).ent (u : Int) j =
      if m.getD u false = true ∧ m.getD ((u * 4 + j) % 4 ^ k) false = true
      then (((u * 4 + j) % 4 ^ k : Nat) : Int) else -1 := by
  unfold inducedAccessor
  rw [Acc.ent_range_map _ _ _ _ hu]
  by_cases h1 : m.getD u false = true
  · rw [if_pos h1, getD_map_toArray _ _ _ _ ((obtainLatters_length k u).symm ▸ hj),
      obtainLatters_getElem]
    simp only [h1, true_and]
    rfl
  · rw [if_neg h1, if_neg (fun h => h1 h.1)]
    exact getD_replicate_self 4 j (-1)

theorem WFdB.wf {k : Nat} {a : Acc} (h : WFdB k a) : a.WF := by
  rw [wfdb_iff_rowOK] at h
  intro v hv
  obtain ⟨h4, hent⟩ := h.2 v (h.1 ▸ hv)
  refine ⟨h4, fun j hj => (hent j hj).imp_right fun e => ?_⟩
  rw [e, h.1]
  exact ⟨Int.natCast_nonneg _, Int.ofNat_lt.2 (shift_lt k v j)⟩

theorem wfdbB_gcBalanced2 : wfdbB 2 gcBalanced2 = true := by decide +kernel

theorem connectValidGraph_some (k : Nat) (m : Mask) :
    connectValidGraph k (some m) =
      if m.count > 0 then .ok (inducedAccessor k m) else .error .valueError := rfl

theorem foldl_invariant {σ α} (P : σ → Prop) (g : σ → α → σ) (l : List α)
    (hg : ∀ s, ∀ x ∈ l, P s → P (g s x)) (s : σ) (hs : P s) : P (l.foldl g s) := by
  induction l generalizing s with
  | nil => exact hs
  | cons x xs ih =>
    rw [List.foldl_cons]
    exact ih (fun s y hy => hg s y (by simp [hy])) _ (hg s x (by simp) hs)

theorem wfdb_cascade (k f : Nat) (pairs : List (Nat × Nat)) (a : Acc) (h : WFdB k a) :
    WFdB k (cascade k f pairs a) := by
  induction f generalizing pairs a with
  | zero => exact h
  | succ f ih =>
    rw [cascade]
    by_cases hp : pairs.isEmpty = true
    · rw [if_pos hp]; exact h
    · rw [if_neg hp]
      apply ih
      apply foldl_invariant (fun st : Acc × List (Nat × Nat) => WFdB k st.1)
      · intro st fl _ hst
        exact wfdb_setEnt k _ _ _ _ hst (Or.inl rfl)
      · exact h

theorem wfdb_removeVertex (k : Nat) (a : Acc) (u : Nat) (h : WFdB k a) :
    WFdB k (removeVertex k a u) := by
  unfold removeVertex
  exact wfdb_cascade k _ _ _ (wfdb_setIfInBounds_row k a u _ h (rowOK_replicate k u))

theorem wfdb_thresholdOneLoop (k f : Nat) (a : Acc) (r : List Nat × Acc) (h : WFdB k a)
    (hr : thresholdOneLoop k f a = .ok r) : WFdB k r.2 := by
  induction f generalizing a with
  | zero => cases hr
  | succ f ih =>
    rw [thresholdOneLoop] at hr
    by_cases hv : (obtainVertices a).isEmpty = true
    · rw [if_pos hv] at hr; cases hr
    · rw [if_neg hv] at hr
      extract_lets _ _ useless at hr
      by_cases hu : useless.isEmpty = true
      · rw [if_pos hu] at hr; cases hr; exact h
      · rw [if_neg hu] at hr
        exact ih _ (foldl_invariant (WFdB k) _ _ (fun s u _ hs => wfdb_removeVertex k s u hs) a h) hr

/-- a shift successor sits in the column given by its last digit. -/
theorem latter_column (k v w : Nat) (h : w ∈ obtainLatters k v) :
    (v * 4 + w % 4) % 4 ^ k = w := by
  rcases (mem_obtainLatters k v w).1 h with ⟨j, hj, rfl⟩
  cases k with
  | zero => simp only [Nat.pow_zero, Nat.mod_one]
  | succ k => rw [shift_mod_mod_four k v j hj]

theorem wfdb_latterMap_fold (k : Nat) (lm : LMap)
    (hl : ∀ p ∈ lm, ∀ w ∈ p.2, w ∈ obtainLatters k p.1) (a : Acc) (h : WFdB k a) :
    WFdB k (lm.foldl (fun acc p => p.2.foldl (fun acc w => acc.setEnt p.1 (w % 4) w) acc) a) := by
  apply foldl_invariant (WFdB k) _ _ _ a h
  intro s p hp hs
  apply foldl_invariant (WFdB k) _ _ _ s hs
  intro s' w hw hs'
  apply wfdb_setEnt k _ _ _ _ hs'
  right
  rw [latter_column k p.1 w (hl p hp w hw)]

theorem foldlM_push_eq {ε α β} (c : α → Bool) (g : α → β) (e : ε) (l : List α) (acc : Array β) :
    l.foldlM (fun acc v => if c v then Except.ok (acc.push (g v)) else Except.error e) acc
      = if l.all c then .ok (acc ++ (l.map g).toArray) else .error e := by
  induction l generalizing acc with
  | nil => exact congrArg Except.ok Array.append_empty.symm
  | cons x xs ih =>
    rw [List.foldlM_cons, List.all_cons]
    cases hc : c x
    · rfl
    · show xs.foldlM _ (acc.push (g x)) = _
      rw [ih, Bool.true_and, List.map_cons, List.toArray_cons, Array.push_eq_append,
        Array.append_assoc]

theorem wfdb_adjacencyMatrixToAccessor (k : Nat) (mx : Matrix) (a : Acc) (hs : mx.size = 4 ^ k)
    (h : adjacencyMatrixToAccessor mx = .ok a) : WFdB k a := by
  rw [adjacencyMatrixToAccessor, hs, log4_four_pow, foldlM_push_eq] at h
  generalize List.all _ _ = legal at h
  cases legal
  · cases h
  · cases h
    rw [Array.empty_append, wfdb_iff_rowOK]
    refine ⟨?_, fun v hv => ?_⟩
    · rw [List.size_toArray, List.length_map, List.length_range]
    · rw [getD_map_toArray _ _ _ _ (List.length_range ▸ hv), List.getElem_range]
      exact rowOK_latters k v _

end Dsw
