import DswModel.Model.CapacityF
import DswModel.Props.C17b
import DswModel.Props.FloatSpec
import DswModel.Lemmas.FloatErr
import DswModel.Lemmas.PowerStop
import DswModel.Lemmas.Power
/-!
# Helper lemmas for C17c (what the stopping rule certifies in double precision)

`allSome`, folds of `Dbl.maxD`, and the floating-point row sum against the exact one: `round_bounds` is the one step of
the error analysis (a rounding applied to a quantity known up to two factors and an absolute error), `rowFold` iterates
it over the additions of a row.
-/
namespace Dsw.PowerStopF
open Dsw.FloatErr

theorem allSome_eq_some {α} : ∀ (l : List (Option α)) (r : List α), allSome l = some r → l = r.map some
  | [], r, h => by cases h; rfl
  | none :: l, r, h => by cases h
  | some x :: l, r, h => by
    obtain ⟨r', h1, rfl⟩ := Option.map_eq_some_iff.1 h
    rw [allSome_eq_some l r' h1]
    rfl

theorem list_map_eq {α β} {g : α → Option β} {y : List α} {zl : List β} (h : y.map g = zl.map some) :
    zl.length = y.length ∧ ∀ (v : Nat) (t : α), y[v]? = some t → ∃ r, zl[v]? = some r ∧ g t = some r := by
  refine ⟨by simpa using (congrArg List.length h).symm, fun v t hv => ?_⟩
  have := congrArg (·[v]?) h
  rw [List.getElem?_map, List.getElem?_map, hv, Option.map_some, eq_comm, Option.map_eq_some_iff] at this
  obtain ⟨r, hr, e⟩ := this
  exact ⟨r, hr, e.symm⟩

theorem range_map_eq {α} {f : Nat → Option α} {n : Nat} {y : List α} (h : (List.range n).map f = y.map some) :
    y.length = n ∧ ∀ v, v < n → ∃ t, y[v]? = some t ∧ f v = some t := by
  obtain ⟨hlen, hent⟩ := list_map_eq h
  exact ⟨by rw [hlen, List.length_range], fun v hv => hent v v (List.getElem?_range hv)⟩

theorem range_map_mem {α} {f : Nat → Option α} {n : Nat} {y : List α} (h : (List.range n).map f = y.map some) :
    ∀ t ∈ y, ∃ v, v < n ∧ f v = some t := by
  intro t ht
  obtain ⟨v, hv, hfv⟩ := List.mem_map.1 (h ▸ List.mem_map_of_mem (f := some) ht)
  exact ⟨v, List.mem_range.1 hv, hfv⟩

theorem toArray_getD {α} (l : List α) (v : Nat) (r d : α) (h : l[v]? = some r) : l.toArray.getD v d = r := by
  rw [Array.getD_eq_getD_getElem?, List.getElem?_toArray, h, Option.getD_some]

theorem maxD_prop (P : Dbl → Prop) {x y : Dbl} (hx : P x) (hy : P y) : P (Dbl.maxD x y) := by
  unfold Dbl.maxD
  split
  · exact hy
  · exact hx

theorem maxD_ge (x y : Dbl) (hx : 0 < x.den) (hy : 0 < y.den) :
    Dbl.toRat x ≤ Dbl.toRat (Dbl.maxD x y) ∧ Dbl.toRat y ≤ Dbl.toRat (Dbl.maxD x y) := by
  by_cases h : Dbl.lt x y = true
  · rw [Dbl.maxD, if_pos h]
    exact ⟨le_of_lt ((lt_iff x y hx hy).1 h), le_refl _⟩
  · rw [Dbl.maxD, if_neg h]
    exact ⟨le_refl _, not_lt.1 fun hc => h ((lt_iff x y hx hy).2 hc)⟩

theorem foldl_maxD_prop (P : Dbl → Prop) : ∀ (l : List Dbl) (s : Dbl), P s → (∀ t ∈ l, P t) → P (l.foldl Dbl.maxD s)
  | [], s, hs, _ => hs
  | t :: l, s, hs, hl => by
    rw [List.foldl_cons]
    exact foldl_maxD_prop P l _ (maxD_prop P hs (hl t List.mem_cons_self))
      fun t' ht' => hl t' (List.mem_cons_of_mem _ ht')

theorem foldl_maxD_ge : ∀ (l : List Dbl) (s : Dbl), 0 < s.den → (∀ t ∈ l, 0 < t.den) →
    Dbl.toRat s ≤ Dbl.toRat (l.foldl Dbl.maxD s) ∧ ∀ t ∈ l, Dbl.toRat t ≤ Dbl.toRat (l.foldl Dbl.maxD s)
  | [], s, _, _ => ⟨le_refl _, fun t ht => absurd ht List.not_mem_nil⟩
  | t :: l, s, hs, hl => by
    rw [List.foldl_cons]
    have ht := hl t List.mem_cons_self
    obtain ⟨h1, h2⟩ := foldl_maxD_ge l (Dbl.maxD s t) (maxD_prop (fun t => 0 < t.den) hs ht)
      fun t' ht' => hl t' (List.mem_cons_of_mem _ ht')
    obtain ⟨g1, g2⟩ := maxD_ge s t hs ht
    refine ⟨le_trans g1 h1, fun t' ht' => ?_⟩
    rcases List.mem_cons.1 ht' with rfl | h
    · exact le_trans g2 h1
    · exact h2 t' h

/-- one rounding `r` of a quantity `q ≥ 0` that is known up to factors `A`, `B` and an absolute error `c`: the factors
pick up `1 ∓ u`, the absolute error at most doubles (`c·(1 + u) ≤ 2c`) and gains `η`. -/
theorem round_bounds (q t A B c u η r : Rat) (hu0 : 0 ≤ u) (hu1 : u ≤ 1) (hc : 0 ≤ c) (hq : 0 ≤ q)
    (h1 : t * A - c ≤ q) (h2 : q ≤ t * B + c) (he : |r - q| ≤ u * |q| + η) :
    t * (A * (1 - u)) - (2 * c + η) ≤ r ∧ r ≤ t * (B * (1 + u)) + (2 * c + η) := by
  rw [abs_of_nonneg hq, abs_le] at he
  have lo : (t * A - c) * (1 - u) ≤ q * (1 - u) := mul_le_mul_of_nonneg_right h1 (sub_nonneg.2 hu1)
  have up : q * (1 + u) ≤ (t * B + c) * (1 + u) := mul_le_mul_of_nonneg_right h2 (add_nonneg zero_le_one hu0)
  have hcu : 0 ≤ c * u := mul_nonneg hc hu0
  have hcu' : c * u ≤ c := mul_le_of_le_one_right hc hu1
  constructor
  · linarith only [he.1, lo, hcu, hc]
  · linarith only [he.2, up, hcu', hc]

/-- the step of the fold in `rowSumF`; `none` once an addition has overflowed. -/
def addStep (x : VecF) (s : Option Dbl) (w : Nat) : Option Dbl := s.bind fun s => Dbl.add s (x.getD w Dbl.zero)

theorem foldl_addStep_none (x : VecF) : ∀ l : List Nat, l.foldl (addStep x) none = none
  | [] => rfl
  | _ :: l => by rw [List.foldl_cons]; exact foldl_addStep_none x l

theorem rowFold (x : VecF) (u η : Rat) (hu0 : 0 ≤ u) (hu1 : u ≤ 1) (hη : 0 ≤ η)
    (herr : ∀ s t r : Dbl, 0 < s.den → 0 < t.den → Dbl.add s t = some r →
      |Dbl.toRat r - (Dbl.toRat s + Dbl.toRat t)| ≤ u * |Dbl.toRat s + Dbl.toRat t| + η)
    (s : Dbl) (hs : NonnegB64 s) (l : List Nat) : (∀ w ∈ l, NonnegB64 (x.getD w Dbl.zero)) →
    ∀ y, l.foldl (addStep x) (some s) = some y →
      (Dbl.toRat s + (l.map fun w => Dbl.toRat (x.getD w Dbl.zero)).sum) * (1 - u) ^ l.length - (2 ^ l.length - 1) * η ≤ Dbl.toRat y ∧
      Dbl.toRat y ≤ (Dbl.toRat s + (l.map fun w => Dbl.toRat (x.getD w Dbl.zero)).sum) * (1 + u) ^ l.length + (2 ^ l.length - 1) * η ∧
      NonnegB64 y := by
  induction l using List.reverseRecOn with
  | nil =>
    intro _ y hf
    cases hf
    simp only [List.length_nil, pow_zero, List.map_nil, List.sum_nil, add_zero, mul_one, sub_self, zero_mul, sub_zero]
    exact ⟨le_refl _, le_refl _, hs⟩
  | append_singleton l w ih =>
    intro hl y' hf
    rw [List.foldl_concat] at hf
    obtain ⟨y, hy, hadd⟩ := Option.bind_eq_some_iff.1 hf
    obtain ⟨lo, up, hyP⟩ := ih (fun w' hw' => hl w' (List.mem_append_left _ hw')) y hy
    have hwP := hl w (List.mem_append_right _ (List.mem_singleton_self w))
    have hX := toRat_nonneg hwP.2
    -- the next addend enters exactly: `(1 − u)^n ≤ 1 ≤ (1 + u)^n`
    have hA : 0 ≤ (1 - (1 - u) ^ l.length) * Dbl.toRat (x.getD w Dbl.zero) :=
      mul_nonneg (sub_nonneg.2 (pow_le_one₀ (sub_nonneg.2 hu1) (sub_le_self 1 hu0))) hX
    have hB : 0 ≤ ((1 + u) ^ l.length - 1) * Dbl.toRat (x.getD w Dbl.zero) :=
      mul_nonneg (sub_nonneg.2 (one_le_pow₀ (le_add_of_nonneg_right hu0))) hX
    obtain ⟨lo', up'⟩ := round_bounds (Dbl.toRat y + Dbl.toRat (x.getD w Dbl.zero))
      (Dbl.toRat s + (l.map fun w => Dbl.toRat (x.getD w Dbl.zero)).sum + Dbl.toRat (x.getD w Dbl.zero))
      ((1 - u) ^ l.length) ((1 + u) ^ l.length) ((2 ^ l.length - 1) * η) u η (Dbl.toRat y') hu0 hu1
      (mul_nonneg (sub_nonneg.2 (one_le_pow₀ one_le_two)) hη) (add_nonneg (toRat_nonneg hyP.2) hX)
      (by linarith only [lo, hA]) (by linarith only [up, hB]) (herr y _ y' hyP.1.1 hwP.1.1 hadd)
    simp only [List.length_append, List.length_singleton, List.map_append, List.sum_append, List.map_cons,
      List.map_nil, List.sum_cons, List.sum_nil, pow_succ, add_zero, ← add_assoc]
    exact ⟨by linarith only [lo'], by linarith only [up'], add_nonnegB64 y _ y' hyP hwP hadd⟩

theorem half_pow_le {c : Rat} {k m n : Nat} (hc : c ≤ 2 ^ k) (h : m + k ≤ n) :
    c * (2 : Rat)⁻¹ ^ n ≤ (2 : Rat)⁻¹ ^ m := by
  have h2 : (2 : Rat) ^ k * (2 : Rat)⁻¹ ^ (m + k) = (2 : Rat)⁻¹ ^ m := by
    rw [pow_add, mul_comm, mul_assoc, ← mul_pow, inv_mul_cancel₀ two_ne_zero, one_pow, mul_one]
  calc c * (2 : Rat)⁻¹ ^ n ≤ 2 ^ k * (2 : Rat)⁻¹ ^ (m + k) :=
        mul_le_mul hc (pow_le_pow_of_le_one (by norm_num) (by norm_num) h) (by positivity) (by positivity)
    _ = (2 : Rat)⁻¹ ^ m := h2

theorem zero_add_exact (x r : Dbl) (hB : IsB64 x.num x.den) (h : Dbl.add Dbl.zero x = some r) : Dbl.toRat r = Dbl.toRat x := by
  obtain ⟨r', h1, h2⟩ := roundDouble_of_isB64 x.num x.den hB
  have e : Dbl.add Dbl.zero x = roundDouble x.num x.den := by
    unfold Dbl.add Dbl.zero
    simp
  rw [e, h1] at h
  cases h
  have hr := roundDouble_den_pos h1
  exact le_antisymm ((toRat_le_iff r x hr hB.1).2 h2.le) ((toRat_le_iff x r hB.1 hr).2 h2.ge)

theorem map_toRat_getD (x : VecF) (w : Nat) : x.toRat.getD w 0 = Dbl.toRat (x.getD w Dbl.zero) := by
  have h := getD_map_apply x Dbl.toRat Dbl.zero w
  rwa [toRat_zero] at h

theorem applyRow_eq (a : Acc) (x : VecF) (v : Nat) :
    applyRow a x.toRat v = ((a.liveEntries (v : Int)).map fun w => Dbl.toRat (x.getD w Dbl.zero)).sum := by
  unfold applyRow
  simp only [PowerStop.foldl_add_eq_sum0, map_toRat_getD]

/-- the floating-point row sum against the exact one, for additions with relative error `u` and absolute error `η`:
the first addition `0.0 + x` is exact, at most three more follow, `ε` bounds `(1 ± u)^3 − 1` and `κ` bounds `7η`. -/
theorem rowSum_bound_of (u η ε κ : Rat) (hu0 : 0 ≤ u) (hu1 : u ≤ 1) (hη : 0 ≤ η)
    (herr : ∀ s t r : Dbl, 0 < s.den → 0 < t.den → Dbl.add s t = some r →
      |Dbl.toRat r - (Dbl.toRat s + Dbl.toRat t)| ≤ u * |Dbl.toRat s + Dbl.toRat t| + η)
    (hlo3 : 1 - ε ≤ (1 - u) ^ 3) (hup3 : (1 + u) ^ 3 ≤ 1 + ε) (h7 : 7 * η ≤ κ)
    (a : Acc) (x : VecF) (v : Nat) (y : Dbl)
    (hx : ∀ w, w < a.size → NonnegB64 (x.getD w Dbl.zero))
    (ha : ∀ w ∈ a.liveEntries (v : Int), w < a.size)
    (hy : rowSumF a x v = some y) :
    applyRow a x.toRat v * (1 - ε) - κ ≤ Dbl.toRat y ∧ Dbl.toRat y ≤ applyRow a x.toRat v * (1 + ε) + κ ∧
    NonnegB64 y ∧ 0 ≤ applyRow a x.toRat v := by
  have hl : ∀ w ∈ a.liveEntries (v : Int), NonnegB64 (x.getD w Dbl.zero) := fun w hw => hx w (ha w hw)
  have hf : (a.liveEntries (v : Int)).foldl (addStep x) (some Dbl.zero) = some y := hy
  have hn := Power.liveEntries_length_le a (v : Int)
  rw [applyRow_eq]
  have hT : 0 ≤ ((a.liveEntries (v : Int)).map fun w => Dbl.toRat (x.getD w Dbl.zero)).sum :=
    List.sum_nonneg fun t ht => by
      obtain ⟨w, hw, rfl⟩ := List.mem_map.1 ht
      exact toRat_nonneg (hl w hw).2
  cases hlist : a.liveEntries (v : Int) with
  | nil =>
    rw [hlist] at hf
    cases hf
    rw [List.map_nil, List.sum_nil, zero_mul, zero_mul, toRat_zero]
    have hκ : 0 ≤ κ := le_trans (mul_nonneg (by norm_num) hη) h7
    exact ⟨sub_nonpos.2 hκ, le_add_of_nonneg_right hκ, ⟨isB64_zero, le_refl _⟩, le_refl _⟩
  | cons w l =>
    rw [hlist] at hf hl hn hT
    rw [List.foldl_cons] at hf
    have hwP := hl w List.mem_cons_self
    cases hadd : addStep x (some Dbl.zero) w with
    | none =>
      rw [hadd, foldl_addStep_none] at hf
      cases hf
    | some s =>
      rw [hadd] at hf
      obtain ⟨lo, up, hyP⟩ := rowFold x u η hu0 hu1 hη herr s (add_nonnegB64 _ _ s ⟨isB64_zero, le_refl _⟩ hwP hadd)
        l (fun w' hw' => hl w' (List.mem_cons_of_mem _ hw')) y hf
      rw [zero_add_exact _ s hwP.1 hadd] at lo up
      rw [List.map_cons, List.sum_cons] at hT ⊢
      have hn3 : l.length ≤ 3 := Nat.le_of_succ_le_succ hn
      have hp2 : (2 : Rat) ^ l.length ≤ 2 ^ 3 := pow_le_pow_right₀ one_le_two hn3
      have g1 := mul_le_mul_of_nonneg_right
        (le_trans hlo3 (pow_le_pow_of_le_one (sub_nonneg.2 hu1) (sub_le_self 1 hu0) hn3)) hT
      have g2 := mul_le_mul_of_nonneg_right
        (le_trans (pow_le_pow_right₀ (le_add_of_nonneg_right hu0) hn3) hup3) hT
      have g3 : (2 ^ l.length - 1) * η ≤ 7 * η := mul_le_mul_of_nonneg_right (by linarith only [hp2]) hη
      exact ⟨by linarith only [lo, g1, g3, h7], by linarith only [up, g2, g3, h7], hyP, hT⟩

theorem rowSum_bound (a : Acc) (x : VecF) (v : Nat) (y : Dbl)
    (hx : ∀ w, w < a.size → NonnegB64 (x.getD w Dbl.zero))
    (ha : ∀ w ∈ a.liveEntries (v : Int), w < a.size)
    (hy : rowSumF a x v = some y) :
    applyRow a x.toRat v * (1 - (2 : Rat)⁻¹ ^ 51) - (2 : Rat)⁻¹ ^ 1070 ≤ Dbl.toRat y ∧
    Dbl.toRat y ≤ applyRow a x.toRat v * (1 + (2 : Rat)⁻¹ ^ 51) + (2 : Rat)⁻¹ ^ 1070 ∧
    NonnegB64 y ∧ 0 ≤ applyRow a x.toRat v :=
  rowSum_bound_of _ _ _ _ (by positivity) (by norm_num) (by positivity) add_err (by norm_num) (by norm_num)
    (half_pow_le (k := 3) (by norm_num) (by norm_num)) a x v y hx ha hy

end Dsw.PowerStopF
