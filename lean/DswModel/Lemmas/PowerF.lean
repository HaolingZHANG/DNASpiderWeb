import DswModel.Props.C17c
import DswModel.Props.C17
/-!
# Helper lemmas for C17d: bounds of the double-precision power iteration

`Le j x`: the double `x` lies in `[0, j]` (cross-multiplied). Rounding is monotone w.r.t. the integers `0 … 2^53`, so
sums of doubles of `[0, i]` and `[0, j]` lie in `[0, i + j]`, and the quotient of `0 ≤ t ≤ e` lies in `[0, 1]`; all
these operations are defined (no overflow).
-/
namespace Dsw

def VecF.In01 (n : Nat) (x : VecF) : Prop :=
  x.Ok n ∧ ∀ v, v < n → (x.getD v Dbl.zero).num ≤ (x.getD v Dbl.zero).den

end Dsw

namespace Dsw.PowerF
open Dsw.FloatErr Dsw.PowerStopF

def Le (j : Int) (x : Dbl) : Prop := 0 < x.den ∧ 0 ≤ x.num ∧ x.num ≤ j * x.den

theorem Le.mono {i j : Int} {x : Dbl} (h : Le i x) (hij : i ≤ j) : Le j x :=
  ⟨h.1, h.2.1, Int.le_trans h.2.2 (Int.mul_le_mul_of_nonneg_right hij (Int.natCast_nonneg _))⟩

theorem le_zero (j : Int) (hj : 0 ≤ j) : Le j Dbl.zero :=
  ⟨Nat.one_pos, Int.le_refl _, Int.mul_nonneg hj (Int.natCast_nonneg _)⟩

theorem add_le (i j : Int) (s t : Dbl) (hs : Le i s) (ht : Le j t) (hij : i + j ≤ 2 ^ 53) :
    ∃ r, Dbl.add s t = some r ∧ Le (i + j) r := by
  obtain ⟨hsd, hs0, hs1⟩ := hs
  obtain ⟨htd, ht0, ht1⟩ := ht
  have A := Int.mul_le_mul_of_nonneg_right hs1 (Int.natCast_nonneg t.den)
  have B := Int.mul_le_mul_of_nonneg_right ht1 (Int.natCast_nonneg s.den)
  rw [Int.mul_assoc] at A B
  rw [Int.mul_comm (t.den : Int)] at B
  apply roundDouble_range (j := i + j) (Nat.mul_pos hsd htd) hij
    (Int.add_nonneg (Int.mul_nonneg hs0 (Int.natCast_nonneg _)) (Int.mul_nonneg ht0 (Int.natCast_nonneg _)))
  rw [Int.natCast_mul, Int.add_mul]
  exact Int.add_le_add A B

theorem div_le_one (t e : Dbl) (htd : 0 < t.den) (ht0 : 0 ≤ t.num) (he0 : 0 < e.num)
    (hle : t.num * e.den ≤ e.num * t.den) : ∃ r, Dbl.div t e = some r ∧ Le 1 r := by
  rw [div_eq t e he0]
  apply roundDouble_range (j := 1) (Nat.mul_pos htd (Int.pos_iff_toNat_pos.1 he0)) (by decide)
    (Int.mul_nonneg ht0 (Int.natCast_nonneg _))
  rw [Int.one_mul, Int.natCast_mul, Int.toNat_of_nonneg (Int.le_of_lt he0), Int.mul_comm (t.den : Int)]
  exact hle

theorem div_two (j : Int) (hj : j ≤ 2 ^ 53) (t : Dbl) (ht : Le (2 * j) t) :
    ∃ r, Dbl.div t ⟨2, 1⟩ = some r ∧ Le j r := by
  obtain ⟨htd, ht0, ht1⟩ := ht
  rw [div_eq t ⟨2, 1⟩ (by decide)]
  apply roundDouble_range (j := j) (Nat.mul_pos htd (by decide)) hj (Int.mul_nonneg ht0 (by decide))
  show t.num * 1 ≤ j * ((t.den * 2 : Nat) : Int)
  rw [Int.mul_one, Int.natCast_mul, Int.mul_comm (t.den : Int), ← Int.mul_assoc, Int.mul_comm j]
  exact ht1

theorem rowFold_le (x : VecF) (hx : ∀ w, Le 1 (x.getD w Dbl.zero)) :
    ∀ (l : List Nat) (s : Dbl) (i : Int), 0 ≤ i → Le i s → i + l.length ≤ 2 ^ 53 →
      ∃ y, l.foldl (PowerStopF.addStep x) (some s) = some y ∧ Le (i + l.length) y
  | [], s, i, _, hs, _ => ⟨s, rfl, by rw [List.length_nil, Int.natCast_zero, Int.add_zero]; exact hs⟩
  | w :: l, s, i, hi, hs, hb => by
    rw [List.length_cons, Int.natCast_add, Int.natCast_one, Int.add_comm (l.length : Int) 1, ← Int.add_assoc] at hb ⊢
    obtain ⟨s', hadd, hs'⟩ := add_le i 1 s _ hs (hx w)
      (Int.le_trans (Int.le_add_of_nonneg_right (Int.natCast_nonneg _)) hb)
    rw [List.foldl_cons, show PowerStopF.addStep x (some s) w = some s' from hadd]
    exact rowFold_le x hx l s' (i + 1) (Int.add_nonneg hi (by decide)) hs' hb

theorem rowSum_le (a : Acc) (x : VecF) (hx : ∀ w, Le 1 (x.getD w Dbl.zero)) (v : Nat) :
    ∃ y, rowSumF a x v = some y ∧ Le 4 y := by
  have hn : (0 : Int) + ((a.liveEntries (v : Int)).length : Int) ≤ 4 := by
    rw [Int.zero_add]
    exact Int.ofNat_le.2 (Power.liveEntries_length_le a (v : Int))
  obtain ⟨y, hy, hyl⟩ := rowFold_le x hx (a.liveEntries (v : Int)) Dbl.zero 0 (Int.le_refl _)
    (le_zero 0 (Int.le_refl _)) (Int.le_trans hn (by decide))
  exact ⟨y, hy, hyl.mono hn⟩

theorem in01_le {n : Nat} {x : VecF} (hx : VecF.In01 n x) (w : Nat) : Le 1 (x.getD w Dbl.zero) := by
  by_cases hw : w < n
  · obtain ⟨hB, h0⟩ := hx.1.2 w hw
    exact ⟨hB.1, h0, by rw [Int.one_mul]; exact hx.2 w hw⟩
  · rw [getD_of_size_le _ _ _ (by rw [hx.1.1]; exact Nat.le_of_not_lt hw)]
    exact le_zero 1 (by decide)

theorem allSome_map_prop {α β} (f : α → Option β) (P : β → Prop) :
    ∀ l : List α, (∀ x ∈ l, ∃ t, f x = some t ∧ P t) → ∃ y, allSome (l.map f) = some y ∧ ∀ t ∈ y, P t
  | [], _ => ⟨[], rfl, fun _ h => nomatch h⟩
  | x :: l, h => by
    obtain ⟨t, ht, hP⟩ := h x (by simp)
    obtain ⟨y, hy, hyP⟩ := allSome_map_prop f P l fun x' hx' => h x' (by simp [hx'])
    exact ⟨t :: y, by simp only [List.map_cons, allSome, ht, hy, Option.map_some], List.forall_mem_cons.2 ⟨hP, hyP⟩⟩

theorem capStepF_pos (a : Acc) (x : VecF) (y zl : List Dbl)
    (hy : allSome ((List.range a.size).map fun v => rowSumF a x v) = some y)
    (hlt : Dbl.lt Dbl.zero (y.foldl Dbl.maxD Dbl.zero) = true)
    (hzl : allSome (y.map fun t => Dbl.div t (y.foldl Dbl.maxD Dbl.zero)) = some zl) :
    capStepF a x = some (zl.toArray, y.foldl Dbl.maxD Dbl.zero) := by
  unfold capStepF
  rw [hy]
  simp only [hlt, if_true, hzl, Option.map_some]

theorem capStepF_zero (a : Acc) (x : VecF) (y : List Dbl)
    (hy : allSome ((List.range a.size).map fun v => rowSumF a x v) = some y)
    (hlt : ¬ Dbl.lt Dbl.zero (y.foldl Dbl.maxD Dbl.zero) = true) :
    capStepF a x = some ((y.map fun _ => Dbl.zero).toArray, y.foldl Dbl.maxD Dbl.zero) := by
  unfold capStepF
  rw [hy]
  simp only [hlt, Bool.false_eq_true, if_false]

theorem step_bounds (a : Acc) (x : VecF) (hx : VecF.In01 a.size x) (ha : a.Closed) :
    ∃ z ev, capStepF a x = some (z, ev) ∧ 0 ≤ ev.num ∧ ev.num ≤ 4 * ev.den ∧ 0 < ev.den ∧ VecF.In01 a.size z := by
  obtain ⟨y, hy, hyP⟩ := allSome_map_prop (fun v => rowSumF a x v) (Le 4) (List.range a.size)
    fun v _ => rowSum_le a x (in01_le hx) v
  have hev : Le 4 (y.foldl Dbl.maxD Dbl.zero) :=
    foldl_maxD_prop (Le 4) y Dbl.zero (le_zero 4 (by decide)) hyP
  have hge := (foldl_maxD_ge y Dbl.zero Nat.one_pos fun t ht => (hyP t ht).1).2
  generalize hevdef : y.foldl Dbl.maxD Dbl.zero = ev at *
  -- whichever list `zl` the step returns, it is enough that its entries lie in `[0, 1]`
  have key : ∀ zl : List Dbl, capStepF a x = some (zl.toArray, ev) → (∀ t ∈ zl, Le 1 t) →
      ∃ z ev, capStepF a x = some (z, ev) ∧ 0 ≤ ev.num ∧ ev.num ≤ 4 * ev.den ∧ 0 < ev.den ∧ VecF.In01 a.size z := by
    intro zl hstep hzP
    refine ⟨_, ev, hstep, hev.2.1, hev.2.2, hev.1, (C17F_step_ok a x _ ev hx.1 ha hstep).1, fun v _ => ?_⟩
    have := (Power.list_getD_prop (Le 1) zl v Dbl.zero (le_zero 1 (by decide)) hzP).2.2
    rwa [Int.one_mul, List.getD_eq_getElem?_getD, ← List.getElem?_toArray, ← Array.getD_eq_getD_getElem?] at this
  by_cases hlt : Dbl.lt Dbl.zero ev = true
  · obtain ⟨zl, hzl, hzP⟩ := allSome_map_prop (fun t => Dbl.div t ev) (Le 1) y fun t ht =>
      div_le_one t ev (hyP t ht).1 (hyP t ht).2.1 ((lt_zero_iff ev).1 hlt)
        ((toRat_le_iff t ev (hyP t ht).1 hev.1).1 (hge t ht))
    exact key zl (by subst hevdef; exact capStepF_pos a x y zl hy hlt hzl) hzP
  · refine key _ (by subst hevdef; exact capStepF_zero a x y hy hlt) fun t ht => ?_
    obtain ⟨_, _, rfl⟩ := List.mem_map.1 ht
    exact le_zero 1 (by decide)

end Dsw.PowerF
