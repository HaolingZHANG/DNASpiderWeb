import DswModel.Lemmas.DeBruijn
import DswModel.Lemmas.Convert
/-! Helper lemmas for `set_vt` (C07). -/
namespace Dsw

theorem isAcgt_eraseIdx {s : List Char} (h : IsAcgt s) (p : Nat) : IsAcgt (s.eraseIdx p) :=
  fun c hc => h c (List.mem_of_mem_eraseIdx hc)

theorem isAcgt_insert {s : List Char} (h : IsAcgt s) (p : Nat) {x : Char}
    (hx : (nucIdx x).isSome = true) : IsAcgt (s.take p ++ [x] ++ s.drop p) := by
  intro c hc
  rcases List.mem_append.1 hc with hc | hc
  · rcases List.mem_append.1 hc with hc | hc
    · exact h c (List.mem_of_mem_take hc)
    · rw [List.mem_singleton.1 hc]
      exact hx
  · exact h c (List.mem_of_mem_drop hc)

theorem foldl_add_eq_sum (l : List Nat) (a : Nat) : l.foldl (· + ·) a = a + l.sum := by
  induction l generalizing a with
  | nil => simp
  | cons x l ih => simp [ih]; omega

theorem sum_vals_insert (s : List Char) (p : Nat) (x : Char) :
    ((s.take p ++ [x] ++ s.drop p).map fun c => (nucIdx c).getD 0).sum =
      (s.map fun c => (nucIdx c).getD 0).sum + (nucIdx x).getD 0 := by
  have h : (s.map fun c => (nucIdx c).getD 0).sum =
      ((s.take p).map fun c => (nucIdx c).getD 0).sum +
        ((s.drop p).map fun c => (nucIdx c).getD 0).sum := by
    rw [← List.sum_append, ← List.map_append, List.take_append_drop]
  rw [h]
  simp only [List.map_append, List.sum_append, List.map_cons, List.map_nil, List.sum_cons,
    List.sum_nil]
  omega

theorem sum_vals_eraseIdx (s : List Char) (p : Nat) (y : Char) (hy : s[p]? = some y) :
    (s.map fun c => (nucIdx c).getD 0).sum =
      ((s.eraseIdx p).map fun c => (nucIdx c).getD 0).sum + (nucIdx y).getD 0 := by
  induction s generalizing p with
  | nil => simp at hy
  | cons c s ih =>
    cases p with
    | zero =>
      have : c = y := by simpa using hy
      subst this
      simp only [List.eraseIdx_cons_zero, List.map_cons, List.sum_cons]
      omega
    | succ p =>
      have := ih p (by simpa using hy)
      simp only [List.eraseIdx_cons_succ, List.map_cons, List.sum_cons]
      omega

/-- a substitution is a deletion undone with another symbol. -/
theorem sum_vals_set (s : List Char) (p : Nat) (x y : Char) (hy : s[p]? = some y) :
    (s.map fun c => (nucIdx c).getD 0).sum + (nucIdx x).getD 0 =
      ((s.set p x).map fun c => (nucIdx c).getD 0).sum + (nucIdx y).getD 0 := by
  have hp : p < s.length := (List.getElem?_eq_some_iff.1 hy).1
  rw [sum_vals_eraseIdx s p y hy, sum_vals_eraseIdx (s.set p x) p x (List.getElem?_set_self hp),
    List.eraseIdx_set_eq]
  omega

theorem sum_filter_range_succ (q : Nat → Bool) (f : Nat → Nat) (n : Nat) :
    (((List.range (n + 1)).filter q).map f).sum =
      (if q 0 then f 0 else 0) + (((List.range n).filter (q ∘ Nat.succ)).map (f ∘ Nat.succ)).sum := by
  rw [List.range_succ_eq_map, List.filter_cons, List.filter_map, ← List.map_map]
  cases q 0 <;> simp

theorem ascentSum_eq_map (vals : List Nat) (i : Nat) :
    ascentSum vals i =
      (((List.range (vals.length - 1)).filter fun j => vals.getD j 0 < vals.getD (j + 1) 0).map
        (· + i)).sum := by
  induction vals generalizing i with
  | nil => rfl
  | cons x t ih =>
    cases t with
    | nil => rfl
    | cons y r =>
      rw [ascentSum, ih (i + 1)]
      show _ = (((List.range (r.length + 1)).filter _).map _).sum
      rw [sum_filter_range_succ, Nat.zero_add]
      congr 1
      · simp
      · exact congrArg List.sum (List.map_congr_left fun j _ => (Nat.succ_add j i).symm)

theorem ascentSum_zero (vals : List Nat) :
    ascentSum vals 0 =
      ((List.range (vals.length - 1)).filter fun j => vals.getD j 0 < vals.getD (j + 1) 0).sum := by
  rw [ascentSum_eq_map]
  simp

theorem numberToDnaInt_length (v w : Nat) (h : v < 4 ^ w) : (numberToDnaInt v w).length = w :=
  (numberToDnaInt_spec v w h).1

theorem kmerIdx_numberToDnaInt (v w : Nat) : kmerIdx (numberToDnaInt v w) = v := by
  have hk : ∀ s, kmerIdx s = valB 4 (nucVals s) 0 := fun s => (List.foldl_map ..).symm
  rw [hk, numberToDnaInt, nucVals_padDna _ _ (digitsNat_lt 4 (by omega) v [] (by simp)),
    valB_replicate_zero, valB_digitsNat 4 (by omega)]
  rfl

theorem isAcgt_numberToDnaInt (v w : Nat) : IsAcgt (numberToDnaInt v w) :=
  padDna_isDna _ _

theorem setVt_ok {s : List Char} (n : Nat) (hs : IsAcgt s) :
    setVt s n = .ok (nucChar ((s.map fun c => (nucIdx c).getD 0).sum % 4) ::
      numberToDnaInt
        (((List.range ((s.map fun c => (nucIdx c).getD 0).length - 1)).filter fun j =>
          (s.map fun c => (nucIdx c).getD 0).getD j 0 <
            (s.map fun c => (nucIdx c).getD 0).getD (j + 1) 0).sum % 4 ^ (n - 1)) (n - 1)) := by
  unfold setVt
  rw [nucValues_ok s hs]
  simp only [nucVals, Except.map, foldl_add_eq_sum, Nat.zero_add, ascentSum_zero]

theorem setVt_err {s : List Char} (n : Nat) (hs : ¬ IsAcgt s) : setVt s n = .error .valueError := by
  unfold setVt
  rw [nucValues_error s hs]
  rfl

theorem setVt_length {s c : List Char} {n : Nat} (hn : 1 ≤ n) (h : setVt s n = .ok c) :
    c.length = n := by
  by_cases hs : IsAcgt s
  · rw [setVt_ok n hs] at h
    cases h
    rw [List.length_cons, numberToDnaInt_length _ _ (Nat.mod_lt _ (Nat.pow_pos (by omega)))]
    omega
  · rw [setVt_err n hs] at h
    cases h

/-- if the value sums differ by the difference of two distinct nucleotide values, they differ
mod 4, and so do the first symbols of the checks. -/
theorem setVt_head_ne {s s' : List Char} (n : Nat) (hs : IsAcgt s) (hs' : IsAcgt s') {v w : Nat}
    (h : (s.map fun c => (nucIdx c).getD 0).sum + v = (s'.map fun c => (nucIdx c).getD 0).sum + w)
    (hv : v < 4) (hw : w < 4) (hne : v ≠ w) :
    ∃ c c', setVt s n = .ok c ∧ setVt s' n = .ok c' ∧ c.head? ≠ c'.head? := by
  refine ⟨_, _, setVt_ok n hs, setVt_ok n hs', ?_⟩
  simp only [List.head?_cons, ne_eq, Option.some.injEq]
  intro he
  have := nucChar_inj (Nat.mod_lt _ (by omega)) (Nat.mod_lt _ (by omega)) he
  omega

theorem vtMatches_false {s' c c' : List Char} {n : Nat} (hlen : c.length = n)
    (hc' : setVt s' n = .ok c') (hne : c.head? ≠ c'.head?) :
    vtMatches s' (some c) = .ok false := by
  unfold vtMatches
  simp only [hlen, hc', Except.map]
  congr 1
  rw [beq_eq_false_iff_ne]
  intro h
  exact hne (by rw [h])

theorem vtMatches_setVt {s c : List Char} {n : Nat} (hn : 1 ≤ n) (h : setVt s n = .ok c) :
    vtMatches s (some c) = .ok true := by
  unfold vtMatches
  simp only [setVt_length hn h, h, Except.map, beq_self_eq_true]

theorem vtMatches_cases (s : List Char) (chk : Option (List Char)) :
    vtMatches s chk = .ok true ∨ vtMatches s chk = .ok false ∨
      vtMatches s chk = .error .valueError := by
  cases chk with
  | none => exact .inl rfl
  | some c =>
    simp only [vtMatches]
    by_cases hs : IsAcgt s
    · obtain ⟨c', hc'⟩ : ∃ c', setVt s c.length = .ok c' := ⟨_, setVt_ok _ hs⟩
      rw [hc']
      show Except.ok (c' == c) = _ ∨ Except.ok (c' == c) = _ ∨ Except.ok (c' == c) = _
      cases c' == c with
      | true => exact .inl rfl
      | false => exact .inr (.inl rfl)
    · rw [setVt_err _ hs]
      exact .inr (.inr rfl)

end Dsw
