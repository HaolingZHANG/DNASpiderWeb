import DswModel.Lemmas.FloatRoundGc
import DswModel.Lemmas.Thresholds
import DswModel.Props.FloatSpec
import Mathlib.Data.Rat.Floor
import Mathlib.Algebra.Order.Floor.Ring
import Mathlib.Algebra.Order.Field.Rat
import Mathlib.Tactic.Linarith
import Mathlib.Tactic.Ring
/-!
The one threshold analysis behind C02b and C12c, stated in `Rat`: `dblQ x` is the exact value of a double, `Dbl.floor` / `Dbl.ceil` are `⌊dblQ x⌋` / `⌈dblQ x⌉`, and
`Rounds v r` says that the double `r` is the rounding of the rational `v`. All that is used of a rounding: it never
crosses a binary64 value (`Rounds.b64`), so it fixes binary64 values and never crosses an integer
of magnitude ≤ 2^53. The products and the difference of `floatGcRule` are roundings of `dblQ x * k` and `k − dblQ a`.
-/
namespace Dsw

/-- the exact value of a double, as a rational. -/
def dblQ (x : Dbl) : Rat := (x.num : Rat) / (x.den : Rat)

end Dsw

namespace Dsw.FloatGc

theorem dblQ_def (x : Dbl) : dblQ x = (x.num : Rat) / (x.den : Rat) := rfl

theorem floor_eq_dblQ (x : Dbl) : x.floor = ⌊dblQ x⌋ := by
  rw [Dbl.floor_eq, dblQ_def, Rat.floor_intCast_div_natCast]

theorem ceil_eq_dblQ (x : Dbl) : x.ceil = ⌈dblQ x⌉ := by
  have h : (((-x.num : Int)) : Rat) / (x.den : Rat) = -(dblQ x) := by
    rw [dblQ_def, Int.cast_neg, neg_div]
  rw [Dbl.ceil_eq, ← Rat.floor_intCast_div_natCast, h, Int.floor_neg, neg_neg]

theorem dblQ_range {x : Dbl} (hd : 0 < x.den) (h0 : 0 ≤ x.num) (h1 : x.num ≤ x.den) : 0 ≤ dblQ x ∧ dblQ x ≤ 1 := by
  have hd' : (0 : Rat) < (x.den : Rat) := by exact_mod_cast hd
  exact ⟨div_nonneg (by exact_mod_cast h0) hd'.le, (div_le_one hd').2 (by exact_mod_cast h1)⟩

/-- `r` is the double that the rational `v` rounds to. -/
def Rounds (v : Rat) (r : Dbl) : Prop :=
  ∃ (num : Int) (den : Nat), 0 < den ∧ v = (num : Rat) / (den : Rat) ∧ roundDouble num den = some r

/-- a rounding never crosses a binary64 value `y`: `y ≤ v → y ≤ fl(v)` and `v ≤ y → fl(v) ≤ y`. -/
theorem Rounds.b64 {v : Rat} {r : Dbl} (hr : Rounds v r) {yn : Int} {yd : Nat} (hy : IsB64 yn yd) :
    ((yn : Rat) / (yd : Rat) ≤ v → (yn : Rat) / (yd : Rat) ≤ dblQ r) ∧
    (v ≤ (yn : Rat) / (yd : Rat) → dblQ r ≤ (yn : Rat) / (yd : Rat)) := by
  obtain ⟨num, den, hden, rfl, hr⟩ := hr
  have hd' : (0 : Rat) < (den : Rat) := by exact_mod_cast hden
  have hyd' : (0 : Rat) < (yd : Rat) := by exact_mod_cast hy.1
  have hrd' : (0 : Rat) < (r.den : Rat) := by exact_mod_cast roundDouble_den_pos hr
  rw [dblQ_def, div_le_div_iff₀ hyd' hd', div_le_div_iff₀ hyd' hrd', div_le_div_iff₀ hd' hyd', div_le_div_iff₀ hrd' hyd']
  exact ⟨fun h => by exact_mod_cast roundDouble_ge_of_isB64 hden hr hy (by exact_mod_cast h),
    fun h => by exact_mod_cast roundDouble_le_of_isB64 hden hr hy (by exact_mod_cast h)⟩

theorem Rounds.exact {v : Rat} {r : Dbl} (hr : Rounds v r) {yn : Int} {yd : Nat} (hy : IsB64 yn yd)
    (hv : v = (yn : Rat) / (yd : Rat)) : dblQ r = v :=
  hv ▸ le_antisymm ((hr.b64 hy).2 hv.le) ((hr.b64 hy).1 hv.ge)

theorem Rounds.ge {v : Rat} {r : Dbl} (hr : Rounds v r) {N : Int} (hN : N.natAbs ≤ 2 ^ 53) (h : (N : Rat) ≤ v) :
    (N : Rat) ≤ dblQ r := by
  have := (hr.b64 (isB64_int N hN)).1 (by rwa [Nat.cast_one, div_one])
  rwa [Nat.cast_one, div_one] at this

theorem Rounds.le {v : Rat} {r : Dbl} (hr : Rounds v r) {N : Int} (hN : N.natAbs ≤ 2 ^ 53) (h : v ≤ (N : Rat)) :
    dblQ r ≤ (N : Rat) := by
  have := (hr.b64 (isB64_int N hN)).2 (by rwa [Nat.cast_one, div_one])
  rwa [Nat.cast_one, div_one] at this

theorem Rounds.floor_ceil {v : Rat} {r : Dbl} {k : Nat} (hr : Rounds v r) (hk : k ≤ 2 ^ 53) (h0 : 0 ≤ v)
    (h1 : v ≤ k) : ((⌊v⌋ : Int) : Rat) ≤ dblQ r ∧ dblQ r ≤ ((⌈v⌉ : Int) : Rat) := by
  have f0 : 0 ≤ ⌊v⌋ := Int.floor_nonneg.2 h0
  have f1 : ⌊v⌋ ≤ ⌈v⌉ := Int.floor_le_ceil v
  have f2 : ⌈v⌉ ≤ (k : Int) := Int.ceil_le.2 (by exact_mod_cast h1)
  exact ⟨hr.ge (by omega) (Int.floor_le v), hr.le (by omega) (Int.le_ceil v)⟩

theorem Rounds.floor_ceil_near {v : Rat} {r : Dbl} {k : Nat} (hr : Rounds v r) (hk : k ≤ 2 ^ 53) (h0 : 0 ≤ v)
    (h1 : v ≤ k) : (⌊dblQ r⌋ - ⌊v⌋).natAbs ≤ 1 ∧ (⌈dblQ r⌉ - ⌈v⌉).natAbs ≤ 1 := by
  obtain ⟨f1, f2⟩ := hr.floor_ceil hk h0 h1
  have g1 : ⌊v⌋ ≤ ⌊dblQ r⌋ := Int.le_floor.2 f1
  have g2 : ⌊dblQ r⌋ ≤ ⌈dblQ r⌉ := Int.floor_le_ceil _
  have g3 : ⌈dblQ r⌉ ≤ ⌈v⌉ := Int.ceil_le.2 f2
  have g4 : ⌈v⌉ ≤ ⌊v⌋ + 1 := Int.ceil_le_floor_add_one v
  omega

/-- the short-strand bound `⌊fl(k − x)⌋`, for any `x` between `⌊v⌋` and `⌈v⌉` (`v` itself, or its rounding), is
`k − ⌈v⌉` or one count more. -/
theorem Rounds.sub_near {v x : Rat} {c : Dbl} {k : Nat} (hc : Rounds ((k : Rat) - x) c) (hk : k ≤ 2 ^ 53)
    (h0 : 0 ≤ v) (h1 : v ≤ k) (hx1 : ((⌊v⌋ : Int) : Rat) ≤ x) (hx2 : x ≤ ((⌈v⌉ : Int) : Rat)) :
    (k : Int) - ⌈v⌉ ≤ ⌊dblQ c⌋ ∧ ⌊dblQ c⌋ ≤ (k : Int) - ⌈v⌉ + 1 := by
  have f0 : 0 ≤ ⌊v⌋ := Int.floor_nonneg.2 h0
  have f1 : ⌈v⌉ ≤ ⌊v⌋ + 1 := Int.ceil_le_floor_add_one v
  have f1' : ⌊v⌋ ≤ ⌈v⌉ := Int.floor_le_ceil v
  have f2 : ⌈v⌉ ≤ (k : Int) := Int.ceil_le.2 (by exact_mod_cast h1)
  have g1 : (((k : Int) - ⌈v⌉ : Int) : Rat) ≤ dblQ c :=
    hc.ge (by omega) (by rw [Int.cast_sub, Int.cast_natCast]; exact sub_le_sub_left hx2 _)
  have g2 : dblQ c ≤ (((k : Int) - ⌊v⌋ : Int) : Rat) :=
    hc.le (by omega) (by rw [Int.cast_sub, Int.cast_natCast]; exact sub_le_sub_left hx1 _)
  have g3 : ⌊dblQ c⌋ ≤ (k : Int) - ⌊v⌋ := Int.cast_le.1 (le_trans (Int.floor_le _) g2)
  exact ⟨Int.le_floor.2 g1, by omega⟩

theorem mul_rounds {x fk a : Dbl} {k : Nat} (hx : 0 < x.den) (hfk : fk.num = k * fk.den) (hfd : 0 < fk.den)
    (ha : x.mul fk = some a) : Rounds (dblQ x * k) a := by
  refine ⟨_, _, Nat.mul_pos hx hfd, ?_, ha⟩
  have h2 : (fk.den : Rat) ≠ 0 := by exact_mod_cast hfd.ne'
  rw [hfk, dblQ_def]
  push_cast
  rw [← mul_assoc, mul_div_mul_right _ _ h2, div_mul_eq_mul_div]

theorem sub_rounds {fk a c : Dbl} {k : Nat} (ha : 0 < a.den) (hfk : fk.num = k * fk.den) (hfd : 0 < fk.den)
    (hc : fk.sub a = some c) : Rounds ((k : Rat) - dblQ a) c := by
  refine ⟨_, _, Nat.mul_pos hfd ha, ?_, hc⟩
  have h1 : (a.den : Rat) ≠ 0 := by exact_mod_cast ha.ne'
  have h2 : (fk.den : Rat) ≠ 0 := by exact_mod_cast hfd.ne'
  rw [hfk, dblQ_def]
  push_cast
  rw [sub_div, mul_assoc, mul_div_cancel_right₀ _ (mul_ne_zero h2 h1), mul_comm (fk.den : Rat),
    mul_div_mul_right _ _ h2]

theorem rule_rounds {lo hi : Dbl} {k : Nat} {g : GcRule} (hlo : 0 < lo.den) (hhi : 0 < hi.den) (hk : k ≤ 2 ^ 53)
    (hg : floatGcRule lo hi k = some g) :
    ∃ a b c : Dbl, Rounds (dblQ lo * k) a ∧ Rounds (dblQ hi * k) b ∧ Rounds ((k : Rat) - dblQ a) c ∧
      g.gcLo = ⌈dblQ a⌉ ∧ g.gcHi = ⌊dblQ b⌋ ∧ g.atHi = ⌊dblQ c⌋ := by
  obtain ⟨fk, a, b, c, hnum, hfd, ha, hb, hc, hlo', hhi', hat⟩ := floatGcRule_some hk hg
  have had : 0 < a.den := roundDouble_den_pos ha
  exact ⟨a, b, c, mul_rounds hlo hnum hfd ha, mul_rounds hhi hnum hfd hb, sub_rounds had hnum hfd hc,
    hlo'.trans (ceil_eq_dblQ a), hhi'.trans (floor_eq_dblQ b), hat.trans (floor_eq_dblQ c)⟩

end Dsw.FloatGc
