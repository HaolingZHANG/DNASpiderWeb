import DswModel.Model.Spiderweb
import DswModel.Lemmas.Defs
import DswModel.Lemmas.DeBruijn
import DswModel.Lemmas.Convert3
/-! Helper lemmas for `calculate_intersection_score` / `remove_nasty_arc` (C19). -/
namespace Dsw

/-- shape of the score table and "positive only on good cells". -/
def ScoreInv (n : Nat) (G : Nat → Nat → Prop) (sc : Array (Array Nat)) : Prop :=
  sc.size = n ∧ (∀ v, v < n → (sc.getD v #[]).size = 4) ∧
    ∀ v j : Nat, 0 < (sc.getD v #[]).getD j 0 → G v j

theorem getD_addScore (sc : Array (Array Nat)) (v j s u : Nat) :
    (addScore sc v j s).getD u #[] =
      if u = v then (sc.getD v #[]).setIfInBounds j ((sc.getD v #[]).getD j 0 + s)
      else sc.getD u #[] := by
  unfold addScore
  by_cases huv : u = v
  · subst huv
    by_cases h : u < sc.size
    · simp [getD_setIfInBounds_self _ _ _ _ h]
    · rw [getD_setIfInBounds_oob _ _ _ _ _ (by omega)]
      have : sc.getD u #[] = #[] := by simp [Array.getD, h]
      simp [this]
  · rw [getD_setIfInBounds_ne _ _ _ _ _ (Ne.symm huv)]
    simp [huv]

theorem scoreInv_addScore {n : Nat} {G : Nat → Nat → Prop} {sc : Array (Array Nat)}
    (cur c s : Nat) (h : ScoreInv n G sc) (hg : G cur c) : ScoreInv n G (addScore sc cur c s) := by
  obtain ⟨h1, h2, h3⟩ := h
  refine ⟨by simpa [addScore] using h1, fun v hv => ?_, fun v j hp => ?_⟩
  · rw [getD_addScore]
    split
    · next he => subst he; simpa using h2 v hv
    · exact h2 v hv
  · rw [getD_addScore] at hp
    by_cases hvc : v = cur
    · subst hvc
      by_cases hjc : j = c
      · subst hjc; exact hg
      · rw [if_pos rfl, getD_setIfInBounds_ne _ _ _ _ _ (Ne.symm hjc)] at hp
        exact h3 v j hp
    · rw [if_neg hvc] at hp
      exact h3 v j hp

theorem scoreInv_init (k : Nat) (G : Nat → Nat → Prop) :
    ScoreInv (4 ^ k) G (Array.replicate (4 ^ k) (Array.replicate 4 0)) := by
  refine ⟨by simp, fun v hv => ?_, fun v j hp => ?_⟩
  · simp [Array.getD, hv]
  · exfalso
    by_cases hv : v < 4 ^ k
    · by_cases hj : j < 4
      · simp [Array.getD, hv, hj] at hp
      · simp [Array.getD, hv, hj] at hp
    · simp [Array.getD, hv] at hp

theorem lt_of_mem_pairsBelow {n : Nat} {ij : Nat × Nat} (h : ij ∈ pairsBelow n) : ij.1 < n ∧ ij.2 < n := by
  simp only [pairsBelow, List.mem_flatMap, List.mem_map, List.mem_filter, List.mem_range] at h
  obtain ⟨i, hi, j, ⟨hj, _⟩, rfl⟩ := h
  exact ⟨hi, hj⟩

theorem getD_mem_of_lt {α} (l : List α) (i : Nat) (d : α) (h : i < l.length) : l.getD i d ∈ l := by
  simp [List.getD, h]

theorem scoreInv_calc (k : Nat) (m : LMap) (ins del : Bool) (G : Nat → Nat → Prop)
    (hm : ∀ p ∈ m, ∀ w ∈ p.2, G p.1 (w % 4)) :
    ScoreInv (4 ^ k) G (calculateIntersectionScore m k ins del) := by
  unfold calculateIntersectionScore
  refine foldl_invariant (ScoreInv (4 ^ k) G) _ _ ?_ _ (scoreInv_init k G)
  intro sc p hp hsc
  have hG : ∀ w ∈ p.2, G p.1 (w % 4) := hm p hp
  dsimp only
  have h1 : ScoreInv (4 ^ k) G ((pairsBelow (p.2.map fun w => leafMap m (k - 1) [w]).length).foldl (fun sc ij =>
        let s := unionCount ((p.2.map fun w => leafMap m (k - 1) [w]).getD ij.1 [])
          ((p.2.map fun w => leafMap m (k - 1) [w]).getD ij.2 [])
        addScore (addScore sc p.1 (p.2.getD ij.1 0 % 4) s) p.1 (p.2.getD ij.2 0 % 4) s) sc) := by
    refine foldl_invariant (ScoreInv (4 ^ k) G) _ _ ?_ _ hsc
    intro s ij hij hs
    have := lt_of_mem_pairsBelow hij
    rw [List.length_map] at this
    exact scoreInv_addScore _ _ _ (scoreInv_addScore _ _ _ hs (hG _ (getD_mem_of_lt _ _ _ this.1)))
      (hG _ (getD_mem_of_lt _ _ _ this.2))
  have h2 : ∀ sc0, ScoreInv (4 ^ k) G sc0 → ScoreInv (4 ^ k) G (if ins = true then
        p.2.zipIdx.foldl (fun sc fi =>
          match m.get? fi.1 with
          | none => sc
          | some ls => ls.foldl (fun sc w =>
              addScore sc p.1 (fi.1 % 4) (unionCount ((p.2.map fun w => leafMap m (k - 1) [w]).getD fi.2 []) (leafMap m (k - 1) [w]))) sc) sc0
      else sc0) := by
    intro sc0 h0
    cases ins
    · exact h0
    · refine foldl_invariant (ScoreInv (4 ^ k) G) _ _ ?_ _ h0
      intro s fi hfi hs
      cases m.get? fi.1 with
      | none => exact hs
      | some ls =>
        refine foldl_invariant (ScoreInv (4 ^ k) G) _ _ ?_ _ hs
        intro s' w _ hs'
        exact scoreInv_addScore _ _ _ hs' (hG _ (List.fst_mem_of_mem_zipIdx hfi))
  cases del
  · exact h2 _ h1
  · refine foldl_invariant (ScoreInv (4 ^ k) G) _ _ ?_ _ (h2 _ h1)
    intro s fi hfi hs
    exact scoreInv_addScore _ _ _ hs (hG _ (List.fst_mem_of_mem_zipIdx hfi))

theorem mem_obtainVertices_lt {a : Acc} {v : Nat} (h : v ∈ obtainVertices a) : v < a.size := by
  simp only [obtainVertices, List.mem_filter, List.mem_range] at h
  exact h.1

/-- a live entry of a de Bruijn sub-table sits in the column of its last digit. -/
theorem ent_mod_four_of_mem_live {k : Nat} {a : Acc} {v j : Nat} (hk : 1 ≤ k) (h : WFdB k a) (hv : v < 4 ^ k)
    (hj : j ∈ a.live (v : Int)) : (a.ent (v : Int) j).toNat % 4 = j := by
  rw [Acc.mem_live] at hj
  rw [(h.ent_nonneg_iff hv hj.1).1 hj.2, Int.toNat_natCast, shift_column k v j hk hj.1]

theorem live_of_mem_liveEntries {k : Nat} {a : Acc} {v w : Nat} (hk : 1 ≤ k) (h : WFdB k a) (hv : v < 4 ^ k)
    (hw : w ∈ a.liveEntries (v : Int)) :
    w % 4 ∈ a.live (v : Int) ∧ a.ent (v : Int) (w % 4) = (w : Int) := by
  rw [h.liveEntries_eq hv, List.mem_map] at hw
  obtain ⟨j, hj, rfl⟩ := hw
  have hj' := (Acc.mem_live _ _ _).1 hj
  rw [shift_column k v j hk hj'.1]
  exact ⟨hj, (h.ent_nonneg_iff hv hj'.1).1 hj'.2⟩

theorem latterMap_good {k : Nat} {a : Acc} (hk : 1 ≤ k) (h : WFdB k a) :
    ∀ p ∈ accessorToLatterMap a, ∀ w ∈ p.2, 0 ≤ a.ent (p.1 : Int) (w % 4) := by
  intro p hp w hw
  simp only [accessorToLatterMap, List.mem_map] at hp
  obtain ⟨v, hv, rfl⟩ := hp
  have hv' : v < 4 ^ k := by rw [← h.1]; exact mem_obtainVertices_lt hv
  exact le_of_le_of_eq (Int.natCast_nonneg w) (live_of_mem_liveEntries hk h hv' hw).2.symm

theorem le_foldl_max (l : List Nat) (i x : Nat) (h : x ∈ i :: l) : x ≤ l.foldl max i :=
  (List.max?_eq_some_iff.1 List.max?_cons').2 x h

theorem le_globalMax (sc : Array (Array Nat)) (v j : Nat) :
    (sc.getD v #[]).getD j 0 ≤ sc.foldl (fun x r => r.foldl max x) 0 := by
  rw [← Array.foldl_flatten, ← Array.foldl_toList]
  apply le_foldl_max
  rw [List.mem_cons, Array.mem_toList_iff, Array.mem_flatten]
  by_cases hv : v < sc.size
  · by_cases hj : j < sc[v].size
    · exact Or.inr ⟨sc[v], Array.getElem_mem hv, by simp [Array.getD, hv, hj]⟩
    · exact Or.inl (by simp [Array.getD, hv, hj])
  · exact Or.inl (by simp [Array.getD, hv])

theorem argmax_spec (l : List Nat) (mx : Nat) (hmem : mx ∈ l) (hle : ∀ x ∈ l, x ≤ mx) :
    argmax l < l.length ∧ l.getD (argmax l) 0 = mx := by
  have hmax : l.foldl max 0 = mx :=
    Nat.le_antisymm
      ((List.max?_le_iff List.max?_cons').2 fun x hx =>
        (List.mem_cons.1 hx).elim (fun e => e ▸ Nat.zero_le _) (hle x))
      (le_foldl_max l 0 mx (List.mem_cons_of_mem _ hmem))
  unfold argmax
  rw [hmax]
  have hlt : l.idxOf mx < l.length := List.idxOf_lt_length_of_mem hmem
  refine ⟨hlt, ?_⟩
  simp [List.getD, hlt]

theorem toList_getD_eq {α} (r : Array α) (i : Nat) (d : α) : r.toList.getD i d = r.getD i d := by
  by_cases h : i < r.size <;> simp [List.getD, Array.getD, h]

theorem argmax_row (sc : Array (Array Nat)) (v : Nat)
    (h : (sc.getD v #[]).any (· == sc.foldl (fun x r => r.foldl max x) 0) = true) :
    argmax (sc.getD v #[]).toList < (sc.getD v #[]).size ∧
    ∀ u j, (sc.getD u #[]).getD j 0 ≤ (sc.getD v #[]).getD (argmax (sc.getD v #[]).toList) 0 := by
  have hle : ∀ x ∈ (sc.getD v #[]).toList, x ≤ sc.foldl (fun x r => r.foldl max x) 0 := by
    intro x hx
    obtain ⟨i, hi, rfl⟩ := List.mem_iff_getElem.1 hx
    rw [Array.getElem_toList, ← array_getD_eq_getElem _ _ 0 hi]
    exact le_globalMax sc v i
  obtain ⟨i, hi, hieq⟩ := Array.any_eq_true.1 h
  have hmem : sc.foldl (fun x r => r.foldl max x) 0 ∈ (sc.getD v #[]).toList := by
    rw [← eq_of_beq hieq]; exact Array.getElem_mem_toList hi
  obtain ⟨hlv, hcell⟩ := argmax_spec _ _ hmem hle
  rw [toList_getD_eq] at hcell
  refine ⟨hlv, fun u j => ?_⟩
  rw [hcell]; exact le_globalMax sc u j

theorem eraseIdx_idxOf_map (f : Nat → Nat) (l : List Nat) (x : Nat) (hx : x ∈ l) (hnd : l.Nodup)
    (hinj : ∀ y ∈ l, f y = f x → y = x) :
    (l.map f).eraseIdx ((l.map f).idxOf (f x)) = (l.filter (· != x)).map f := by
  induction l with
  | nil => cases hx
  | cons y ys ih =>
    rw [List.nodup_cons] at hnd
    by_cases hyx : y = x
    · subst hyx
      have : ys.filter (· != y) = ys := by
        rw [List.filter_eq_self]
        intro z hz
        have : z ≠ y := fun e => hnd.1 (e ▸ hz)
        simpa using this
      simp [this]
    · have hx' : x ∈ ys := by
        rcases List.mem_cons.1 hx with e | e
        · exact absurd e.symm hyx
        · exact e
      have hf : f y ≠ f x := fun e => hyx (hinj y (by simp) e)
      have hb : (f y == f x) = false := by simpa using hf
      have hb' : (y != x) = true := by simpa using hyx
      simp only [List.map_cons, List.idxOf_cons, hb, cond_false, List.eraseIdx_cons_succ,
        List.filter_cons, hb', if_true]
      rw [ih hx' hnd.2 (fun z hz => hinj z (by simp [hz]))]

theorem live_setEnt_ne (a : Acc) (v j u : Nat) (x : Int) (h : u ≠ v) :
    (a.setEnt v j x).live (u : Int) = a.live (u : Int) := by
  unfold Acc.live
  apply List.filter_congr
  intro i _
  rw [Acc.ent_setEnt_ne _ _ _ _ _ _ (Or.inl h)]

theorem liveEntries_setEnt_ne (a : Acc) (v j u : Nat) (x : Int) (h : u ≠ v) :
    (a.setEnt v j x).liveEntries (u : Int) = a.liveEntries (u : Int) := by
  unfold Acc.liveEntries
  rw [live_setEnt_ne _ _ _ _ _ h]
  apply List.map_congr_left
  intro i _
  rw [Acc.ent_setEnt_ne _ _ _ _ _ _ (Or.inl h)]

theorem live_setEnt_self (a : Acc) (v j : Nat) (hj : j < (a.getD v #[]).size) :
    (a.setEnt v j (-1)).live (v : Int) = (a.live (v : Int)).filter (· != j) := by
  unfold Acc.live
  rw [List.filter_filter]
  apply List.filter_congr
  intro i _
  by_cases hij : i = j
  · subst hij
    rw [Acc.ent_setEnt_self _ _ _ _ hj]
    simp
  · rw [Acc.ent_setEnt_ne _ _ _ _ _ _ (Or.inr hij)]
    simp [hij]

theorem liveEntries_setEnt_self (a : Acc) (v j : Nat) (hj : j < (a.getD v #[]).size) :
    (a.setEnt v j (-1)).liveEntries (v : Int) =
      ((a.live (v : Int)).filter (· != j)).map fun i => (a.ent (v : Int) i).toNat := by
  unfold Acc.liveEntries
  rw [live_setEnt_self _ _ _ hj]
  apply List.map_congr_left
  intro i hi
  have : i ≠ j := by
    have := (List.mem_filter.1 hi).2
    simpa using this
  rw [Acc.ent_setEnt_ne _ _ _ _ _ _ (Or.inr this)]

theorem filterMap_map_filter {α β γ} (l : List α) (p : α → Bool) (g : α → β) (h : β → Option γ) :
    ((l.filter p).map g).filterMap h = l.filterMap (fun v => if p v then h (g v) else none) := by
  rw [List.filterMap_map, List.filterMap_filter]
  rfl

theorem map_filter_eq_filterMap {α β} (l : List α) (p : α → Bool) (g : α → β) :
    (l.filter p).map g = l.filterMap (fun v => if p v then some (g v) else none) := by
  have := filterMap_map_filter l p g some
  rwa [List.filterMap_some] at this

theorem sum_map_range_update (f g : Nat → Nat) (n i : Nat) (hi : i < n)
    (hne : ∀ v, v ≠ i → g v = f v) (hi' : g i + 1 = f i) :
    ((List.range n).map g).sum + 1 = ((List.range n).map f).sum := by
  induction n with
  | zero => omega
  | succ n ih =>
    rw [List.range_succ, List.map_append, List.map_append, List.sum_append, List.sum_append]
    simp only [List.map_cons, List.map_nil, List.sum_cons, List.sum_nil, Nat.add_zero]
    by_cases hin : i = n
    · subst hin
      have : (List.range i).map g = (List.range i).map f := by
        apply List.map_congr_left
        intro v hv
        exact hne v (by have := List.mem_range.1 hv; omega)
      rw [this]; omega
    · have := ih (by omega)
      rw [hne n (Ne.symm hin)]; omega

theorem filterMap_congr {α β} (l : List α) (f g : α → Option β) (h : ∀ x ∈ l, f x = g x) :
    l.filterMap f = l.filterMap g := by
  induction l with
  | nil => rfl
  | cons x xs ih =>
    rw [List.filterMap_cons, List.filterMap_cons, h x (by simp), ih (fun y hy => h y (by simp [hy]))]

theorem length_filter_ne (l : List Nat) (x : Nat) (hx : x ∈ l) (hnd : l.Nodup) :
    (l.filter (· != x)).length + 1 = l.length := by
  have h := congrArg List.length (eraseIdx_idxOf_map id l x hx hnd fun _ _ e => e)
  rw [List.map_id, List.map_id, id, List.length_eraseIdx_of_lt (List.idxOf_lt_length_of_mem hx)] at h
  have := List.length_pos_of_mem hx
  omega

/-- removing a live arc from the accessor is `erase1` on the latter map. -/
theorem latterMap_setEnt_erase {k : Nat} {a : Acc} {v j : Nat} (hk : 1 ≤ k) (h : WFdB k a)
    (hv : v < 4 ^ k) (hj : j ∈ a.live (v : Int)) :
    accessorToLatterMap (a.setEnt v j (-1)) =
      (accessorToLatterMap a).erase1 v (a.ent (v : Int) j).toNat := by
  have h' : WFdB k (a.setEnt v j (-1)) := wfdb_setEnt k a v j (-1) h (Or.inl rfl)
  unfold accessorToLatterMap LMap.erase1 obtainVertices
  rw [filterMap_map_filter, map_filter_eq_filterMap, Acc.size_setEnt]
  apply filterMap_congr
  intro u hu
  have hu : u < 4 ^ k := by rw [← h.1]; exact List.mem_range.1 hu
  dsimp only
  by_cases huv : u = v
  · subst huv
    have hrow : j < (a.getD u #[]).size := by
      rw [(h.2 u hu).1]; exact ((Acc.mem_live _ _ _).1 hj).1
    have hne : a.live (u : Int) ≠ [] := fun e => by rw [e] at hj; cases hj
    have hL : (a.setEnt u j (-1)).liveEntries (u : Int) =
        (a.liveEntries (u : Int)).eraseIdx ((a.liveEntries (u : Int)).idxOf (a.ent (u : Int) j).toNat) := by
      rw [liveEntries_setEnt_self _ _ _ hrow]
      unfold Acc.liveEntries
      rw [eraseIdx_idxOf_map (fun i => (a.ent (u : Int) i).toNat) _ j hj (live_nodup _ _)]
      intro y hy hyj
      calc y = _ := (ent_mod_four_of_mem_live hk h hu hy).symm
        _ = _ := congrArg (· % 4) hyj
        _ = j := ent_mod_four_of_mem_live hk h hu hj
    rw [h.hasArcs_iff hu, h'.hasArcs_iff hu, if_pos (decide_eq_true hne), if_pos rfl, ← hL]
    unfold Acc.liveEntries
    cases (a.setEnt u j (-1)).live (u : Int) <;> simp
  · rw [Acc.getD_setEnt, if_neg huv, liveEntries_setEnt_ne _ _ _ _ _ huv]
    rw [if_neg huv]

theorem arcCount_setEnt {k : Nat} {a : Acc} {v j : Nat} (h : WFdB k a)
    (hv : v < 4 ^ k) (hj : j ∈ a.live (v : Int)) :
    ((List.range (a.setEnt v j (-1)).size).map fun (u : Nat) =>
        ((a.setEnt v j (-1)).live (u : Int)).length).sum + 1 =
      ((List.range a.size).map fun (u : Nat) => (a.live (u : Int)).length).sum := by
  rw [Acc.size_setEnt]
  apply sum_map_range_update _ _ _ v (by rw [h.1]; exact hv)
  · intro u hu
    rw [live_setEnt_ne _ _ _ _ _ hu]
  · have hrow : j < (a.getD v #[]).size := by
      rw [(h.2 v hv).1]; exact ((Acc.mem_live _ _ _).1 hj).1
    rw [live_setEnt_self _ _ _ hrow]
    exact length_filter_ne _ _ hj (live_nodup _ _)

theorem removeNastyArc_ok {k : Nat} {a : Acc} {ins del : Bool} {r : RemoveResult} (hk : 1 ≤ k)
    (h : WFdB k a) (hr : removeNastyArc a (accessorToLatterMap a) ins del = .ok r) :
    r.former < 4 ^ k ∧ ∃ j, j ∈ a.live (r.former : Int) ∧ a.ent (r.former : Int) j = (r.latter : Int) ∧
      r.acc = a.setEnt r.former j (-1) ∧
      r.lmap = (accessorToLatterMap a).erase1 r.former r.latter ∧
      ∀ v j' : Nat,
        ((calculateIntersectionScore (accessorToLatterMap a) k ins del).getD v #[]).getD j' 0 ≤
        ((calculateIntersectionScore (accessorToLatterMap a) k ins del).getD r.former #[]).getD j 0 := by
  unfold removeNastyArc at hr
  simp only [h.1, log4_four_pow] at hr
  generalize hsc : calculateIntersectionScore (accessorToLatterMap a) k ins del = sc at hr ⊢
  split at hr
  · cases hr
  · next former tl heq =>
    split at hr
    · cases hr
    · next ls hls =>
      split at hr
      · next hcont =>
        split at hr
        · cases hr
        cases hr
        dsimp only
        have hmemF := heq ▸ (List.mem_cons_self (a := former) (l := tl))
        rw [List.mem_filter] at hmemF
        obtain ⟨hfv, hfr⟩ := hmemF
        have hfr' := List.mem_filter.1 (List.contains_iff_mem.1 hfr)
        have hflt : former < 4 ^ k := by rw [← h.1]; exact mem_obtainVertices_lt hfv
        have hinv := scoreInv_calc k (accessorToLatterMap a) ins del
          (fun v j => 0 ≤ a.ent (v : Int) j) (latterMap_good hk h)
        rw [hsc] at hinv
        have hrow4 : (sc.getD former #[]).size = 4 := hinv.2.1 former hflt
        obtain ⟨hlv, hmax⟩ := argmax_row sc former hfr'.2
        generalize argmax (sc.getD former #[]).toList = lv at *
        have hlv4 : lv < 4 := by rw [hrow4] at hlv; exact hlv
        have hls' := h.latterMap_get? former
        rw [hls, Option.getD_some] at hls'
        subst hls'
        have hmemL := live_of_mem_liveEntries hk h hflt (List.contains_iff_mem.1 hcont)
        rw [shift_column k former lv hk hlv4] at hmemL
        exact ⟨hflt, lv, hmemL.1, hmemL.2, rfl, rfl, hmax⟩
      · cases hr

end Dsw
