import DswModel.Model.Operation
/-!
Decimal strings as digit lists: their value, the canonical ones (determined by their value), and
the loops of `calculus_*`: a pass from the right with a carry for addition and multiplication, a
pass from the left with a remainder for division, a borrow chain for subtraction.
-/
namespace Dsw

/-- digits only, non-empty, no leading zero unless the string is `"0"`. -/
def Dec.Canonical (s : Dec) : Prop :=
  (∀ d ∈ s, d < 10) ∧ s ≠ [] ∧ (s.head? = some 0 → s = [0])

instance (s : Dec) : Decidable s.Canonical := by unfold Dec.Canonical; infer_instance

theorem Dec.toNat_nil : Dec.toNat [] = 0 := rfl

theorem Dec.toNat_single (d : Nat) : Dec.toNat [d] = d := Nat.zero_add d

theorem Dec.toNat_append_single (s : Dec) (d : Nat) :
    Dec.toNat (s ++ [d]) = Dec.toNat s * 10 + d := by
  rw [Dec.toNat, List.foldl_append]; rfl

theorem Dec.toNat_reverse_cons (x : Nat) (r : List Nat) :
    Dec.toNat (x :: r).reverse = Dec.toNat r.reverse * 10 + x := by
  rw [List.reverse_cons, Dec.toNat_append_single]

theorem Dec.toNat_cons (d : Nat) (s : Dec) :
    Dec.toNat (d :: s) = d * 10 ^ s.length + Dec.toNat s := by
  induction s generalizing d with
  | nil =>
    rw [Dec.toNat_single, List.length_nil, Nat.pow_zero, Nat.mul_one, Dec.toNat_nil, Nat.add_zero]
  | cons e s ih =>
    have h : Dec.toNat (d :: e :: s) = Dec.toNat ((d * 10 + e) :: s) := by
      simp only [Dec.toNat, List.foldl_cons, Nat.zero_mul, Nat.zero_add]
    rw [h, ih, ih e, List.length_cons, Nat.pow_succ, Nat.add_mul, Nat.mul_assoc,
      Nat.mul_comm 10, Nat.add_assoc]

theorem Dec.toNat_zero_cons (s : Dec) : Dec.toNat (0 :: s) = Dec.toNat s := by
  rw [Dec.toNat_cons, Nat.zero_mul, Nat.zero_add]

theorem Dec.toNat_replicate_zero (n : Nat) : Dec.toNat (List.replicate n 0) = 0 := by
  induction n with
  | zero => rfl
  | succ n ih => rw [List.replicate_succ, Dec.toNat_zero_cons, ih]

theorem Dec.toNat_lt (s : Dec) (h : ∀ d ∈ s, d < 10) : Dec.toNat s < 10 ^ s.length := by
  induction s with
  | nil => exact Nat.zero_lt_one
  | cons d t ih =>
    obtain ⟨hd, ht⟩ := List.forall_mem_cons.mp h
    have h1 : d * 10 ^ t.length ≤ 9 * 10 ^ t.length :=
      Nat.mul_le_mul_right _ (Nat.le_of_lt_succ hd)
    rw [Dec.toNat_cons, List.length_cons, Nat.pow_succ, Nat.mul_comm _ 10]
    exact Nat.lt_of_lt_of_eq (Nat.add_lt_add_of_le_of_lt h1 (ih ht)) (Nat.succ_mul 9 _).symm

theorem Dec.Canonical.digits {s : Dec} (h : s.Canonical) : ∀ d ∈ s, d < 10 := h.1

theorem Dec.Canonical.ne_nil {s : Dec} (h : s.Canonical) : s ≠ [] := h.2.1

theorem Dec.Canonical.length_pos {s : Dec} (h : s.Canonical) : 0 < s.length :=
  List.length_pos_iff.mpr h.2.1

theorem Dec.Canonical.lower {s : Dec} (h : s.Canonical) (h2 : 2 ≤ s.length) :
    10 ^ (s.length - 1) ≤ Dec.toNat s := by
  cases s with
  | nil => exact absurd h2 (by decide)
  | cons d t =>
    have hd : d ≠ 0 := fun hd => by
      subst hd
      rw [h.2.2 rfl] at h2
      exact absurd h2 (by decide)
    rw [Dec.toNat_cons]
    exact Nat.le_add_right_of_le (Nat.le_mul_of_pos_left _ (Nat.pos_of_ne_zero hd))

theorem Dec.canonical_of_lower (s : Dec) (hd : ∀ d ∈ s, d < 10) (hne : s ≠ [])
    (hl : 2 ≤ s.length → 10 ^ (s.length - 1) ≤ Dec.toNat s) : s.Canonical := by
  refine ⟨hd, hne, fun h0 => ?_⟩
  cases s with
  | nil => exact absurd rfl hne
  | cons d t =>
    cases Option.some.inj h0
    cases t with
    | nil => rfl
    | cons e u =>
      -- a leading zero in front of further digits makes the value too small for the length
      have h1 := hl (Nat.le_add_left 2 u.length)
      have h2 := Dec.toNat_lt (e :: u) (List.forall_mem_cons.mp hd).2
      rw [Dec.toNat_zero_cons] at h1
      exact absurd h2 (Nat.not_lt.mpr h1)

theorem Dec.canonical_single (d : Nat) (hd : d < 10) : Dec.Canonical [d] :=
  ⟨fun _ he => List.mem_singleton.mp he ▸ hd, List.cons_ne_nil _ _,
    fun h => Option.some.inj h ▸ rfl⟩

theorem Dec.canonical_cons_of_ne_zero (d : Nat) (t : Dec) (hd : d ≠ 0) (h10 : d < 10)
    (ht : ∀ e ∈ t, e < 10) : Dec.Canonical (d :: t) :=
  ⟨List.forall_mem_cons.mpr ⟨h10, ht⟩, List.cons_ne_nil _ _,
    fun h => absurd (Option.some.inj h) hd⟩

theorem div_mod_of_eq (n b q m : Nat) (h : q * b + m = n) (hm : m < b) :
    q = n / b ∧ m = n % b := by
  subst h
  rw [Nat.mul_comm, Nat.mul_add_div (Nat.zero_lt_of_lt hm), Nat.mul_add_mod, Nat.div_eq_of_lt hm,
    Nat.mod_eq_of_lt hm]
  exact ⟨rfl, rfl⟩

/-- read from the least significant end, the digits are the successive remainders of the value. -/
theorem Dec.eq_of_toNat_reverse_eq (r r' : List Nat) (hr : ∀ d ∈ r, d < 10)
    (hr' : ∀ d ∈ r', d < 10) (hl : r.length = r'.length)
    (hv : Dec.toNat r.reverse = Dec.toNat r'.reverse) : r = r' := by
  induction r generalizing r' with
  | nil => exact (List.eq_nil_of_length_eq_zero hl.symm).symm
  | cons d r ih =>
    cases r' with
    | nil => exact absurd hl (Nat.succ_ne_zero _)
    | cons e r' =>
      obtain ⟨hd, hr⟩ := List.forall_mem_cons.mp hr
      obtain ⟨he, hr'⟩ := List.forall_mem_cons.mp hr'
      rw [Dec.toNat_reverse_cons, Dec.toNat_reverse_cons] at hv
      obtain ⟨h1, h2⟩ := div_mod_of_eq _ 10 _ _ hv hd
      obtain ⟨h3, h4⟩ := div_mod_of_eq _ 10 _ _ rfl he
      rw [h2, ← h4, ih r' hr hr' (Nat.succ.inj hl) (h1.trans h3.symm)]

theorem Dec.Canonical.length_le {s t : Dec} (hs : s.Canonical) (ht : t.Canonical)
    (h : Dec.toNat s = Dec.toNat t) : s.length ≤ t.length :=
  Nat.le_of_not_lt fun hlt =>
    have h1 := hs.lower (Nat.lt_of_le_of_lt ht.length_pos hlt)
    have h2 := Dec.toNat_lt t ht.digits
    have h3 : 10 ^ t.length ≤ 10 ^ (s.length - 1) :=
      Nat.pow_le_pow_right (by decide) (Nat.le_sub_one_of_lt hlt)
    Nat.lt_irrefl _ (Nat.lt_of_lt_of_le h2 (Nat.le_trans h3 (h ▸ h1)))

theorem Dec.canonical_unique (s t : Dec) (hs : s.Canonical) (ht : t.Canonical)
    (h : Dec.toNat s = Dec.toNat t) : s = t :=
  List.reverse_inj.mp <|
    Dec.eq_of_toNat_reverse_eq s.reverse t.reverse
      (fun d hd => hs.digits d (List.mem_reverse.mp hd))
      (fun d hd => ht.digits d (List.mem_reverse.mp hd))
      (by rw [List.length_reverse, List.length_reverse,
        Nat.le_antisymm (hs.length_le ht h) (ht.length_le hs h.symm)])
      (by rw [List.reverse_reverse, List.reverse_reverse, h])

theorem Dec.canonical_zero : Dec.Canonical [0] := Dec.canonical_single 0 (by decide)

theorem Dec.Canonical.eq_zero_of_toNat {s : Dec} (hs : s.Canonical) (h : Dec.toNat s = 0) :
    s = [0] :=
  Dec.canonical_unique s [0] hs Dec.canonical_zero h

theorem toNat_stripZeros (s : Dec) : Dec.toNat (stripZeros s) = Dec.toNat s := by
  induction s with
  | nil => rfl
  | cons d t ih =>
    cases d with
    | zero => rw [stripZeros, ih, Dec.toNat_zero_cons]
    | succ d => rfl

theorem canonical_stripZeros (s : Dec) (h : ∀ d ∈ s, d < 10) : (stripZeros s).Canonical := by
  induction s with
  | nil => exact Dec.canonical_zero
  | cons d t ih =>
    obtain ⟨hd, ht⟩ := List.forall_mem_cons.mp h
    cases d with
    | zero => exact ih ht
    | succ d => exact Dec.canonical_cons_of_ne_zero (d + 1) t (Nat.succ_ne_zero d) hd ht

theorem stripZeros_replicate_append (k : Nat) (l : Dec) : stripZeros (List.replicate k 0 ++ l) = stripZeros l := by
  induction k with
  | zero => rfl
  | succ k ih => rw [List.replicate_succ, List.cons_append, stripZeros, ih]

theorem stripZeros_cons_of_ne {d : Nat} (h : d ≠ 0) (r : Dec) : stripZeros (d :: r) = d :: r := by
  cases d with
  | zero => exact absurd rfl h
  | succ n => rfl

theorem stripZeros_eq_drop {q : Dec} {i : Nat} (hi : i < q.length) (hz : q.take i = List.replicate i 0)
    (hne : q[i] ≠ 0) : stripZeros q = q.drop i := by
  have h1 : q = List.replicate i 0 ++ q.drop i := by rw [← hz, List.take_append_drop]
  rw [h1, stripZeros_replicate_append, ← h1, List.drop_eq_getElem_cons hi, stripZeros_cons_of_ne hne]

theorem stripZeros_of_all_zero {q : Dec} (hz : q.take q.length = List.replicate q.length 0) :
    stripZeros q = [0] := by
  rw [List.take_length] at hz
  have := stripZeros_replicate_append q.length []
  rw [List.append_nil, ← hz] at this
  rw [this]; rfl

theorem stripZeros_snoc_spec {p : Dec} {d n : Nat} (hp : ∀ e ∈ p, e < 10) (hd : d < 10)
    (hv : Dec.toNat p * 10 + d = n) :
    (stripZeros (p ++ [d])).Canonical ∧ Dec.toNat (stripZeros (p ++ [d])) = n :=
  ⟨canonical_stripZeros _
      (List.forall_mem_append.mpr ⟨hp, fun _ he => List.mem_singleton.mp he ▸ hd⟩),
    by rw [toNat_stripZeros, Dec.toNat_append_single, hv]⟩

/-- Column `x` holds the amount `g x`, of any size. The pass leaves the digit `(g x + carry) % 10`
there and hands `(g x + carry) / 10` on to the left, so that the carry in front of the digits makes
up the value of the columns. It stays below `k` if no column holds more than `9 * k`. -/
theorem carry_foldr_spec {α : Type} (g : α → Nat)
    (step : α → Nat × List Nat → Nat × List Nat)
    (hstep : ∀ x st, step x st = ((g x + st.1) / 10, (g x + st.1) % 10 :: st.2))
    (k : Nat) (hk : 0 < k) (xs : List α) (hg : ∀ x ∈ xs, g x + k ≤ 10 * k) :
    (xs.foldr step (0, [])).2.length = xs.length ∧
    (∀ d ∈ (xs.foldr step (0, [])).2, d < 10) ∧
    (xs.foldr step (0, [])).1 < k ∧
    (xs.foldr step (0, [])).1 * 10 ^ xs.length + Dec.toNat (xs.foldr step (0, [])).2 =
      Dec.toNat (xs.map g) := by
  induction xs with
  | nil => exact ⟨rfl, fun _ h => (List.not_mem_nil h).elim, hk, rfl⟩
  | cons x xs ih =>
    obtain ⟨hx, hxs⟩ := List.forall_mem_cons.mp hg
    obtain ⟨ih1, ih2, ih3, ih4⟩ := ih hxs
    rw [List.foldr_cons, hstep]
    refine ⟨congrArg (· + 1) ih1, List.forall_mem_cons.mpr ⟨Nat.mod_lt _ (by decide), ih2⟩,
      Nat.div_lt_of_lt_mul (Nat.lt_of_lt_of_le (Nat.add_lt_add_left ih3 _) hx), ?_⟩
    dsimp only
    -- both sides are `(g x + carry) * 10 ^ xs.length` plus the value of the digits so far
    rw [List.map_cons, Dec.toNat_cons, Dec.toNat_cons, ih1, List.length_map, ← ih4,
      List.length_cons, Nat.pow_succ, Nat.mul_comm _ 10, ← Nat.mul_assoc, ← Nat.add_assoc,
      ← Nat.add_mul, Nat.div_add_mod', ← Nat.add_assoc, ← Nat.add_mul]

/-- With the carry `c` of such a pass written in front when it is not zero, the `m` digits `ds` are
the canonical string of the value `n`, provided `n` is not too small for `m` digits. -/
theorem Dec.canonical_carry {c m n : Nat} {ds r : Dec} (hc : c < 10) (hds : ∀ d ∈ ds, d < 10)
    (hlen : ds.length = m) (hm : 0 < m) (hv : c * 10 ^ m + Dec.toNat ds = n)
    (hl : 2 ≤ m → 10 ^ (m - 1) ≤ n) (h0 : c = 0 → r = ds) (h1 : c ≠ 0 → r = c :: ds) :
    r.Canonical ∧ Dec.toNat r = n := by
  subst hlen
  by_cases h : c = 0
  · subst h
    rw [Nat.zero_mul, Nat.zero_add] at hv
    subst hv
    rw [h0 rfl]
    exact ⟨Dec.canonical_of_lower ds hds (List.ne_nil_of_length_pos hm) hl, rfl⟩
  · rw [h1 h]
    exact ⟨Dec.canonical_cons_of_ne_zero c ds h hc hds, (Dec.toNat_cons c ds).trans hv⟩

theorem Dec.toNat_map_add (ps : List (Nat × Nat)) :
    Dec.toNat (ps.map fun p => p.1 + p.2) =
      Dec.toNat (ps.map Prod.fst) + Dec.toNat (ps.map Prod.snd) := by
  induction ps with
  | nil => rfl
  | cons p ps ih =>
    rw [List.map_cons, List.map_cons, List.map_cons, Dec.toNat_cons, Dec.toNat_cons, Dec.toNat_cons,
      ih, List.length_map, List.length_map, List.length_map, Nat.add_mul, Nat.add_add_add_comm]

theorem addStep_foldr_spec (ps : List (Nat × Nat)) (hp : ∀ p ∈ ps, p.1 < 10 ∧ p.2 < 10) :
    (ps.foldr addStep (0, [])).2.length = ps.length ∧
    (∀ d ∈ (ps.foldr addStep (0, [])).2, d < 10) ∧
    (ps.foldr addStep (0, [])).1 ≤ 1 ∧
    (ps.foldr addStep (0, [])).1 * 10 ^ ps.length + Dec.toNat (ps.foldr addStep (0, [])).2 =
      Dec.toNat (ps.map Prod.fst) + Dec.toNat (ps.map Prod.snd) := by
  obtain ⟨h1, h2, h3, h4⟩ := carry_foldr_spec (fun p => p.1 + p.2) addStep (fun _ _ => rfl) 2
    (by decide) ps fun p h =>
      show p.1 + p.2 + 2 ≤ 9 + 9 + 2 from Nat.add_le_add_right
        (Nat.add_le_add (Nat.le_of_lt_succ (hp p h).1) (Nat.le_of_lt_succ (hp p h).2)) 2
  exact ⟨h1, h2, Nat.le_of_lt_succ h3, h4.trans (Dec.toNat_map_add ps)⟩

theorem calculusAddition_spec (s : Dec) (b : Nat) (hs : s.Canonical) (hb : b < 10) :
    (calculusAddition s b).Canonical ∧ (calculusAddition s b).toNat = s.toNat + b := by
  unfold calculusAddition
  simp only [List.head?_cons, List.tail_cons, Option.some.injEq]
  generalize hdef : List.replicate (s.length - 1) 0 ++ [b] = base
  have hbl : base.length = s.length := by
    rw [← hdef, List.length_append, List.length_replicate]
    exact Nat.sub_add_cancel hs.length_pos
  have hbase : Dec.toNat base = b := by
    rw [← hdef, Dec.toNat_append_single, Dec.toNat_replicate_zero]
    exact Nat.zero_add b
  have hbd : ∀ d ∈ base, d < 10 := hdef ▸ List.forall_mem_append.mpr
    ⟨fun d hd => List.eq_of_mem_replicate hd ▸ (by decide),
      fun d hd => List.mem_singleton.mp hd ▸ hb⟩
  obtain ⟨h1, h2, h3, h4⟩ := addStep_foldr_spec (s.zip base)
    fun p hp => ⟨hs.digits _ (List.of_mem_zip hp).1, hbd _ (List.of_mem_zip hp).2⟩
  rw [List.map_fst_zip (Nat.le_of_eq hbl.symm), List.map_snd_zip (Nat.le_of_eq hbl), hbase] at h4
  rw [List.length_zip, hbl, Nat.min_self] at h1 h4
  exact Dec.canonical_carry (Nat.lt_of_le_of_lt h3 (by decide)) h2 h1 hs.length_pos h4
    (fun h => Nat.le_add_right_of_le (hs.lower h)) (fun h => if_pos h) (fun h => if_neg h)

theorem Dec.toNat_map_mul (s : Dec) (b : Nat) : Dec.toNat (s.map (· * b)) = Dec.toNat s * b := by
  induction s with
  | nil => exact (Nat.zero_mul b).symm
  | cons d s ih =>
    rw [List.map_cons, Dec.toNat_cons, Dec.toNat_cons, ih, List.length_map, Nat.add_mul,
      Nat.mul_right_comm]

theorem mulStep_foldr_spec (b : Nat) (hb1 : 1 ≤ b) (s : List Nat) (hs : ∀ d ∈ s, d < 10) :
    (s.foldr (mulStep b) (0, [])).2.length = s.length ∧
    (∀ d ∈ (s.foldr (mulStep b) (0, [])).2, d < 10) ∧
    (s.foldr (mulStep b) (0, [])).1 < b ∧
    (s.foldr (mulStep b) (0, [])).1 * 10 ^ s.length + Dec.toNat (s.foldr (mulStep b) (0, [])).2 =
      Dec.toNat s * b := by
  obtain ⟨h1, h2, h3, h4⟩ := carry_foldr_spec (· * b) (mulStep b) (fun _ _ => rfl) b hb1 s
    fun x h => Nat.succ_mul x b ▸ Nat.mul_le_mul_right b (hs x h)
  exact ⟨h1, h2, h3, h4.trans (Dec.toNat_map_mul s b)⟩

theorem pushCarry_two (r : Nat) (acc : List Nat) (hr : r < 10) :
    pushCarry 2 r acc = if r > 0 then r :: acc else acc := by
  have h1 : r / 10 = 0 := Nat.div_eq_of_lt hr
  have h2 : r % 10 = r := Nat.mod_eq_of_lt hr
  simp only [pushCarry, h1, h2, Nat.lt_irrefl, if_false]

theorem calculusMultiplication_spec (s : Dec) (b : Nat) (hs : s.Canonical) (hb : b < 10) :
    (calculusMultiplication s b).Canonical ∧ (calculusMultiplication s b).toNat = s.toNat * b := by
  unfold calculusMultiplication
  by_cases h0 : b = 0
  · subst h0
    exact ⟨Dec.canonical_zero, rfl⟩
  by_cases h1 : b = 1
  · subst h1
    exact ⟨hs, (Nat.mul_one _).symm⟩
  rw [if_neg h0, if_neg h1]
  obtain ⟨g1, g2, g3, g4⟩ := mulStep_foldr_spec b (Nat.pos_of_ne_zero h0) s hs.digits
  have hc := Nat.lt_trans g3 hb
  exact Dec.canonical_carry hc g2 g1 hs.length_pos g4
    (fun h => Nat.le_trans (hs.lower h) (Nat.le_mul_of_pos_right _ (Nat.pos_of_ne_zero h0)))
    (fun h => by rw [pushCarry_two _ _ hc, if_neg (Nat.not_lt.mpr (Nat.le_of_eq h))])
    (fun h => by rw [pushCarry_two _ _ hc, if_pos (Nat.pos_of_ne_zero h)])

theorem divStep_eq (b : Nat) (st : List Nat × Nat) (x : Nat) :
    divStep b st x = ((x + st.2 * 10) / b :: st.1, (x + st.2 * 10) % b) := by
  unfold divStep
  simp only
  split
  · rw [Nat.mod_def, Nat.mul_comm b]
  · rename_i h
    rw [Nat.div_eq_of_lt (Nat.lt_of_not_le h), Nat.mod_eq_of_lt (Nat.lt_of_not_le h)]

theorem divStep_foldl_spec (b : Nat) (hb : 0 < b) (r : List Nat) (hr : ∀ d ∈ r, d < 10) :
    (r.reverse.foldl (divStep b) ([], 0)).1.length = r.length ∧
    (∀ d ∈ (r.reverse.foldl (divStep b) ([], 0)).1, d < 10) ∧
    (r.reverse.foldl (divStep b) ([], 0)).2 < b ∧
    Dec.toNat (r.reverse.foldl (divStep b) ([], 0)).1.reverse * b +
      (r.reverse.foldl (divStep b) ([], 0)).2 = Dec.toNat r.reverse := by
  induction r with
  | nil => exact ⟨rfl, fun _ h => (List.not_mem_nil h).elim, hb, Nat.zero_mul b⟩
  | cons x r ih =>
    obtain ⟨hx, hr⟩ := List.forall_mem_cons.mp hr
    obtain ⟨ih0, ih1, ih2, ih3⟩ := ih hr
    rw [List.reverse_cons, List.foldl_append, List.foldl_cons, List.foldl_nil, divStep_eq,
      Dec.toNat_append_single, ← ih3]
    generalize r.reverse.foldl (divStep b) ([], 0) = st at ih0 ih1 ih2 ⊢
    -- a digit on top of a remainder below `b` is below `10 * b`
    have hq : (x + st.2 * 10) / b < 10 := Nat.div_lt_of_lt_mul <|
      calc x + st.2 * 10 < 10 + st.2 * 10 := Nat.add_lt_add_right hx _
        _ = (st.2 + 1) * 10 := by rw [Nat.succ_mul, Nat.add_comm]
        _ ≤ b * 10 := Nat.mul_le_mul_right 10 ih2
    refine ⟨congrArg (· + 1) ih0, List.forall_mem_cons.mpr ⟨hq, ih1⟩, Nat.mod_lt _ hb, ?_⟩
    rw [Dec.toNat_reverse_cons, Nat.add_mul, Nat.mul_right_comm, Nat.add_assoc, Nat.div_add_mod',
      Nat.add_mul, Nat.add_assoc, Nat.add_comm x]

theorem calculusDivision_spec (s : Dec) (b : Nat) (hs : s.Canonical) (hb : b < 10) (hb1 : 1 ≤ b) :
    (calculusDivision s b).1.Canonical ∧ (calculusDivision s b).1.toNat = s.toNat / b ∧
    (calculusDivision s b).2.Canonical ∧ (calculusDivision s b).2.toNat = s.toNat % b := by
  unfold calculusDivision
  rw [if_neg (Nat.ne_of_gt hb1)]
  by_cases h1 : b = 1
  · subst h1
    exact ⟨hs, (Nat.div_one _).symm, Dec.canonical_zero, (Nat.mod_one _).symm⟩
  rw [if_neg h1]
  by_cases hc : s.length = 1 ∧ s.headD 0 < b
  · rw [if_pos hc]
    obtain ⟨d, rfl⟩ := List.length_eq_one_iff.mp hc.1
    have hd : d < b := hc.2
    refine ⟨Dec.canonical_zero, ?_, Dec.canonical_single d (Nat.lt_trans hd hb), ?_⟩
    · rw [Dec.toNat_single d, Nat.div_eq_of_lt hd]; rfl
    · rw [Dec.toNat_single d, Nat.mod_eq_of_lt hd]; exact Dec.toNat_single d
  · rw [if_neg hc]
    obtain ⟨_, g1, g2, g3⟩ := divStep_foldl_spec b hb1 s.reverse
      fun d hd => hs.digits d (List.mem_reverse.mp hd)
    rw [List.reverse_reverse] at g1 g2 g3
    obtain ⟨hq, hm⟩ := div_mod_of_eq _ _ _ _ g3 g2
    exact ⟨canonical_stripZeros _ fun d hd => g1 d (List.mem_reverse.mp hd),
      (toNat_stripZeros _).trans hq, Dec.canonical_single _ (Nat.lt_trans g2 hb),
      (Dec.toNat_single _).trans hm⟩

theorem borrow_spec (r : List Nat) (hr : ∀ d ∈ r, d < 10) (hpos : 1 ≤ Dec.toNat r.reverse) :
    (∀ d ∈ borrow r, d < 10) ∧ Dec.toNat (borrow r).reverse + 1 = Dec.toNat r.reverse := by
  induction r with
  | nil => exact absurd hpos (by decide)
  | cons d r ih =>
    obtain ⟨hd, hr'⟩ := List.forall_mem_cons.mp hr
    rw [Dec.toNat_reverse_cons] at hpos ⊢
    cases d with
    | zero =>
      obtain ⟨i1, i2⟩ := ih hr' (Nat.pos_of_mul_pos_right hpos)
      rw [borrow, Dec.toNat_reverse_cons, ← i2, Nat.succ_mul]
      exact ⟨List.forall_mem_cons.mpr ⟨by decide, i1⟩, rfl⟩
    | succ d =>
      exact ⟨List.forall_mem_cons.mpr ⟨Nat.lt_of_succ_lt hd, hr'⟩,
        congrArg (· + 1) (Dec.toNat_reverse_cons d r)⟩

theorem calculusSubtraction_spec (s : Dec) (b : Nat) (hs : s.Canonical) (_hb : b < 10)
    (h : b ≤ s.toNat) :
    (calculusSubtraction s b).Canonical ∧ (calculusSubtraction s b).toNat = s.toNat - b := by
  unfold calculusSubtraction
  split
  · rename_i hr
    exact absurd (List.reverse_eq_nil_iff.mp hr) hs.ne_nil
  · rename_i last pre hr
    have hs' := List.reverse_eq_cons_iff.mp hr
    subst hs'
    obtain ⟨hp, hl⟩ := List.forall_mem_append.mp hs.digits
    have hl := hl last (List.mem_singleton.mpr rfl)
    rw [Dec.toNat_append_single] at h ⊢
    by_cases hge : last ≥ b
    · rw [if_pos hge]
      exact stripZeros_snoc_spec hp (Nat.lt_of_le_of_lt (Nat.sub_le last b) hl)
        (Nat.add_sub_assoc hge _).symm
    · rw [if_neg hge]
      -- the last digit is too small, so there is something in front of it to borrow from
      have hpos : 1 ≤ Dec.toNat pre.reverse := Nat.pos_of_ne_zero fun h0 => by
        rw [h0, Nat.zero_mul, Nat.zero_add] at h; exact hge h
      have hle : b ≤ 10 + last := Nat.le_trans (Nat.le_of_lt _hb) (Nat.le_add_right 10 last)
      obtain ⟨b1, b2⟩ := borrow_spec pre (fun e he => hp e (List.mem_reverse.mpr he)) hpos
      exact stripZeros_snoc_spec (fun e he => b1 e (List.mem_reverse.mp he))
        (Nat.sub_lt_right_of_lt_add hle (Nat.add_lt_add_left (Nat.lt_of_not_le hge) 10))
        (by rw [← b2, Nat.succ_mul, Nat.add_assoc, Nat.add_sub_assoc hle])

theorem Dec.ofNat_lt (n : Nat) (h : n < 10) : Dec.ofNat n = [n] := by
  unfold Dec.ofNat
  rw [Nat.toDigits_of_lt_base h]
  exact congrArg ([·]) (Nat.toNat_digitChar_sub_48_of_lt_ten h)

theorem Dec.ofNat_ge (n : Nat) (h : 10 ≤ n) : Dec.ofNat n = Dec.ofNat (n / 10) ++ [n % 10] := by
  unfold Dec.ofNat
  rw [Nat.toDigits_of_base_le (by decide) h, List.map_append]
  exact congrArg (_ ++ [·]) (Nat.toNat_digitChar_sub_48_of_lt_ten (Nat.mod_lt n (by decide)))

theorem Dec.Canonical.append_single {s : Dec} (hs : s.Canonical) (h0 : Dec.toNat s ≠ 0) {d : Nat}
    (hd : d < 10) : (s ++ [d]).Canonical := by
  refine ⟨List.forall_mem_append.mpr ⟨hs.digits, fun e he => List.mem_singleton.mp he ▸ hd⟩,
    List.append_ne_nil_of_right_ne_nil _ (List.cons_ne_nil _ _), fun h => ?_⟩
  cases s with
  | nil => exact absurd rfl hs.ne_nil
  | cons x t => rw [hs.2.2 h] at h0; exact absurd rfl h0

theorem Dec.ofNat_canonical (n : Nat) : (Dec.ofNat n).Canonical ∧ Dec.toNat (Dec.ofNat n) = n := by
  induction n using Nat.strongRecOn with
  | _ n ih =>
    by_cases h : n < 10
    · rw [Dec.ofNat_lt n h]
      exact ⟨Dec.canonical_single n h, Dec.toNat_single n⟩
    · have h : 10 ≤ n := Nat.le_of_not_lt h
      obtain ⟨i1, i2⟩ :=
        ih (n / 10) (Nat.div_lt_self (Nat.lt_of_lt_of_le (by decide) h) (by decide))
      rw [Dec.ofNat_ge n h, Dec.toNat_append_single, i2]
      exact ⟨i1.append_single (i2.symm ▸ Nat.ne_of_gt (Nat.div_pos h (by decide)))
        (Nat.mod_lt n (by decide)), Nat.div_add_mod' n 10⟩

end Dsw
