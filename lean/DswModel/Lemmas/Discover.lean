import DswModel.Model.Spiderweb
import DswModel.Lemmas.Defs
import DswModel.Lemmas.DeBruijn
/-! Helper lemmas for `find_vertices` / `connect_valid_graph` (C11). -/
namespace Dsw

theorem Mask.count_eq_zero_iff (m : Mask) :
    m.count = 0 ↔ ∀ i, i < m.size → m.getD i false = false := by
  unfold Mask.count
  rw [List.length_eq_zero_iff, List.filter_eq_nil_iff]
  constructor
  · intro h i hi
    have := h (m[i]) (by simp)
    simpa [Array.getD, hi] using this
  · intro h b hb
    rw [Array.mem_toList_iff, Array.mem_iff_getElem] at hb
    obtain ⟨i, hi, rfl⟩ := hb
    have := h i hi
    simpa [Array.getD, hi] using this

theorem Mask.count_pos_iff (m : Mask) :
    0 < m.count ↔ ∃ i, i < m.size ∧ m.getD i false = true := by
  rw [Nat.pos_iff_ne_zero, Ne, Mask.count_eq_zero_iff]
  simp only [Classical.not_forall, Bool.not_eq_false, exists_prop]

/-- the mask computed by `find_vertices`. -/
def filterMask (k : Nat) (P : List Char → Bool) : Mask :=
  (Array.range (4 ^ k)).map fun i => P (numberToDnaInt i k)

theorem filterMask_size (k : Nat) (P : List Char → Bool) : (filterMask k P).size = 4 ^ k := by
  simp [filterMask]

theorem filterMask_getD (k : Nat) (P : List Char → Bool) (i : Nat) (hi : i < 4 ^ k) :
    (filterMask k P).getD i false = P (kmerOf k i) := by
  unfold filterMask kmerOf
  exact getD_range_map _ _ _ _ hi

theorem findVertices_eq (k : Nat) (P : List Char → Bool) :
    findVertices k P =
      if (filterMask k P).count = 0 then .error .valueError else .ok (filterMask k P) := rfl

end Dsw
