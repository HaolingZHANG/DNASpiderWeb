import DswModel.Lemmas.PowerStopFStep
/-!
# The rational arithmetic of the double-precision certificate (for C17c)
-/
namespace Dsw.PowerStopF
open Dsw.FloatErr

/-- the division undone: `Z ≈ Y/E` read as `E·Z ≈ Y`. -/
theorem mul_err_of_div_err (E Z Y u η : Rat) (hE : 0 < E) (h : |Z - Y / E| ≤ u * |Y / E| + η) :
    |E * Z - Y| ≤ u * |Y| + E * η := by
  have e1 : E * Z - Y = E * (Z - Y / E) := by rw [mul_sub, mul_div_cancel₀ _ hE.ne']
  have e2 : |Y| = E * |Y / E| := by rw [abs_div, abs_of_pos hE, mul_div_cancel₀ _ hE.ne']
  rw [e1, abs_mul, abs_of_pos hE, e2]
  linarith only [mul_le_mul_of_nonneg_left h hE.le]

/-- the arithmetic core, with all constants abstract: `s` the exact row sum, `Y` the computed one, `E` the eigenvalue
estimate, `Z ≈ Y/E` the new entry, `X` the old one, `Q·X ≥ T + θ` (for `X ≥ δ`: `Q = (T + θ)/δ`). The absolute errors
`κ` (row sum) and `η` (division) are paid for by `θ ≤ E`, the relative ones `ε`, `u` by `ζ`. -/
theorem cert_core (s Y E Z X T Q θ η κ u ε ζ : Rat)
    (hθ : 0 < θ) (hE : θ ≤ E) (hηθ : 2 * η ≤ θ) (hκ0 : 0 ≤ κ) (hκ : 4 * κ ≤ θ * θ)
    (hu0 : 0 ≤ u) (hu1 : u ≤ 1) (hζ0 : 0 ≤ ζ) (hζ1 : ζ ≤ 1)
    (F1 : 1 ≤ (1 + ζ) * ((1 - ε) * (1 - u))) (F2 : (1 - ζ) * ((1 + ε) * (1 + u)) ≤ 1)
    (hs0 : 0 ≤ s) (hY0 : 0 ≤ Y) (hY1 : Y ≤ s * (1 + ε) + κ) (hY2 : s * (1 - ε) - κ ≤ Y)
    (hZ : |Z - Y / E| ≤ u * |Y / E| + η) (hZX : |Z - X| < T) (hQ : T + θ ≤ Q * X) :
    E * (1 - Q) * (1 - ζ) * X ≤ s ∧ s ≤ E * (1 + Q) * (1 + ζ) * X := by
  have hEpos : 0 < E := lt_of_lt_of_le hθ hE
  obtain ⟨lo, up⟩ := round_bounds Y s (1 - ε) (1 + ε) κ u (E * η) (E * Z) hu0 hu1 hκ0 hY0 hY2 hY1
    (mul_err_of_div_err E Z Y u η hEpos hZ)
  rw [abs_sub_lt_iff] at hZX
  -- `E·|Z − X|` and the absolute errors `2κ + E·η ≤ E·θ` are within `E·Q·X`
  have hZ1 : 0 ≤ E * (T - (X - Z)) := mul_nonneg hEpos.le (sub_nonneg.2 hZX.2.le)
  have hZ2 : 0 ≤ E * (T - (Z - X)) := mul_nonneg hEpos.le (sub_nonneg.2 hZX.1.le)
  have h1 : 0 ≤ E * (θ - 2 * η) := mul_nonneg hEpos.le (sub_nonneg.2 hηθ)
  have h2 : θ * θ ≤ E * θ := mul_le_mul_of_nonneg_right hE hθ.le
  have hEQ : E * (T + θ) ≤ E * (Q * X) := mul_le_mul_of_nonneg_left hQ hEpos.le
  have lo' : E * X - E * (Q * X) ≤ s * ((1 + ε) * (1 + u)) := by linarith only [up, hZ1, h1, h2, hκ, hEQ]
  have up' : s * ((1 - ε) * (1 - u)) ≤ E * X + E * (Q * X) := by linarith only [lo, hZ2, h1, h2, hκ, hEQ]
  have a1 := mul_le_mul_of_nonneg_left lo' (sub_nonneg.2 hζ1)
  have a2 := mul_le_mul_of_nonneg_left up' (add_nonneg zero_le_one hζ0)
  have b1 := mul_le_mul_of_nonneg_left F2 hs0
  have b2 := mul_le_mul_of_nonneg_left F1 hs0
  constructor
  · linarith only [a1, b1]
  · linarith only [a2, b2]

/-- the certificate, in terms of `Dbl.toRat`. -/
theorem stop_certificate (a : Acc) (x z : VecF) (ev tol md : Dbl) (δ : Rat) (S : Nat → Prop)
    (hx : ∀ w, w < a.size → NonnegB64 (x.getD w Dbl.zero))
    (ha : ∀ v, v < a.size → ∀ w ∈ a.liveEntries (v : Int), w < a.size)
    (hstep : capStepF a x = some (z, ev)) (hev : (2 : Rat)⁻¹ ^ 500 ≤ Dbl.toRat ev)
    (htol : IsB64 tol.num tol.den)
    (hmd : maxDiffF a.size z x = some md) (hset : Dbl.lt md tol = true)
    (hδ : (2 : Rat)⁻¹ ^ 500 ≤ δ) (hS : ∀ v, S v → v < a.size ∧ δ ≤ Dbl.toRat (x.getD v Dbl.zero)) :
    ∀ v, S v →
      Dbl.toRat ev * (1 - (Dbl.toRat tol + (2 : Rat)⁻¹ ^ 500) / δ) * (1 - (2 : Rat)⁻¹ ^ 50) * x.toRat.getD v 0
        ≤ applyRow a x.toRat v ∧
      applyRow a x.toRat v
        ≤ Dbl.toRat ev * (1 + (Dbl.toRat tol + (2 : Rat)⁻¹ ^ 500) / δ) * (1 + (2 : Rat)⁻¹ ^ 50) * x.toRat.getD v 0 := by
  intro v hSv
  obtain ⟨hv, hXδ⟩ := hS v hSv
  have hθ : (0 : Rat) < (2 : Rat)⁻¹ ^ 500 := by positivity
  obtain ⟨_, hevP, hrows⟩ := step_data a x z ev hx ha hstep
  have hevnum : 0 < ev.num :=
    (lt_zero_iff ev).1 ((lt_iff Dbl.zero ev Nat.one_pos hevP.1.1).2 (toRat_zero ▸ lt_of_lt_of_le hθ hev))
  have hden : ∀ w, w < a.size → 0 < (z.getD w Dbl.zero).den ∧ 0 < (x.getD w Dbl.zero).den := by
    intro w hw
    obtain ⟨_, _, hzP, _⟩ := hrows w hw
    exact ⟨hzP.1.1, (hx w hw).1.1⟩
  have hsettled := settled_entry a.size z x md tol hmd hden htol hset v hv
  obtain ⟨y, hy, _, hdiv⟩ := hrows v hv
  obtain ⟨hY2, hY1, hyP, hs0⟩ := rowSum_bound a x v y hx (ha v hv) hy
  have hZ := div_err y ev _ hyP.1.1 hevnum (hdiv hevnum)
  rw [map_toRat_getD]
  have hδ0 : 0 < δ := lt_of_lt_of_le hθ hδ
  have hQ : Dbl.toRat tol + (2 : Rat)⁻¹ ^ 500 ≤ (Dbl.toRat tol + (2 : Rat)⁻¹ ^ 500) / δ * Dbl.toRat (x.getD v Dbl.zero) := by
    rw [div_mul_eq_mul_div, le_div_iff₀ hδ0]
    exact mul_le_mul_of_nonneg_left hXδ (add_nonneg ((abs_nonneg _).trans hsettled.le) hθ.le)
  -- `θ = 2^-500`, `η = 2^-1075`, `κ = 2^-1070`, `u = 2^-53`, `ε = 2^-51`, `ζ = 2^-50`
  exact cert_core _ (Dbl.toRat y) (Dbl.toRat ev) (Dbl.toRat (z.getD v Dbl.zero)) (Dbl.toRat (x.getD v Dbl.zero)) (Dbl.toRat tol) _
    ((2 : Rat)⁻¹ ^ 500) ((2 : Rat)⁻¹ ^ 1075) ((2 : Rat)⁻¹ ^ 1070) ((2 : Rat)⁻¹ ^ 53) ((2 : Rat)⁻¹ ^ 51)
    ((2 : Rat)⁻¹ ^ 50) hθ hev (hηθ := half_pow_le (k := 1) (by norm_num) (by norm_num)) (hκ0 := by positivity)
    (hκ := by rw [← pow_add]; exact half_pow_le (k := 2) (by norm_num) (by norm_num))
    (hu0 := by positivity) (hu1 := by norm_num) (hζ0 := by positivity) (hζ1 := by norm_num)
    (F1 := by norm_num) (F2 := by norm_num) hs0 (toRat_nonneg hyP.2) hY1 hY2 hZ hsettled hQ

end Dsw.PowerStopF
