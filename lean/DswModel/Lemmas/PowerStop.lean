import DswModel.Model.Capacity
import DswModel.Lemmas.Defs
import DswModel.Lemmas.Power
import Mathlib.Algebra.Order.Field.Rat
/-! Helper lemmas for C17b (what the stopping rule of the power iteration certifies). -/
namespace Dsw.PowerStop
open Dsw.Power

theorem ratAbs_eq_abs (r : Rat) : ratAbs r = |r| := by
  unfold ratAbs
  split
  · rename_i h; exact (abs_of_neg h).symm
  · rename_i h; exact (abs_of_nonneg (not_lt.1 h)).symm

theorem ratAbs_lt_iff (r t : Rat) : ratAbs r < t ↔ -t < r ∧ r < t := by
  rw [ratAbs_eq_abs]; exact abs_lt

theorem residual (y ev x tol : Rat) (hev : 0 < ev) (h : ratAbs (y / ev - x) < tol) :
    ratAbs (y - ev * x) < ev * tol := by
  rw [ratAbs_lt_iff] at h ⊢
  have e : ev * (y / ev - x) = y - ev * x := by rw [mul_sub, mul_div_cancel₀ y (ne_of_gt hev)]
  rw [← e, ← mul_neg]
  exact ⟨mul_lt_mul_of_pos_left h.1 hev, mul_lt_mul_of_pos_left h.2 hev⟩

/-- with `x ≥ δ > 0` the absolute residual bound becomes a relative one. -/
theorem relative (y ev x tol δ : Rat) (hδ : 0 < δ) (hx : δ ≤ x)
    (h : ratAbs (y - ev * x) < ev * tol) :
    ev * (1 - tol / δ) * x ≤ y ∧ y ≤ ev * (1 + tol / δ) * x := by
  rw [ratAbs_lt_iff] at h
  obtain ⟨h1, h2⟩ := h
  have hpos : 0 ≤ ev * tol := le_of_lt (neg_lt_self_iff.1 (lt_trans h1 h2))
  -- `ev·tol ≤ ev·(tol/δ)·x` since `x/δ ≥ 1`
  have hk : ev * tol ≤ ev * (tol / δ) * x := by
    rw [mul_assoc, div_mul_eq_mul_div, ← mul_div_assoc, ← mul_assoc, mul_div_assoc]
    exact le_mul_of_one_le_right hpos ((one_le_div hδ).2 hx)
  have g1 : ev * x - ev * tol < y := by
    have := add_lt_add_of_le_of_lt (le_refl (ev * x)) h1
    rwa [add_sub_cancel, ← sub_eq_add_neg] at this
  have g2 : y < ev * x + ev * tol := by
    have := add_lt_add_of_le_of_lt (le_refl (ev * x)) h2
    rwa [add_sub_cancel] at this
  rw [mul_sub, mul_one, sub_mul, mul_add, mul_one, add_mul]
  exact ⟨le_of_lt (lt_of_le_of_lt (sub_le_sub_left hk _) g1),
    le_of_lt (lt_of_lt_of_le g2 (add_le_add (le_refl _) hk))⟩

theorem foldl_add_eq_sum (l : List Nat) (f : Nat → Rat) (s : Rat) :
    l.foldl (fun s w => s + f w) s = s + (l.map f).sum := by
  induction l generalizing s with
  | nil => simp
  | cons b l ih =>
    rw [List.foldl_cons, ih, List.map_cons, List.sum_cons, add_assoc]

theorem foldl_add_eq_sum0 (l : List Nat) (f : Nat → Rat) :
    l.foldl (fun s w => s + f w) 0 = (l.map f).sum := by
  rw [foldl_add_eq_sum, zero_add]

theorem sum_map_le (l : List Nat) (f g : Nat → Rat) (h : ∀ w ∈ l, f w ≤ g w) :
    (l.map f).sum ≤ (l.map g).sum := by
  induction l with
  | nil => simp
  | cons b l ih =>
    simp only [List.map_cons, List.sum_cons]
    exact add_le_add (h b (by simp)) (ih fun w hw => h w (by simp [hw]))

theorem sum_map_mul (l : List Nat) (c : Rat) (f : Nat → Rat) :
    (l.map fun w => c * f w).sum = c * (l.map f).sum := by
  induction l with
  | nil => simp
  | cons b l ih =>
    simp only [List.map_cons, List.sum_cons, ih, mul_add]

/-- one induction step of the upper certificate. -/
theorem cert_step_upper (l : List Nat) (W xs : Nat → Rat) (c μ xv : Rat) (hc : 0 ≤ c)
    (hW : ∀ w ∈ l, W w ≤ c * xs w) (hrow : (l.map xs).sum ≤ μ * xv) :
    (l.map W).sum ≤ c * μ * xv := by
  have h1 := sum_map_le l W (fun w => c * xs w) hW
  rw [sum_map_mul] at h1
  rw [mul_assoc]
  exact le_trans h1 (mul_le_mul_of_nonneg_left hrow hc)

theorem cert_step_lower (l : List Nat) (W xs : Nat → Rat) (c ν xv : Rat) (hc : 0 ≤ c)
    (hW : ∀ w ∈ l, c * xs w ≤ W w) (hrow : ν * xv ≤ (l.map xs).sum) :
    c * ν * xv ≤ (l.map W).sum := by
  have h1 := sum_map_le l (fun w => c * xs w) W hW
  rw [sum_map_mul] at h1
  rw [mul_assoc]
  exact le_trans (mul_le_mul_of_nonneg_left hrow hc) h1

end Dsw.PowerStop
