import DswModel.Props.C17d
/-!
# The start vectors drawn by the modelled generator are binary64 values in `[0, 1]`
(they are `m·2^-53` with `m < 2^53`; only `≤ 1` is stated and used)
-/
namespace Dsw
namespace PowerFSeed

/-- a non-negative binary64 value not above 1. -/
def Good (d : Dbl) : Prop := IsB64 d.num d.den ∧ 0 ≤ d.num ∧ d.num ≤ d.den

theorem draw_good (a b : Nat) :
    Good ⟨(((a % 4294967296) / 32) * 67108864 + (b % 4294967296) / 64 : Nat), 9007199254740992⟩ := by
  -- 27 bits of `a` above 26 bits of `b`: a significand `m < 2^53`, and the value is `m · 2^-53`
  have h1 : (a % 4294967296) / 32 < 134217728 := Nat.div_lt_of_lt_mul (Nat.mod_lt _ (by decide))
  have h2 : (b % 4294967296) / 64 < 67108864 := Nat.div_lt_of_lt_mul (Nat.mod_lt _ (by decide))
  generalize (a % 4294967296) / 32 = x at h1
  generalize (b % 4294967296) / 64 = y at h2
  have h3 : x * 67108864 + y < 9007199254740992 := by omega
  generalize x * 67108864 + y = m at h3
  refine ⟨⟨(by decide : 0 < 9007199254740992), m, -53, h3, by decide, by decide, ?_⟩, Int.natCast_nonneg _,
    Int.ofNat_le.2 (Nat.le_of_lt h3)⟩
  unfold EqPow2
  rw [if_neg (by decide), Int.natAbs_natCast]
  rfl

theorem randomDoubles_good (n : Nat) (s : MT.State) :
    (randomDoubles n s).1.length = n ∧ ∀ d ∈ (randomDoubles n s).1, Good d := by
  induction n generalizing s with
  | zero => simp [randomDoubles]
  | succ n ih =>
    simp only [randomDoubles, List.length_cons, List.mem_cons]
    obtain ⟨h1, h2⟩ := ih (mtNext (mtNext s).2).2
    refine ⟨by rw [h1], ?_⟩
    rintro d (rfl | hd)
    · exact draw_good _ _
    · exact h2 d hd

theorem toArray_in01 {n : Nat} (l : List Dbl) (h : l.length = n ∧ ∀ d ∈ l, Good d) : VecF.In01 n l.toArray := by
  obtain ⟨hl, hg⟩ := h
  have key : ∀ v, v < n → Good (l.toArray.getD v Dbl.zero) := by
    intro v hv
    have hv' : v < l.length := by omega
    have : l.toArray.getD v Dbl.zero = l[v] := by
      simp [Array.getD, hv']
    rw [this]
    exact hg _ (List.getElem_mem _)
  exact ⟨⟨by simpa using hl, fun v hv => ⟨(key v hv).1, (key v hv).2.1⟩⟩, fun v hv => (key v hv).2.2⟩

theorem randomStarts_in01 (n repeats : Nat) (s : MT.State) : ∀ x ∈ randomStarts n repeats s, x.In01 n := by
  induction repeats generalizing s with
  | zero => intro x hx; simp [randomStarts] at hx
  | succ r ih =>
    intro x hx
    simp only [randomStarts, List.mem_cons] at hx
    rcases hx with rfl | hx
    · exact toArray_in01 _ (randomDoubles_good n s)
    · exact ih _ x hx

end PowerFSeed
end Dsw
