import DswModel.Model.Float
import DswModel.Model.Capacity
import DswModel.Model.CapacityF
import DswModel.Props.FloatSpec
import Mathlib.Algebra.Order.Field.Rat
import Mathlib.Algebra.Order.AbsoluteValue.Basic
import Mathlib.Tactic.Linarith
import Mathlib.Tactic.Positivity
import Mathlib.Tactic.Ring
import Mathlib.Tactic.NormNum
/-!
# The error of one rounding, as inequalities between rationals

`Dbl.toRat r` is the exact value of a double. For `roundDouble num den = some r`, `q = num/den`:
`|Dbl.toRat r − q| ≤ 2^-53·|q| + 2^-1075` (`round_err`), and rounding is monotone w.r.t. a binary64 value in absolute value
(`round_abs_ge`). Then the error bound for `Dbl.add` and `Dbl.div` (`add_err`, `div_err`); for `Dbl.sub` only the comparison
`sub_abs_lt`.
-/
namespace Dsw

/-- the exact value of a double. -/
def Dbl.toRat (x : Dbl) : Rat := (x.num : Rat) / (x.den : Rat)

def VecF.toRat (x : VecF) : Vec := x.map Dbl.toRat

end Dsw

namespace Dsw.FloatErr

theorem toRat_neg (x : Dbl) : Dbl.toRat ⟨-x.num, x.den⟩ = -Dbl.toRat x := by
  unfold Dbl.toRat
  rw [Int.cast_neg, neg_div]

theorem toRat_zero : Dbl.toRat Dbl.zero = 0 := by
  simp [Dbl.toRat, Dbl.zero]

theorem toRat_nonneg {x : Dbl} (h : 0 ≤ x.num) : 0 ≤ Dbl.toRat x :=
  div_nonneg (Int.cast_nonneg h) (Nat.cast_nonneg _)

theorem natAbs_cast (z : Int) : ((z.natAbs : Nat) : Rat) = |(z : Rat)| := by
  rw [← Int.cast_abs, Int.abs_eq_natAbs]
  simp

theorem toRat_abs (x : Dbl) : Dbl.toRat (Dbl.abs x) = |Dbl.toRat x| := by
  unfold Dbl.toRat Dbl.abs
  simp only
  rw [Int.cast_natCast, natAbs_cast, abs_div, Nat.abs_cast]

/-- everything scaled by `2D`: `U` is one unit in the last place, the result `v` is within `U/2` of the input `q`, and
`U/2` is at most `u·q + η`. -/
theorem core_err (v q D U u η : Rat) (hD : 0 < D) (hlo : 2 * (v * D) ≤ 2 * (q * D) + U)
    (hhi : 2 * (q * D) ≤ 2 * (v * D) + U) (hU : U ≤ 2 * (u * (q * D)) + η * (2 * D)) : |v - q| ≤ u * q + η := by
  have hD2 : 0 < 2 * D := mul_pos two_pos hD
  rw [abs_le]
  constructor
  · exact le_of_mul_le_mul_right (by linarith only [hhi, hU]) hD2
  · exact le_of_mul_le_mul_right (by linarith only [hlo, hU]) hD2

/-- from the scaled specification, with `D = d·2^O` and `U = d·2^k`: in the normal range (`k > 0`) `U ≤ 2^-52·n·2^O`,
in the subnormal one `U = d`. -/
theorem posSpec_err {O n d m k : Nat} {e : Int} (S : PosSpec O n d m e k) (hd : 0 < d) :
    |(magNum (m, e) : Rat) / (magDen (m, e) : Rat) - (n : Rat) / (d : Rat)| ≤
      (2 : Rat)⁻¹ ^ 53 * ((n : Rat) / (d : Rat)) + (2 : Rat)⁻¹ ^ (O + 1) := by
  have hdq : (0 : Rat) < d := Nat.cast_pos.2 hd
  have hrd : (0 : Rat) < magDen (m, e) := Nat.cast_pos.2 (magDen_pos _)
  have hv : (magNum (m, e) : Rat) / magDen (m, e) * (d * 2 ^ O) = m * (d * 2 ^ k) := by
    have F : (magNum (m, e) : Rat) * 2 ^ O = m * 2 ^ k * magDen (m, e) := by
      exact_mod_cast eqPow2_scaled O k S.hk (mag_eqPow2 m e)
    rw [div_mul_eq_mul_div, mul_left_comm, F, div_eq_iff hrd.ne']
    ring
  have hq : (n : Rat) / d * (d * 2 ^ O) = n * 2 ^ O := by rw [← mul_assoc, div_mul_cancel₀ _ hdq.ne']
  have hη : (2 : Rat)⁻¹ ^ (O + 1) * (2 * (d * 2 ^ O)) = d := by
    rw [inv_pow, pow_succ, mul_left_comm 2, mul_comm (2 ^ O) 2, mul_comm, mul_inv_cancel_right₀ (by positivity)]
  have hlo : 2 * ((m : Rat) * (d * 2 ^ k)) ≤ 2 * (n * 2 ^ O) + d * 2 ^ k := by exact_mod_cast S.half_lo
  have hhi : 2 * ((n : Rat) * 2 ^ O) ≤ 2 * (m * (d * 2 ^ k)) + d * 2 ^ k := by exact_mod_cast S.half_hi
  refine core_err _ _ (d * 2 ^ O) (d * 2 ^ k) _ _ (by positivity) (by rw [hv, hq]; exact hlo)
    (by rw [hv, hq]; exact hhi) ?_
  rw [hq, hη]
  rcases Nat.eq_zero_or_pos k with rfl | hk
  · rw [pow_zero, mul_one]
    exact le_add_of_nonneg_left (by positivity)
  · have low : (2 : Rat) ^ 52 * (d * 2 ^ k) ≤ n * 2 ^ O := by exact_mod_cast S.lower hk
    linarith only [low, hdq]

theorem round_cases (P : Rat → Rat → Prop) (h0 : P 0 0) (hneg : ∀ q v, P q v → P (-q) (-v))
    (hpos : ∀ (num : Int) (den : Nat) (r : Dbl), 0 < den → 0 < num → roundDouble num den = some r →
      P ((num : Rat) / den) (Dbl.toRat r))
    (num : Int) (den : Nat) (r : Dbl) (hden : 0 < den) (h : roundDouble num den = some r) :
    P ((num : Rat) / den) (Dbl.toRat r) := by
  rcases Int.lt_trichotomy num 0 with hn | rfl | hp
  · have := hneg _ _ (hpos (-num) den ⟨-r.num, r.den⟩ hden (by omega) (roundDouble_neg h))
    rwa [toRat_neg, neg_neg, Int.cast_neg, neg_div, neg_neg] at this
  · rw [roundDouble_zero] at h
    cases h
    rw [Int.cast_zero, zero_div]
    exact toRat_zero ▸ h0
  · exact hpos num den r hden hp h

theorem round_err (num : Int) (den : Nat) (r : Dbl) (hden : 0 < den) (h : roundDouble num den = some r) :
    |Dbl.toRat r - (num : Rat) / (den : Rat)| ≤ (2 : Rat)⁻¹ ^ 53 * |(num : Rat) / (den : Rat)| + (2 : Rat)⁻¹ ^ 1075 := by
  refine round_cases (fun q v => |v - q| ≤ (2 : Rat)⁻¹ ^ 53 * |q| + (2 : Rat)⁻¹ ^ 1075) ?_ (fun q v hq => ?_)
    (fun num den r hden hnum h => ?_) num den r hden h
  · rw [sub_zero, abs_zero, mul_zero, zero_add]
    positivity
  · rwa [neg_sub_neg, abs_sub_comm, abs_neg]
  · rw [abs_of_pos (a := (num : Rat) / den) (div_pos (Int.cast_pos.2 hnum) (Nat.cast_pos.2 hden))]
    obtain ⟨m, e, k, S, hcase⟩ := roundDouble_shape (num := num) (den := den) (by omega) hden
    rcases hcase with ⟨_, h2⟩ | ⟨_, h2⟩
    · rw [h2] at h; cases h
    · rw [h2, if_neg (by omega)] at h
      cases h
      have := posSpec_err S hden
      rw [natAbs_cast, abs_of_pos (Int.cast_pos.2 hnum)] at this
      unfold Dbl.toRat
      rw [Int.one_mul, Int.cast_natCast]
      exact this

theorem toRat_le_iff (x y : Dbl) (hx : 0 < x.den) (hy : 0 < y.den) :
    Dbl.toRat x ≤ Dbl.toRat y ↔ x.num * y.den ≤ y.num * x.den := by
  have hxq : (0 : Rat) < (x.den : Rat) := Nat.cast_pos.2 hx
  have hyq : (0 : Rat) < (y.den : Rat) := Nat.cast_pos.2 hy
  unfold Dbl.toRat
  rw [div_le_div_iff₀ hxq hyq, ← Int.cast_natCast y.den, ← Int.cast_natCast x.den, ← Int.cast_mul, ← Int.cast_mul,
    Int.cast_le]

theorem lt_iff (x y : Dbl) (hx : 0 < x.den) (hy : 0 < y.den) : Dbl.lt x y = true ↔ Dbl.toRat x < Dbl.toRat y := by
  rw [← not_le, toRat_le_iff y x hy hx, Int.not_le, Dbl.lt, decide_eq_true_iff]

theorem round_abs_ge (num : Int) (den : Nat) (r : Dbl) (hden : 0 < den) (h : roundDouble num den = some r)
    (t : Dbl) (ht : IsB64 t.num t.den) (hle : Dbl.toRat t ≤ |(num : Rat) / (den : Rat)|) : Dbl.toRat t ≤ |Dbl.toRat r| := by
  refine round_cases (fun q v => Dbl.toRat t ≤ |q| → Dbl.toRat t ≤ |v|) id (fun q v hq => ?_)
    (fun num den r hden hnum h hle => ?_) num den r hden h hle
  · rwa [abs_neg, abs_neg]
  · rw [abs_of_pos (a := (num : Rat) / den) (div_pos (Int.cast_pos.2 hnum) (Nat.cast_pos.2 hden))] at hle
    have := roundDouble_ge_of_isB64 hden h ht ((toRat_le_iff t ⟨num, den⟩ ht.1 hden).1 hle)
    exact le_trans ((toRat_le_iff t r ht.1 (roundDouble_den_pos h)).2 this) (le_abs_self _)

theorem add_exact (x y : Dbl) (hx : 0 < x.den) (hy : 0 < y.den) :
    ((x.num * y.den + y.num * x.den : Int) : Rat) / ((x.den * y.den : Nat) : Rat) = Dbl.toRat x + Dbl.toRat y := by
  unfold Dbl.toRat
  rw [div_add_div _ _ (Nat.cast_pos.2 hx).ne' (Nat.cast_pos.2 hy).ne', mul_comm (x.den : Rat) (y.num : Rat)]
  push_cast
  rfl

theorem sub_exact (x y : Dbl) (hx : 0 < x.den) (hy : 0 < y.den) :
    ((x.num * y.den - y.num * x.den : Int) : Rat) / ((x.den * y.den : Nat) : Rat) = Dbl.toRat x - Dbl.toRat y := by
  unfold Dbl.toRat
  rw [div_sub_div _ _ (Nat.cast_pos.2 hx).ne' (Nat.cast_pos.2 hy).ne', mul_comm (x.den : Rat) (y.num : Rat)]
  push_cast
  rfl

theorem div_eq (x y : Dbl) (hyn : 0 < y.num) : Dbl.div x y = roundDouble (x.num * y.den) (x.den * y.num.toNat) := by
  unfold Dbl.div
  rw [if_neg (by omega), if_pos hyn]

theorem div_exact (x y : Dbl) (hyn : 0 < y.num) :
    ((x.num * y.den : Int) : Rat) / ((x.den * y.num.toNat : Nat) : Rat) = Dbl.toRat x / Dbl.toRat y := by
  have ht : ((y.num.toNat : Nat) : Rat) = (y.num : Rat) := by
    rw [← Int.cast_natCast, Int.toNat_of_nonneg hyn.le]
  unfold Dbl.toRat
  rw [div_div_div_eq, Nat.cast_mul, ht]
  push_cast
  rfl

theorem add_err (x y r : Dbl) (hx : 0 < x.den) (hy : 0 < y.den) (h : Dbl.add x y = some r) :
    |Dbl.toRat r - (Dbl.toRat x + Dbl.toRat y)| ≤ (2 : Rat)⁻¹ ^ 53 * |Dbl.toRat x + Dbl.toRat y| + (2 : Rat)⁻¹ ^ 1075 := by
  have := round_err _ _ r (Nat.mul_pos hx hy) h
  rwa [add_exact x y hx hy] at this

abbrev NonnegB64 (t : Dbl) : Prop := IsB64 t.num t.den ∧ 0 ≤ t.num

theorem add_nonnegB64 (x y r : Dbl) (hx : NonnegB64 x) (hy : NonnegB64 y) (h : Dbl.add x y = some r) : NonnegB64 r :=
  ⟨roundDouble_isB64 _ _ r (Nat.mul_pos hx.1.1 hy.1.1) h, (roundDouble_sign _ _ r h).1
    (Int.add_nonneg (Int.mul_nonneg hx.2 (Int.natCast_nonneg _)) (Int.mul_nonneg hy.2 (Int.natCast_nonneg _)))⟩

theorem sub_isB64 (x y r : Dbl) (hx : 0 < x.den) (hy : 0 < y.den) (h : Dbl.sub x y = some r) :
    IsB64 r.num r.den := roundDouble_isB64 _ _ r (Nat.mul_pos hx hy) h

theorem div_err (x y r : Dbl) (hx : 0 < x.den) (hyn : 0 < y.num) (h : Dbl.div x y = some r) :
    |Dbl.toRat r - Dbl.toRat x / Dbl.toRat y| ≤ (2 : Rat)⁻¹ ^ 53 * |Dbl.toRat x / Dbl.toRat y| + (2 : Rat)⁻¹ ^ 1075 := by
  rw [div_eq x y hyn] at h
  have := round_err _ _ r (Nat.mul_pos hx (by omega)) h
  rwa [div_exact x y hyn] at this

theorem div_nonnegB64 (x y r : Dbl) (hx : NonnegB64 x) (hyn : 0 < y.num) (h : Dbl.div x y = some r) : NonnegB64 r := by
  rw [div_eq x y hyn] at h
  exact ⟨roundDouble_isB64 _ _ r (Nat.mul_pos hx.1.1 (by omega)) h,
    (roundDouble_sign _ _ r h).1 (Int.mul_nonneg hx.2 (Int.natCast_nonneg _))⟩

theorem isB64_zero : IsB64 Dbl.zero.num Dbl.zero.den := isB64_int 0 (Nat.zero_le _)

/-- the settled test on one entry: `|fl(x − y)| < t` in doubles gives `|x − y| < t` exactly. -/
theorem sub_abs_lt (x y d t : Dbl) (hx : 0 < x.den) (hy : 0 < y.den) (h : Dbl.sub x y = some d)
    (ht : IsB64 t.num t.den) (hlt : |Dbl.toRat d| < Dbl.toRat t) : |Dbl.toRat x - Dbl.toRat y| < Dbl.toRat t := by
  by_contra hc
  rw [← sub_exact x y hx hy] at hc
  exact absurd (round_abs_ge _ _ d (Nat.mul_pos hx hy) h t ht (not_lt.1 hc)) (not_le.2 hlt)

end Dsw.FloatErr
