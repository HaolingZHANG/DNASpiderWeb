import DswModel.Model.Spiderweb
import DswModel.Lemmas.Defs
import DswModel.Lemmas.DeBruijn
import DswModel.Lemmas.Vt
import DswModel.Lemmas.Repair
import DswModel.Lemmas.Trim
import DswModel.Lemmas.Walk
import DswModel.Lemmas.Windows
/-! Helper lemmas for C08 (repair of interior edits on vertex-induced graphs).

Strands are cut into named pieces (`pre ++ Ga ++ Pd ++ y :: S1 ++ V1 ++ c :: V3`, …) with hypotheses
on the lengths of the pieces, instead of being addressed by positions: a Python slice then is the
middle piece of such a cut (`pySlice_mid`), and the side conditions are sums of lengths; positions
would bring truncated subtractions into every one of them. -/
namespace Dsw.RepairEdit
open Dsw

/-- the shift successor of vertex `u` along nucleotide `c`. -/
def stepV (k u : Nat) (c : Char) : Nat := (u * 4 + (nucIdx c).getD 0) % 4 ^ k

theorem stepV_lt (k u : Nat) (c : Char) : stepV k u c < 4 ^ k := shift_lt k u _

theorem retained_lt {k : Nat} {s : Mask} (hs : s.size = 4 ^ k) {u : Nat} (hu : s.getD u false = true) :
    u < 4 ^ k := by
  rw [← hs]; exact Trim.Mask.lt_size_of_getD hu

theorem next_induced (k : Nat) (s : Mask) (hs : s.size = 4 ^ k) (u : Nat)
    (hu : s.getD u false = true) (c : Char) :
    (inducedAccessor k s).next (u : Int) c =
      if (nucIdx c).isSome = true ∧ s.getD (stepV k u c) false = true then
        some ((stepV k u c : Nat) : Int) else none := by
  unfold Acc.next stepV
  cases hj : nucIdx c with
  | none => simp
  | some j =>
    have hj4 := nucIdx_lt hj
    have e := inducedAccessor_ent k s u j (retained_lt hs hu) hj4
    simp only [Option.isSome_some, Option.getD_some, true_and]
    by_cases h : s.getD ((u * 4 + j) % 4 ^ k) false = true
    · rw [if_pos ⟨hu, h⟩] at e
      rw [e, if_pos (Int.natCast_nonneg _), if_pos h]
    · rw [if_neg (fun h' => h h'.2)] at e
      rw [e, if_neg (by decide), if_neg h]

/-- a walk from a retained vertex ends, after its last `k` symbols `B`, at the vertex of `B`, which
is retained (`Windows.walk_sync` read through `kmerIdx`). -/
theorem walk_suffix {k : Nat} {s : Mask} (hs : s.size = 4 ^ k) (hk : 1 ≤ k) {u : Nat}
    (hu : s.getD u false = true) (A B : List Char) (hB : B.length = k)
    (hw : isWalk (inducedAccessor k s) (u : Int) (A ++ B) = true) :
    walkEnd (inducedAccessor k s) (u : Int) (A ++ B) = ((kmerIdx B : Nat) : Int) ∧
      s.getD (kmerIdx B) false = true := by
  have hu4 := retained_lt hs hu
  obtain ⟨u', hu', hm, he, hkm⟩ := Windows.walk_sync hk
    (Windows.arcsIn_induced k s s (Mask.Sub.refl s)) (A ++ B) u hu4 hu hw
  have : u' = kmerIdx B := by
    rw [← kmerIdx_kmerOf k u' hu', hkm, ← List.append_assoc]
    congr 1
    exact List.drop_left' (by rw [List.length_append, List.length_append, kmerOf_length k u hu4, hB,
      Nat.add_comm])
  rw [← this]; exact ⟨he, hm⟩

/-- `S` is an ACGT string all of whose length-`k` windows are retained vertices. -/
def Windowed (k : Nat) (s : Mask) (S : List Char) : Prop :=
  IsAcgt S ∧ ∀ A B C, S = A ++ B ++ C → B.length = k → s.getD (kmerIdx B) false = true

theorem Windowed.of_walk {k : Nat} {s : Mask} (hs : s.size = 4 ^ k) (hk : 1 ≤ k) {u : Nat}
    (hu : s.getD u false = true) {w : List Char}
    (hw : isWalk (inducedAccessor k s) (u : Int) w = true) : Windowed k s w := by
  refine ⟨isAcgt_of_isWalk w _ hw, ?_⟩
  intro A B C e hB
  subst e
  rw [isWalk_append, Bool.and_eq_true] at hw
  exact (walk_suffix hs hk hu A B hB hw.1).2

theorem Windowed.suffix {k : Nat} {s : Mask} {X S : List Char} (h : Windowed k s (X ++ S)) :
    Windowed k s S := by
  refine ⟨(IsAcgt.append.mp h.1).2, ?_⟩
  intro A B C e hB
  exact h.2 (X ++ A) B C (by rw [e]; simp) hB

theorem Windowed.prefix {k : Nat} {s : Mask} {X S : List Char} (h : Windowed k s (X ++ S)) :
    Windowed k s X := by
  refine ⟨(IsAcgt.append.mp h.1).1, ?_⟩
  intro A B C e hB
  exact h.2 A B (C ++ S) (by rw [e]; simp) hB

theorem stepV_kmerIdx (k : Nat) (b : Char) (B : List Char) (c : Char) (hB : (b :: B).length = k) :
    stepV k (kmerIdx (b :: B)) c = kmerIdx (B ++ [c]) := by
  have hlt := kmerIdx_lt (B ++ [c])
  rw [List.length_append, List.length_singleton] at hlt
  unfold stepV
  rw [kmerIdx_cons, Nat.add_mul, Nat.add_assoc, ← kmerIdx_snoc, Nat.mul_assoc, ← Nat.pow_succ, ← hB,
    List.length_cons, Nat.mul_add_mod_self_right, Nat.mod_eq_of_lt hlt]

theorem Windowed.walk2 {k : Nat} {s : Mask} (hs : s.size = 4 ^ k) (hk : 1 ≤ k) :
    ∀ (C B : List Char), B.length = k → s.getD (kmerIdx B) false = true →
      Windowed k s (B.tail ++ C) → isWalk (inducedAccessor k s) ((kmerIdx B : Nat) : Int) C = true
  | [], _, _, _, _ => rfl
  | c :: C, B, hB, hret, h => by
    match B, hB with
    | [], hB => simp at hB; omega
    | b :: B', hB =>
      simp only [List.tail_cons] at h
      have hB' : (B' ++ [c]).length = k := by simp at hB ⊢; omega
      have hret' := h.2 [] (B' ++ [c]) C (by simp) hB'
      rw [isWalk, next_induced k s hs _ hret, stepV_kmerIdx k b B' c hB,
        if_pos ⟨h.1 c (by simp), hret'⟩]
      apply Windowed.walk2 hs hk C (B' ++ [c]) hB' hret'
      match B' with
      | [] => simp; exact Windowed.suffix (X := [c]) (by simpa using h)
      | b' :: B'' =>
        simp only [List.cons_append, List.tail_cons]
        apply Windowed.suffix (X := [b'])
        simpa using h

theorem Windowed.walk {k : Nat} {s : Mask} (hs : s.size = 4 ^ k) (hk : 1 ≤ k) (C A B S : List Char)
    (h : Windowed k s S) (e : S = A ++ B ++ C) (hB : B.length = k) :
    isWalk (inducedAccessor k s) ((kmerIdx B : Nat) : Int) C = true := by
  apply Windowed.walk2 hs hk C B hB (h.2 A B C e hB)
  apply Windowed.suffix (X := A ++ B.take 1)
  rw [e] at h
  match B, hB with
  | [], hB => simp at hB; omega
  | b :: B', _ => simpa using h

/-- the synchronisation lemma: after `k` symbols `B` the scan is at the vertex of `B`, whatever it
read before. -/
theorem resync {k : Nat} {s : Mask} (hs : s.size = 4 ^ k) (hk : 1 ≤ k) {u : Nat}
    (hu : s.getD u false = true) (A B C : List Char) (hB : B.length = k)
    (hX : isWalk (inducedAccessor k s) (u : Int) (A ++ B) = true)
    (hwin : Windowed k s (B.tail ++ C)) :
    walkEnd (inducedAccessor k s) (u : Int) (A ++ B) = ((kmerIdx B : Nat) : Int) ∧
      s.getD (kmerIdx B) false = true ∧
      isWalk (inducedAccessor k s) ((kmerIdx B : Nat) : Int) C = true := by
  obtain ⟨e, hret⟩ := walk_suffix hs hk hu A B hB hX
  exact ⟨e, hret, Windowed.walk2 hs hk C B hB hret hwin⟩

theorem split_prefix {α} (l : List α) (n : Nat) (h : n ≤ l.length) :
    ∃ l1 l2, l = l1 ++ l2 ∧ l1.length = n :=
  ⟨l.take n, l.drop n, (List.take_append_drop n l).symm, by rw [List.length_take]; omega⟩

theorem split_suffix {α} (l : List α) (n : Nat) (h : n ≤ l.length) :
    ∃ l1 l2, l = l1 ++ l2 ∧ l2.length = n :=
  ⟨l.take (l.length - n), l.drop (l.length - n), (List.take_append_drop _ l).symm,
    by rw [List.length_drop]; omega⟩

theorem marker_reverse (q : List Int) (k L j n : Nat) (hL : L ≤ q.length) (hk : k ≤ L) (hj : j < k)
    (hn : n + j + 1 = L) : (pySlice q ((L : Int) - k) L).reverse[j]? = q[n]? := by
  obtain ⟨m, rfl⟩ := Nat.exists_eq_add_of_le' hk
  obtain ⟨i, rfl⟩ := Nat.exists_eq_add_of_lt hj
  have hlen : ((q.drop m).take (j + i + 1)).length = j + i + 1 := by
    rw [List.length_take, List.length_drop]; omega
  rw [Int.natCast_add, Int.add_sub_cancel, ← Int.natCast_add, pySlice_nat, Nat.add_sub_cancel_left,
    List.getElem?_reverse' (j := i) (by rw [hlen]), List.getElem?_take_of_lt (by omega),
    List.getElem?_drop]
  congr 1; omega

theorem run_queue_lt (a : Acc) : ∀ (w : List Char) (st : Scan) (j : Nat), j < st.loc →
    (st.run a w).queue[j]? = st.queue[j]?
  | [], _, _, _ => rfl
  | c :: w, st, j, hj => by
    simp only [Scan.run]
    rw [run_queue_lt a w _ j (by simp; omega)]
    simp only [Scan.advance]
    rw [List.getElem?_set_ne (by omega)]

/-- `index_queue[location] = vertex_index` along a clean run. -/
theorem run_queue (a : Acc) : ∀ (Y1 Y2 : List Char) (st : Scan) (n : Nat), Y1.length = n + 1 →
    st.loc + (Y1 ++ Y2).length ≤ st.queue.length →
    (st.run a (Y1 ++ Y2)).queue[st.loc + n]? = some (walkEnd a st.v Y1)
  | [], _, _, _, h, _ => by simp at h
  | c :: Y1, Y2, st, n, h, hl => by
    simp only [List.cons_append, Scan.run, walkEnd]
    simp only [List.cons_append, List.length_cons, List.length_append] at h hl
    match n with
    | 0 =>
      obtain rfl : Y1 = [] := List.eq_nil_of_length_eq_zero (by omega)
      rw [Nat.add_zero, run_queue_lt a _ _ st.loc (by simp)]
      simp only [Scan.advance, walkEnd]
      rw [List.getElem?_set_self (by omega)]
    | n + 1 =>
      have := run_queue a Y1 Y2 (st.advance c (a.ent st.v ((nucIdx c).getD 0))) n (by omega)
        (by simp [Scan.advance]; omega)
      simp only [Scan.advance_loc] at this
      rw [show st.loc + (n + 1) = st.loc + 1 + n by omega, this]
      rfl

theorem run_marker (a : Acc) (k : Nat) (st : Scan) (Y1 Y2 : List Char) (hY1 : 1 ≤ Y1.length)
    (hY2 : Y2.length < k) (hk : k ≤ st.loc + (Y1 ++ Y2).length)
    (hl : st.loc + (Y1 ++ Y2).length ≤ st.queue.length) :
    (pySlice (st.run a (Y1 ++ Y2)).queue (((st.run a (Y1 ++ Y2)).loc : Int) - k)
      (st.run a (Y1 ++ Y2)).loc).reverse[Y2.length]? = some (walkEnd a st.v Y1) := by
  obtain ⟨n, hn⟩ := Nat.exists_eq_add_of_le' hY1
  obtain ⟨g1, -, -, -, -, -, g7⟩ := Scan.run_fields a (Y1 ++ Y2) st
  rw [← run_queue a Y1 Y2 st n hn hl, g1]
  rw [List.length_append] at hk hl ⊢
  exact marker_reverse _ k _ _ _ (by rw [g7]; exact hl) hk hY2 (by omega)

theorem scan_detect (a : Acc) (k : Nat) (dna : List Char) (fuel : Nat) (X : List Char) (d : Char)
    (rest : List Char) (st : Scan) (hX : isWalk a st.v X = true)
    (hd : dna.drop st.loc = X ++ d :: rest) (hn : a.next (walkEnd a st.v X) d = none) :
    scan a k dna (fuel + 1 + X.length) st = scan a k dna fuel ((st.run a X).detect k dna) := by
  rw [scan_walk a k dna (fuel + 1) X st hX ⟨_, hd⟩]
  obtain ⟨h1, h2, -⟩ := Scan.run_fields a X st
  have hlen : st.loc + X.length < dna.length := by
    have := congrArg List.length hd
    simp at this; omega
  have hget : dna.getD (st.loc + X.length) 'A' = d := by
    have : (dna.drop st.loc)[X.length]? = some d := by rw [hd]; simp
    rw [List.getElem?_drop] at this
    simp [List.getD, this]
  rw [scan_succ a k dna fuel _ (by rw [h1]; exact hlen)]
  congr 1
  simp only [scanStep, h1, h2, hget, hn]

/-- the `else` branch of the scan loop at the symbol `d` of `U ++ X2 ++ d :: V1 ++ c :: V3`, where
`X2` and `V1` have `k - 1` symbols each: the chunk is `X2 ++ d :: V1`, the current split loses `X2`, and the scan
resumes behind `c` at the vertex of `V1 ++ [c]`. -/
theorem detect_fields (st : Scan) (k : Nat) (dna U X2 V1 V3 : List Char) (d c : Char)
    (cur : List Char) (tl : List (List Char)) (hdna : dna = U ++ X2 ++ d :: V1 ++ c :: V3)
    (hloc : st.loc = (U ++ X2).length) (hsp : st.splits = (cur ++ X2) :: tl)
    (hX2 : X2.length + 1 = k) (hV1 : V1.length + 1 = k) :
    (st.detect k dna).detected = st.detected + 1 ∧
    (st.detect k dna).loc = (U ++ X2 ++ d :: V1 ++ [c]).length ∧
    (st.detect k dna).v = ((kmerIdx (V1 ++ [c]) : Nat) : Int) ∧
    (st.detect k dna).splits = [nucChar (kmerIdx (V1 ++ [c]) % 4)] :: cur :: tl ∧
    (st.detect k dna).chunks = (X2 ++ d :: V1) :: st.chunks ∧
    (st.detect k dna).markers = pySlice st.queue ((st.loc : Int) - k) st.loc :: st.markers ∧
    (st.detect k dna).queue = st.queue := by
  have hl : (st.loc : Int) = U.length + X2.length := by rw [hloc, List.length_append]; omega
  have ev : pySlice dna ((st.loc : Int) + 1) (st.loc + k + 1) = V1 ++ [c] := by
    rw [hdna, show U ++ X2 ++ d :: V1 ++ c :: V3 = (U ++ X2 ++ [d]) ++ (V1 ++ [c]) ++ V3 by simp]
    exact pySlice_mid _ _ _ _ _ (by simp; omega) (by simp; omega)
  have ec : pySlice dna ((st.loc : Int) - k + 1) (st.loc + k) = X2 ++ d :: V1 := by
    rw [hdna, show U ++ X2 ++ d :: V1 ++ c :: V3 = U ++ (X2 ++ d :: V1) ++ (c :: V3) by simp]
    exact pySlice_mid _ _ _ _ _ (by omega) (by simp; omega)
  have es : pySlice (cur ++ X2) 0 (((cur ++ X2).length : Int) - k + 1) = cur := by
    have := pySlice_mid [] cur X2 0 (((cur ++ X2).length : Int) - k + 1) rfl (by simp; omega)
    rwa [List.nil_append] at this
  unfold Scan.detect
  simp only [hsp, List.headD_cons, List.tail_cons, ev, ec, es]
  refine ⟨trivial, ?_, rfl, rfl, trivial, trivial, trivial⟩
  rw [hloc]; simp; omega

theorem nucChar_kmerIdx_snoc (B : List Char) (c : Char) (hc : (nucIdx c).isSome = true) :
    nucChar (kmerIdx (B ++ [c]) % 4) = c := by
  rw [kmerIdx_snoc, Nat.mul_add_mod_self_right, Nat.mod_eq_of_lt (nucIdx_getD_lt c)]
  exact nucChar_nucIdx_getD hc

/-- from a state at the end of `pre`, the scan follows the clean stretch `Ga ++ Pd` and `r = |Ta|`
further symbols, meets the dead arc `d` (the last symbol of `y :: S1`, `r` places behind `y`) and
resumes `k` symbols later, behind `c`: the current split keeps `Ga`, the chunk has `y` at place
`k - 1 - r`, and entry `r` of the reversed look-back window is the vertex before `y`. -/
theorem step_detect (a : Acc) (k : Nat) (dna : List Char) (st : Scan)
    (pre Ga Pd Ta S1 V1 V3 : List Char) (y d c : Char) (cur : List Char) (tl : List (List Char))
    (hdna : dna = pre ++ Ga ++ Pd ++ y :: S1 ++ V1 ++ c :: V3) (hTd : Ta ++ [d] = y :: S1)
    (hloc : st.loc = pre.length) (hsp : st.splits = cur :: tl) (hq : st.queue.length = dna.length)
    (hGa : 1 ≤ Ga.length) (hPd : Pd.length + Ta.length + 1 = k) (hV1 : V1.length + 1 = k)
    (hc : (nucIdx c).isSome = true) (h1 : isWalk a st.v (Ga ++ Pd ++ Ta) = true)
    (h2 : a.next (walkEnd a st.v (Ga ++ Pd ++ Ta)) d = none) :
    ∃ st2 marker,
      (∀ fuel, scan a k dna (fuel + (1 + (Ga ++ Pd ++ Ta).length)) st = scan a k dna fuel st2) ∧
      st2.detected = st.detected + 1 ∧
      st2.loc = (pre ++ Ga ++ Pd ++ y :: S1 ++ V1 ++ [c]).length ∧
      st2.v = ((kmerIdx (V1 ++ [c]) : Nat) : Int) ∧
      st2.splits = [c] :: (cur ++ Ga) :: tl ∧
      st2.chunks = (Pd ++ y :: (S1 ++ V1)) :: st.chunks ∧
      st2.markers = marker :: st.markers ∧ marker.length ≤ k ∧
      marker.reverse[Ta.length]? = some (walkEnd a st.v (Ga ++ Pd)) ∧
      st2.queue.length = dna.length := by
  have hdna' : dna = (pre ++ Ga) ++ (Pd ++ Ta) ++ d :: V1 ++ c :: V3 := by
    rw [hdna, ← hTd]; simp
  have hXlen : (Ga ++ Pd ++ Ta).length = Ga.length + Pd.length + Ta.length := by
    simp only [List.length_append]
  have hdl : dna.length = pre.length + (Ga ++ Pd ++ Ta).length + 1 + V1.length + 1 + V3.length := by
    rw [hdna', hXlen]; simp; omega
  have hmr := run_marker a k st (Ga ++ Pd) Ta (by rw [List.length_append]; omega) (by omega)
    (by rw [hXlen, hloc]; omega) (by rw [hq, hdl, hloc]; omega)
  obtain ⟨g1, -, g3, g4, g5, -, g7⟩ := Scan.run_fields a (Ga ++ Pd ++ Ta) st
  have hml := marker_length_le (st.run a (Ga ++ Pd ++ Ta)).queue k (st.run a (Ga ++ Pd ++ Ta)).loc
  have g8 := Scan.run_splits a (Ga ++ Pd ++ Ta) st (by rw [hsp]; simp)
  rw [hsp, List.headD_cons, List.tail_cons] at g8
  obtain ⟨f1, f2, f3, f4, f5, f6, f7⟩ := detect_fields (st.run a (Ga ++ Pd ++ Ta)) k dna (pre ++ Ga)
    (Pd ++ Ta) V1 V3 d c (cur ++ Ga) tl hdna' (by rw [g1, hloc]; simp only [List.length_append]; omega)
    (by rw [g8]; simp) (by rw [List.length_append]; exact hPd) hV1
  have hd : dna.drop st.loc = (Ga ++ Pd ++ Ta) ++ d :: (V1 ++ c :: V3) := by
    rw [hloc, hdna']; simp
  refine ⟨_, _, fun fuel => ?_, by rw [f1, g3], ?_, f3, ?_, ?_, by rw [f6, g5], hml, hmr,
    by rw [f7, g7, hq]⟩
  · rw [← Nat.add_assoc]; exact scan_detect a k dna fuel _ d _ st h1 hd h2
  · rw [f2, ← hTd]; simp only [List.append_assoc, List.cons_append, List.nil_append]
  · rw [f4, nucChar_kmerIdx_snoc V1 c hc]
  · rw [f5, g4, ← List.cons_append, ← hTd]; simp

theorem scan_tail (a : Acc) (k : Nat) (dna : List Char) (fuel : Nat) (pre G0 : List Char) (st : Scan)
    (cur : List Char) (tl : List (List Char)) (hdna : dna = pre ++ G0) (hloc : st.loc = pre.length)
    (hw : isWalk a st.v G0 = true) (hsp : st.splits = cur :: tl) :
    scan a k dna (fuel + G0.length) st = some (st.run a G0) ∧
      (st.run a G0).detected = st.detected ∧ (st.run a G0).splits = (cur ++ G0) :: tl ∧
      (st.run a G0).chunks = st.chunks ∧ (st.run a G0).markers = st.markers := by
  obtain ⟨g1, -, g3, g4, g5, -, -⟩ := Scan.run_fields a G0 st
  have g8 := Scan.run_splits a G0 st (by rw [hsp]; simp)
  rw [hsp, List.headD_cons, List.tail_cons] at g8
  refine ⟨?_, g3, g8, g4, g5⟩
  rw [scan_walk a k dna fuel G0 st hw ⟨[], by rw [hloc, hdna]; simp⟩]
  exact scan_done a k dna fuel _ (by rw [g1, hloc, hdna]; simp)

theorem scan_mono (a : Acc) (k : Nat) (dna : List Char) : ∀ (f : Nat) (st st' : Scan),
    scan a k dna f st = some st' → ∀ g, scan a k dna (f + g) st = some st'
  | 0, st, st', h, g => by
    simp only [scan] at h
    split at h
    · cases h
    · cases h; exact scan_done a k dna _ st (by omega)
  | f + 1, st, st', h, g => by
    by_cases hlt : st.loc < dna.length
    · rw [scan_succ a k dna f st hlt] at h
      rw [show f + 1 + g = (f + g) + 1 by omega, scan_succ a k dna _ st hlt]
      exact scan_mono a k dna f _ st' h g
    · rw [scan_done a k dna _ st (by omega)] at h
      cases h; exact scan_done a k dna _ st (by omega)

theorem scan_fuel (a : Acc) (k : Nat) (dna : List Char) (f g : Nat) (st st' : Scan)
    (h : scan a k dna f st = some st') (hg : dna.length - st.loc ≤ g) :
    scan a k dna g st = some st' := by
  obtain ⟨st'', h2, -⟩ := scan_inv a k dna (fun _ => True) (fun _ _ _ => trivial) g st trivial hg
  have h1 := scan_mono a k dna f st st' h g
  rw [Nat.add_comm, scan_mono a k dna g st st'' h2 f] at h1
  cases h1; exact h2

/-- when the `k` symbols `y :: G1` cannot be followed, the first dead arc `d` is the last symbol of
`y :: S1` with `|S1| < k`; behind it lie `k - 1` symbols `V1` and the symbol `c` of `G1 ++ G2`. -/
theorem break_split (a : Acc) (u : Int) (k : Nat) (y : Char) (G1 G2 : List Char)
    (hG1 : G1.length + 1 = k) (hG2 : k ≤ G2.length) (h : isWalk a u (y :: G1) = false) :
    ∃ (Ta : List Char) (d : Char) (S1 V1 : List Char) (c : Char) (V3 : List Char),
      Ta ++ [d] = y :: S1 ∧ G1 ++ G2 = S1 ++ V1 ++ c :: V3 ∧ V1.length + 1 = k ∧ Ta.length < k ∧
      G2.length ≤ V3.length + k ∧
      isWalk a u Ta = true ∧ a.next (walkEnd a u Ta) d = none := by
  obtain ⟨Ta, d, Tb, e, hw, hn⟩ := isWalk_false_split a _ _ h
  have hlen : Ta.length + Tb.length = G1.length := by
    have := congrArg List.length e; simp at this; omega
  have hlt : Ta.length < G2.length := by omega
  obtain ⟨S1, hTd, hS1⟩ : ∃ S1, Ta ++ [d] = y :: S1 ∧ G1 = S1 ++ Tb := by
    cases Ta with
    | nil => simp at e; exact ⟨[], by simp [e.1], by simp [e.2]⟩
    | cons t Ta' => simp at e; exact ⟨Ta' ++ [d], by simp [e.1], by simp [e.2]⟩
  refine ⟨Ta, d, S1, Tb ++ G2.take Ta.length, G2[Ta.length], G2.drop (Ta.length + 1), hTd, ?_,
    by simp; omega, by omega, by simp; omega, hw, hn⟩
  rw [hS1]; simp

theorem isWalk_cons_inv {a : Acc} {v : Int} {x : Char} {R : List Char}
    (h : isWalk a v (x :: R) = true) :
    x ∈ (a.live v).map nucChar ∧ isWalk a (a.ent v ((nucIdx x).getD 0)) R = true := by
  obtain ⟨j, hj, rfl, hR⟩ := isWalk_cons h
  exact ⟨List.mem_map.mpr ⟨j, hj, rfl⟩, by rw [nucIdx_nucChar_getD (live_lt_four a v hj)]; exact hR⟩

/-- how the corrupted strand differs from the original around the edited position: the original
has `mid` where the corrupted strand has the single symbol `y`. -/
def MidKind (indel : Bool) (y : Char) (mid : List Char) : Prop :=
  (∃ x, mid = [x] ∧ x ≠ y) ∨ (indel = true ∧ mid = []) ∨ (indel = true ∧ ∃ x, mid = [x, y])

theorem restore_record (a : Acc) (indel : Bool) (vp : Int) (Pd S' : List Char) (y : Char)
    (mid : List Char) (hkind : MidKind indel y mid) (hw : isWalk a vp (mid ++ S') = true) :
    ∃ pm info, pathMatching a (Pd ++ y :: S') vp Pd.length indel = .ok pm ∧ info ∈ pm.1 ∧
      info.fragment = Pd ++ mid ++ S' := by
  have hocc : (Pd ++ y :: S')[Pd.length]? = some y := by simp
  have hd1 : (Pd ++ y :: S').drop (Pd.length + 1) = S' := by simp
  have hd0 : (Pd ++ y :: S').drop Pd.length = y :: S' := by simp
  have ht : (Pd ++ y :: S').take Pd.length = Pd := by simp
  have hpm := pathMatching_eq a _ vp _ indel y hocc
  rcases hkind with ⟨x, rfl, hxy⟩ | ⟨hi, rfl⟩ | ⟨hi, x, rfl⟩
  · obtain ⟨h1, h2⟩ := isWalk_cons_inv hw
    refine ⟨_, (⟨.S, Pd.length, x, (Pd ++ y :: S').set Pd.length x⟩ : RepairInfo), hpm, ?_, by simp⟩
    apply List.mem_append_left
    refine List.mem_map.mpr ⟨x, ?_, rfl⟩
    simp only [pmSubs, List.mem_filter, hd1]
    exact ⟨⟨h1, by simpa using hxy⟩, h2⟩
  · refine ⟨_, (⟨.D, Pd.length, y, Pd ++ S'⟩ : RepairInfo), hpm, ?_, by simp⟩
    apply List.mem_append_right
    rw [if_pos hi, hd1, ht]
    apply List.mem_append_right
    rw [List.nil_append] at hw
    rw [if_pos hw]; simp
  · obtain ⟨h1, h2⟩ := isWalk_cons_inv hw
    refine ⟨_, (⟨.I, Pd.length, x, Pd ++ [x] ++ y :: S'⟩ : RepairInfo), hpm, ?_, by simp⟩
    apply List.mem_append_right
    rw [if_pos hi]
    apply List.mem_append_left
    refine List.mem_map.mpr ⟨x, ?_, by rw [ht, hd0]⟩
    simp only [pmIns, List.mem_filter, hd0]
    exact ⟨h1, h2⟩

/-- `pathMatching` proposes at most nine records (four substitutions, four insertions, one
deletion), each at most one symbol longer than the chunk. -/
theorem pathMatching_records {a : Acc} {chunk : List Char} {prev : Int} {occ : Nat} {hasIndel : Bool}
    {r : List RepairInfo × Nat} (h : pathMatching a chunk prev occ hasIndel = .ok r) :
    r.1.length ≤ 9 ∧ ∀ info ∈ r.1, info.fragment.length ≤ chunk.length + 1 := by
  have hlt := pathMatching_ok_lt h
  rw [Except.ok.inj (h.symm.trans
    (pathMatching_eq a chunk prev occ hasIndel _ (List.getElem?_eq_getElem hlt)))]
  have hu : ((a.live prev).map nucChar).length ≤ 4 := by simpa using live_length_le a prev
  have hs : (pmSubs a chunk prev occ chunk[occ]).length ≤ 4 :=
    Nat.le_trans (List.length_filter_le _ _) (Nat.le_trans (List.length_filter_le _ _) hu)
  have hi : (pmIns a chunk prev occ).length ≤ 4 := Nat.le_trans (List.length_filter_le _ _) hu
  constructor
  · simp only [List.length_append, List.length_map]
    split
    · simp only [List.length_append, List.length_map]
      split <;> simp <;> omega
    · simp; omega
  · intro info hinfo
    simp only [List.mem_append, List.mem_map] at hinfo
    rcases hinfo with ⟨x, -, rfl⟩ | hinfo
    · simp
    · split at hinfo
      · simp only [List.mem_append, List.mem_map] at hinfo
        rcases hinfo with ⟨x, -, rfl⟩ | hinfo
        · simp; omega
        · split at hinfo
          · simp at hinfo; subst hinfo; simp; omega
          · simp at hinfo
      · simp at hinfo

/-- the fragment `F` is proposed by `pathMatching` at some look-back position of the detection
`(chunk, marker)`. -/
def Coll (a : Acc) (k : Nat) (indel : Bool) (dna chunk : List Char) (marker : List Int)
    (F : List Char) : Prop :=
  IsAcgt chunk ∧ k ≤ chunk.length ∧ chunk.length + 1 < dna.length ∧
    ∃ prev idx pm info, marker.reverse[idx]? = some prev ∧
      pathMatching a chunk prev (k - idx - 1) indel = .ok pm ∧ info ∈ pm.1 ∧ info.fragment = F

/-- the detected edit, on a vertex-induced graph. The scan is at the end of `pre`, at the retained
vertex `u`, in front of a clean stretch `G0` of at least `k` symbols; the original strand goes on
with `mid`, the corrupted one with `y`, both then with `G1 ++ G2` (`|G1| = k - 1`, `|G2| ≥ k`), and
`y :: G1` cannot be followed. Then the scan detects one error and resumes inside `G2`, in front
of `V3`, at a retained vertex from which the rest of the original strand is a walk; the original
strand is `Ga ++ F ++ c :: V3 ++ …`, where `Ga` stays in the current split, `c` opens the next one
and `F` is proposed for the recorded chunk. -/
theorem detect_block (k : Nat) (s : Mask) (hs : s.size = 4 ^ k) (hk : 1 ≤ k) (indel : Bool)
    (dna : List Char) (st : Scan) (pre G0 mid G1 G2 R R' : List Char) (y : Char) (u : Nat)
    (cur : List Char) (tl : List (List Char))
    (hdna : dna = pre ++ G0 ++ y :: (G1 ++ G2 ++ R)) (hloc : st.loc = pre.length)
    (hv : st.v = (u : Int)) (hu : s.getD u false = true)
    (hw : isWalk (inducedAccessor k s) (u : Int) (G0 ++ (mid ++ (G1 ++ G2) ++ R')) = true)
    (hsp : st.splits = cur :: tl) (hq : st.queue.length = dna.length) (hkG : k ≤ G0.length)
    (hkind : MidKind indel y mid) (hy : (nucIdx y).isSome = true) (hG1 : G1.length + 1 = k)
    (hG2 : k ≤ G2.length)
    (hT : isWalk (inducedAccessor k s) (walkEnd (inducedAccessor k s) (u : Int) G0) (y :: G1) = false) :
    ∃ (st2 : Scan) (chunk : List Char) (marker : List Int) (Ga F V3 pre' : List Char) (c : Char)
      (n u2 : Nat),
      G0 ++ (mid ++ (G1 ++ G2) ++ R') = Ga ++ F ++ c :: (V3 ++ R') ∧ dna = pre' ++ V3 ++ R ∧
      G2.length ≤ V3.length + k ∧
      (∀ fuel, scan (inducedAccessor k s) k dna (fuel + n) st = scan (inducedAccessor k s) k dna fuel st2) ∧
      st2.detected = st.detected + 1 ∧ st2.loc = pre'.length ∧ st2.v = (u2 : Int) ∧
      s.getD u2 false = true ∧ isWalk (inducedAccessor k s) (u2 : Int) (V3 ++ R') = true ∧
      st2.splits = [c] :: (cur ++ Ga) :: tl ∧ st2.chunks = chunk :: st.chunks ∧
      st2.markers = marker :: st.markers ∧ st2.queue.length = dna.length ∧ marker.length ≤ k ∧
      Coll (inducedAccessor k s) k indel dna chunk marker F := by
  have hwin : Windowed k s (G0 ++ (mid ++ (G1 ++ G2) ++ R')) := Windowed.of_walk hs hk hu hw
  have hwinS : Windowed k s (G1 ++ G2 ++ R') := by
    rw [List.append_assoc mid, ← List.append_assoc G0] at hwin; exact hwin.suffix
  rw [isWalk_append, Bool.and_eq_true] at hw
  obtain ⟨hwG0, hwmid⟩ := hw
  obtain ⟨Ta, d, S1, V1, c, V3, hTd, hG, hV1, hTa, hV3, hb1, hb2⟩ :=
    break_split _ _ k y G1 G2 hG1 hG2 hT
  obtain ⟨n, hn⟩ := Nat.exists_eq_add_of_lt hTa
  obtain ⟨Ga, Pd, rfl, hPd⟩ := split_suffix G0 n (by omega)
  replace hPd : Pd.length + Ta.length + 1 = k := by omega
  rw [List.length_append] at hkG
  have hocc : Pd.length = k - Ta.length - 1 := by
    rw [← hPd, Nat.sub_sub, Nat.add_assoc, Nat.add_sub_cancel]
  have hS1 : Ta.length = S1.length := by simpa using congrArg List.length hTd
  have hclen : k ≤ (Pd ++ y :: (S1 ++ V1)).length ∧
      (Pd ++ y :: (S1 ++ V1)).length + 1 < (pre ++ (Ga ++ Pd) ++ y :: (S1 ++ V1 ++ c :: V3 ++ R)).length := by
    simp; omega
  rw [hG] at hdna hwinS hwmid ⊢
  have hX : isWalk (inducedAccessor k s) st.v (Ga ++ Pd ++ Ta) = true := by
    rw [hv, isWalk_append, hwG0, hb1]; rfl
  rw [← walkEnd_append, ← hv] at hb2
  obtain ⟨st2, marker, hsc, d1, d2, d3, d4, d5, d6, d7, d8, d9⟩ :=
    step_detect (inducedAccessor k s) k dna st pre Ga Pd Ta S1 V1 (V3 ++ R) y d c cur tl
      (by rw [hdna]; simp) hTd hloc hsp hq (by omega) hPd hV1 (hwinS.1 c (by simp)) hX hb2
  have hsplit : S1 ++ V1 ++ c :: V3 ++ R' = S1 ++ (V1 ++ [c]) ++ (V3 ++ R') := by simp
  have hVc : (V1 ++ [c]).length = k := by simpa using hV1
  have hmidS' : isWalk (inducedAccessor k s) (walkEnd (inducedAccessor k s) (u : Int) (Ga ++ Pd))
      (mid ++ (S1 ++ V1)) = true :=
    isWalk_prefix _ _ (c :: V3 ++ R') _ (by rw [← hwmid]; simp)
  obtain ⟨pm, info, hpm, hinfo, hfrag⟩ := restore_record (inducedAccessor k s) indel _ Pd (S1 ++ V1) y
    mid hkind hmidS'
  rw [hocc] at hpm
  have hacgt : IsAcgt (Ga ++ Pd) ∧ IsAcgt (S1 ++ V1) :=
    ⟨hwin.prefix.1, (IsAcgt.append.mp hwinS.prefix.1).1⟩
  rw [hv] at d8
  refine ⟨st2, _, marker, Ga, Pd ++ mid ++ (S1 ++ V1), V3, _, c, _, _, by simp, ?_, hV3, hsc, d1, d2,
    d3, hwinS.2 _ _ _ hsplit hVc, Windowed.walk hs hk _ _ _ _ hwinS hsplit hVc, d4, d5, d6, d9, d7,
    IsAcgt.append.mpr ⟨(IsAcgt.append.mp hacgt.1).2, IsAcgt.cons.mpr ⟨hy, hacgt.2⟩⟩, hclen.1,
    by rw [hdna]; exact hclen.2, _, _, pm, info, d8, hpm, hinfo, hfrag⟩
  rw [hdna]; simp

theorem subset_addFragments (dna : List Char) : ∀ (infos : List RepairInfo) (set : List (List Char))
    (f : List Char), f ∈ set → f ∈ addFragments dna set infos
  | [], _, _, h => h
  | info :: infos, set, f, h => by
    simp only [addFragments, List.foldl_cons]
    apply subset_addFragments dna infos
    split
    · exact h
    · split
      · exact h
      · exact List.mem_append_left _ h

theorem addFragments_length_le (dna : List Char) : ∀ (infos : List RepairInfo)
    (set : List (List Char)), (addFragments dna set infos).length ≤ set.length + infos.length
  | [], _ => by simp [addFragments]
  | info :: infos, set => by
    simp only [addFragments, List.foldl_cons]
    have := addFragments_length_le dna infos
      (if set.contains dna then set else if set.contains info.fragment then set
        else set ++ [info.fragment])
    simp only [addFragments] at this
    refine Nat.le_trans this ?_
    split
    · simp <;> omega
    · split <;> simp <;> omega

/-- a record whose fragment is not the whole strand is added to a set that does not contain the
whole strand (the `if dna in set` quirk never fires). -/
theorem mem_addFragments_new (dna : List Char) : ∀ (infos : List RepairInfo)
    (set : List (List Char)) (info : RepairInfo), dna ∉ set →
    (∀ i ∈ infos, i.fragment ≠ dna) → info ∈ infos → info.fragment ∈ addFragments dna set infos
  | [], _, _, _, _, h => by cases h
  | i0 :: infos, set, info, hset, hne, hmem => by
    simp only [addFragments, List.foldl_cons]
    have hc : set.contains dna = false := by simpa using hset
    simp only [hc, Bool.false_eq_true, if_false]
    rcases List.mem_cons.mp hmem with rfl | hmem
    · apply subset_addFragments
      split
      · rename_i h; simpa using h
      · simp
    · apply mem_addFragments_new dna infos _ info ?_ (fun i hi => hne i (List.mem_cons_of_mem _ hi)) hmem
      split
      · exact hset
      · intro h
        rcases List.mem_append.mp h with h | h
        · exact hset h
        · simp at h; exact hne i0 List.mem_cons_self h.symm

/-- a property established by the step at one list element and preserved by all steps holds of
the result of a successful `foldlM`. -/
theorem foldlM_mem_inv {α β} (f : β → α → R β) (I Q : β → Prop) :
    ∀ (l : List α) (x : α) (b r : β), x ∈ l →
      (∀ acc y r, y ∈ l → I acc → f acc y = .ok r → I r) →
      (∀ acc y r, y ∈ l → I acc → Q acc → f acc y = .ok r → Q r) →
      (∀ acc r, I acc → f acc x = .ok r → Q r) →
      I b → l.foldlM f b = .ok r → Q r := by
  intro l
  induction l with
  | nil => intro x b r hx; cases hx
  | cons y ys ih =>
    intro x b r hx hI hQ hxQ hb h
    rw [List.foldlM_cons] at h
    obtain ⟨b', hb', h'⟩ := R.bind_ok _ _ _ h
    have hIb' := hI b y b' List.mem_cons_self hb hb'
    rcases List.mem_cons.mp hx with rfl | hx
    · have hQb' := hxQ b b' hb hb'
      have := foldlM_ok_inv f (fun acc => I acc ∧ Q acc) ys b' r
        (fun acc z r' hz hacc hr' =>
          ⟨hI acc z r' (List.mem_cons_of_mem _ hz) hacc.1 hr',
           hQ acc z r' (List.mem_cons_of_mem _ hz) hacc.1 hacc.2 hr'⟩) ⟨hIb', hQb'⟩ h'
      exact this.2
    · exact ih x b' r hx (fun acc z r' hz => hI acc z r' (List.mem_cons_of_mem _ hz))
        (fun acc z r' hz => hQ acc z r' (List.mem_cons_of_mem _ hz)) hxQ hIb' h'

theorem Coll.collect {a : Acc} {k : Nat} {hasIndel : Bool} {dna chunk : List Char} {marker : List Int}
    {F : List Char} (hk : 1 ≤ k) (h : Coll a k hasIndel dna chunk marker F) :
    ∃ r, collectFragments a k dna chunk marker hasIndel = .ok r ∧ F ∈ r.1 ∧
      r.1.length ≤ marker.length * 9 ∧ ∀ f ∈ r.1, IsAcgt f := by
  obtain ⟨hc, hlen, hdna, prev, idx, pm, info, hmem, hpm, hinfo, rfl⟩ := h
  obtain ⟨r, hr, hacgt⟩ := collectFragments_total a k dna chunk marker hasIndel hk hc (Or.inr hlen)
  refine ⟨r, hr, ?_, ?_, hacgt⟩
  · rw [collectFragments_eq] at hr
    refine foldlM_mem_inv (collectStep a k dna chunk hasIndel)
      (fun acc => ∀ f ∈ acc.1, f.length ≤ chunk.length + 1) (fun acc => info.fragment ∈ acc.1)
      _ (prev, idx) _ r (List.mem_zipIdx_iff_getElem?.mpr hmem) ?_ ?_ ?_ (by simp) hr
    · intro acc p r' _ hacc hr' f hf
      obtain ⟨pm', hpm', e⟩ := R.bind_ok _ _ _ hr'
      cases e
      rcases mem_addFragments dna _ _ f hf with hf | ⟨i, hi, rfl⟩
      · exact hacc f hf
      · exact (pathMatching_records hpm').2 i hi
    · intro acc p r' _ _ hq hr'
      obtain ⟨pm', hpm', e⟩ := R.bind_ok _ _ _ hr'
      cases e
      exact subset_addFragments dna _ _ _ hq
    · intro acc r' hacc hr'
      obtain ⟨pm', hpm', e⟩ := R.bind_ok _ _ _ hr'
      cases e
      simp only at hpm'
      rw [hpm] at hpm'
      cases hpm'
      refine mem_addFragments_new dna _ _ info ?_ ?_ hinfo
      · intro h; have := hacc dna h; omega
      · intro i hi e
        have := (pathMatching_records hpm).2 i hi
        rw [e] at this; omega
  · rw [collectFragments_eq] at hr
    have := foldlM_count_le (collectStep a k dna chunk hasIndel) (·.1.length) 9 _ _ _
      (fun acc x r' _ hr' => by
        obtain ⟨pm', hpm', e⟩ := R.bind_ok _ _ _ hr'
        cases e
        have h1 := (pathMatching_records hpm').1
        have h2 := addFragments_length_le dna pm'.1 acc.1
        simp only; omega) hr
    simpa using this

theorem vtMatches_of_check (w : List Char) (chk : Option (List Char))
    (hc : chk = none ∨ ∃ m c, 1 ≤ m ∧ setVt w m = .ok c ∧ chk = some c) :
    vtMatches w chk = .ok true := by
  rcases hc with rfl | ⟨m, c, hm, hset, rfl⟩
  · rfl
  · have hl := setVt_length hm hset
    simp only [vtMatches, hl, hset, Except.map]
    simp

theorem repairTail_cases {dna : List Char} {chk : Option (List Char)} {heap : Nat} {st : Scan}
    {fv : List (List (List Char)) × Nat} {res : List (List Char) × RepairStats}
    (h : repairTail dna chk heap st fv = .ok res) :
    (res.2.detected = 0 ∧ (fragCount fv.1 = 0 ∨ fragCount fv.1 > heap)) ∨
    (res.2.detected = st.detected ∧ ∀ frs ∈ product fv.1,
      vtMatches (candOf st.splits.reverse frs) chk = .ok true → candOf st.splits.reverse frs ∈ res.1) := by
  unfold repairTail at h
  split at h
  · rename_i hc
    obtain ⟨okc, -, h⟩ := R.bind_ok _ _ _ h
    refine Or.inl ⟨?_, hc⟩
    cases okc <;> simp [pure, Except.pure] at h <;> subst h <;> rfl
  · obtain ⟨checked, hc, h⟩ := R.bind_ok _ _ _ h
    simp only [pure, Except.pure, Except.ok.injEq] at h
    subst h
    refine Or.inr ⟨rfl, fun frs hfrs hv => ?_⟩
    obtain ⟨y, hy, e⟩ := mapM_ok_of_mem_input _ _ _ hc (candOf st.splits.reverse frs)
      (List.mem_map.mpr ⟨frs, hfrs, rfl⟩)
    rw [hv] at e
    simp only [Except.map, Except.ok.injEq] at e
    subst e
    simp only
    rw [mem_isort, List.mem_eraseDups]
    exact List.mem_map.mpr ⟨_, List.mem_filter.mpr ⟨hy, rfl⟩, rfl⟩

theorem fragFold_single (a : Acc) (k : Nat) (dna : List Char) (hasIndel : Bool) (st : Scan)
    (chunk : List Char) (marker : List Int) (hc : st.chunks = [chunk]) (hm : st.markers = [marker])
    (r : List (List Char) × Nat) (hr : collectFragments a k dna chunk marker hasIndel = .ok r) :
    fragFold a k dna hasIndel st = .ok ([r.1], st.visited + r.2) := by
  rw [fragFold_eq, hc, hm]
  simp [fragStep, hr, Except.bind, pure, Except.pure, bind]

/-- the single-edit theorem in decomposition form: the original strand is `P ++ mid ++ S`, the
corrupted one `P ++ y :: S`; that the repair returns is `C10_total`. -/
theorem single_core (k : Nat) (s : Mask) (v : Nat) (P mid S : List Char) (y : Char)
    (chk : Option (List Char)) (heap : Nat) (indel : Bool) (hk : 1 ≤ k) (hs : s.size = 4 ^ k)
    (hv : s.getD v false = true)
    (hw : isWalk (inducedAccessor k s) (v : Int) (P ++ mid ++ S) = true)
    (hkind : MidKind indel y mid) (hy : (nucIdx y).isSome = true) (hP : k ≤ P.length)
    (hS : 2 * k - 1 ≤ S.length) (hchk : vtMatches (P ++ mid ++ S) chk = .ok true)
    (hheap : 9 * k ≤ heap)
    (hbad : isWalk (inducedAccessor k s) (v : Int) (P ++ y :: S) = false)
    (cands : List (List Char)) (st : RepairStats)
    (hres : repairDna (inducedAccessor k s) (P ++ y :: S) v k chk indel heap = .ok (cands, st)) :
    st.detected = 1 ∧ (P ++ mid ++ S) ∈ cands := by
  have hwin : Windowed k s (P ++ mid ++ S) := Windowed.of_walk hs hk hv hw
  obtain ⟨G1, G2, rfl, hG1⟩ := split_prefix S (k - 1) (by omega)
  replace hG1 : G1.length + 1 = k := by omega
  rw [List.length_append] at hS
  have hwP : isWalk (inducedAccessor k s) (v : Int) P = true :=
    isWalk_prefix _ _ _ _ (by rw [← List.append_assoc]; exact hw)
  -- the scan breaks within `k` symbols of the edit, or it would re-synchronise
  have hT : isWalk (inducedAccessor k s) (walkEnd (inducedAccessor k s) (v : Int) P) (y :: G1) = false := by
    apply Bool.eq_false_iff.mpr
    intro hT
    have hX : isWalk (inducedAccessor k s) (v : Int) (P ++ y :: G1) = true := by
      rw [isWalk_append, hwP, hT]; rfl
    obtain ⟨e, -, h3⟩ := resync hs hk hv P (y :: G1) G2 (by simpa using hG1) hX hwin.suffix
    rw [show P ++ y :: (G1 ++ G2) = (P ++ y :: G1) ++ G2 by simp, isWalk_append, hX, e, h3] at hbad
    cases hbad
  have hw' : isWalk (inducedAccessor k s) (v : Int) (P ++ (mid ++ (G1 ++ G2) ++ [])) = true := by
    rw [List.append_nil, ← List.append_assoc]; exact hw
  obtain ⟨st2, chunk, marker, Ga, F, V3, pre', c, n, u2, eW, edna, -, hsc, d1, d2, d3, -, hw2, d4, d5,
      d6, -, hmlen, hcoll⟩ :=
    detect_block k s hs hk indel (P ++ y :: (G1 ++ G2)) (Scan.init (P ++ y :: (G1 ++ G2)) v) [] P mid G1
      G2 [] [] y v [] [] (by simp) rfl rfl hv hw' rfl (by simp [Scan.init]) hP hkind hy hG1 (by omega)
      hT
  simp only [List.append_nil] at eW edna hw2
  rw [← List.append_assoc] at eW
  obtain ⟨t1, t2, t3, t4, t5⟩ := scan_tail (inducedAccessor k s) k _ 1 pre' V3 st2 [c] _ edna d2
    (by rw [d3]; exact hw2) d4
  rw [← hsc] at t1
  have hscan := scan_fuel _ k _ _ ((P ++ y :: (G1 ++ G2)).length + 1) _ _ t1 (by simp [Scan.init])
  rw [d5] at t4
  rw [d6] at t5
  obtain ⟨fr, hfr, hfmem, hflen, -⟩ := hcoll.collect hk
  rw [repairDna_of_scan hscan (fragFold_single _ k _ indel _ chunk marker t4 t5 fr hfr)] at hres
  have hcount : fragCount [fr.1] = fr.1.length := by simp [fragCount]
  have hcand : candOf (st2.run (inducedAccessor k s) V3).splits.reverse [F] =
      P ++ mid ++ (G1 ++ G2) := by
    rw [t3, eW]; simp [candOf]
  obtain ⟨-, hc⟩ | hm := repairTail_cases hres
  · have := List.length_pos_of_mem hfmem
    rw [hcount] at hc; omega
  refine ⟨hm.1.trans (by rw [t2, d1]; rfl), ?_⟩
  rw [← hcand]
  exact hm.2 [F] (by simp [product]; exact hfmem) (by rw [hcand]; exact hchk)

/-- one edit seen from the strands: the original has `mid` where the corrupted strand has the
symbol `y`; both continue with the clean stretch `G`. -/
structure Blk where
  mid : List Char
  y : Char
  G : List Char

/-- the original strand after the leading clean stretch. -/
def tailO : List Blk → List Char
  | [] => []
  | b :: bs => b.mid ++ b.G ++ tailO bs

/-- the corrupted strand after the leading clean stretch. -/
def tailC : List Blk → List Char
  | [] => []
  | b :: bs => b.y :: (b.G ++ tailC bs)

/-- spacing of the blocks behind a leading clean stretch of length `g`: at least `k` clean symbols
before every edit, `2k - 1` after it, and still `k` before the next edit when the first `2k - 1`
symbols after an edit are discounted. -/
def Chain (k : Nat) : Nat → List Blk → Prop
  | _, [] => True
  | g, b :: bs => k ≤ g ∧ MidKind true b.y b.mid ∧ (nucIdx b.y).isSome = true ∧
      ∃ g', g' + 2 * k = b.G.length + 1 ∧ Chain k g' bs

theorem Chain.mono {k g g' : Nat} {bs : List Blk} (h : Chain k g bs) (hg : g ≤ g') : Chain k g' bs := by
  cases bs with
  | nil => trivial
  | cons b bs => exact ⟨Nat.le_trans h.1 hg, h.2⟩

/-- a block in front of a chain that starts after a stretch of length `n`: the block's edit sits at
position `p` of that stretch and `B` is what is left of the stretch behind the edit. -/
theorem Chain.cons {k p n : Nat} {mid : List Char} {y : Char} {B : List Char} {bs : List Blk}
    (hp : k ≤ p) (hkind : MidKind true y mid) (hy : (nucIdx y).isSome = true)
    (hB : n ≤ p + 2 + B.length) (h1 : p + 2 * k + 1 ≤ n) (h2 : bs ≠ [] → p + 3 * k + 2 ≤ n)
    (h : Chain k n bs) : Chain k p (⟨mid, y, B⟩ :: bs) := by
  obtain ⟨g', hg'⟩ := Nat.exists_eq_add_of_le (show 2 * k ≤ B.length + 1 by omega)
  refine ⟨hp, hkind, hy, g', by show g' + 2 * k = B.length + 1; omega, ?_⟩
  cases bs with
  | nil => trivial
  | cons b bs =>
    have := h2 (by simp)
    exact ⟨by omega, h.2⟩

/-- one detection of the final scan state: the split that follows it, its chunk and look-back
window, and the fragment that restores the original. -/
structure Item where
  A : List Char
  chunk : List Char
  marker : List Int
  F : List Char

/-- the final scan state restores `W` behind the current split `cur`. -/
def Good (a : Acc) (k : Nat) (dna cur : List Char) (tl ch : List (List Char)) (mk : List (List Int))
    (st' : Scan) (W : List Char) (n : Nat) : Prop :=
  ∃ (A0 : List Char) (items : List Item),
    st'.splits = (items.map (·.A)).reverse ++ (cur ++ A0) :: tl ∧
    st'.chunks = (items.map (·.chunk)).reverse ++ ch ∧
    st'.markers = (items.map (·.marker)).reverse ++ mk ∧
    W = A0 ++ (items.map fun it => it.F ++ it.A).flatten ∧
    (∀ it ∈ items, Coll a k true dna it.chunk it.marker it.F) ∧ items.length = n

/-- the scan from a synchronised state through the remaining edits: at most one detection per
edit, and when every edit is detected the final state restores the original. -/
theorem multi_scan (k : Nat) (s : Mask) (hs : s.size = 4 ^ k) (hk : 1 ≤ k) (dna : List Char)
    (fuel : Nat) : ∀ (bs : List Blk) (G0 pre : List Char) (u : Nat) (st st' : Scan) (cur : List Char)
      (tl : List (List Char)),
    dna = pre ++ G0 ++ tailC bs → st.loc = pre.length → st.v = (u : Int) →
    s.getD u false = true → isWalk (inducedAccessor k s) (u : Int) (G0 ++ tailO bs) = true →
    st.splits = cur :: tl → st.queue.length = dna.length → Chain k G0.length bs →
    scan (inducedAccessor k s) k dna fuel st = some st' →
    st'.detected ≤ st.detected + bs.length ∧
      (st'.detected = st.detected + bs.length →
        Good (inducedAccessor k s) k dna cur tl st.chunks st.markers st' (G0 ++ tailO bs) bs.length)
  | [], G0, pre, u, st, st', cur, tl, hdna, hloc, hv, hu, hw, hsp, hq, hch, hscan => by
    simp only [tailC, tailO, List.append_nil] at hdna hw ⊢
    obtain ⟨t1, t2, t3, t4, t5⟩ := scan_tail _ k dna fuel pre G0 st cur tl hdna hloc
      (by rw [hv]; exact hw) hsp
    rw [scan_mono _ k dna fuel st st' hscan G0.length] at t1
    cases t1
    exact ⟨by rw [t2]; simp, fun _ => ⟨G0, [], by simp [t3], by simp [t4], by simp [t5], by simp,
      fun it hit => (by cases hit), rfl⟩⟩
  | ⟨mid, y, G⟩ :: bs, G0, pre, u, st, st', cur, tl, hdna, hloc, hv, hu, hw, hsp, hq, hch, hscan => by
    obtain ⟨hkG, hkind, hy, g', hGlen, hch'⟩ := hch
    simp only [tailC, tailO] at hdna hw hkind hy hGlen ⊢
    obtain ⟨G1, G2, rfl, hG1⟩ := split_prefix G (k - 1) (by omega)
    replace hG1 : G1.length + 1 = k := by omega
    rw [List.length_append] at hGlen
    by_cases hT : isWalk (inducedAccessor k s) (walkEnd (inducedAccessor k s) (u : Int) G0)
        (y :: G1) = true
    · -- the edit is not detected: the scan re-synchronises `k` symbols later
      have hwin : Windowed k s (G0 ++ (mid ++ (G1 ++ G2) ++ tailO bs)) := Windowed.of_walk hs hk hu hw
      have hwinS : Windowed k s (G1 ++ (G2 ++ tailO bs)) := by
        rw [List.append_assoc mid, ← List.append_assoc G0, List.append_assoc G1] at hwin
        exact hwin.suffix
      have hX : isWalk (inducedAccessor k s) (u : Int) (G0 ++ y :: G1) = true := by
        rw [isWalk_append, isWalk_prefix _ _ _ _ hw, hT]; rfl
      obtain ⟨e1, hret1, hw1⟩ := resync hs hk hu G0 (y :: G1) (G2 ++ tailO bs) (by simpa using hG1)
        hX hwinS
      have h := scan_mono _ k dna fuel st st' hscan (G0 ++ y :: G1).length
      rw [scan_walk _ k dna fuel _ st (by rw [hv]; exact hX)
        ⟨G2 ++ tailC bs, by rw [hloc, hdna]; simp⟩] at h
      obtain ⟨g1, g2, g3, g4, g5, -, g7⟩ := Scan.run_fields (inducedAccessor k s) (G0 ++ y :: G1) st
      have g8 := Scan.run_splits (inducedAccessor k s) (G0 ++ y :: G1) st (by rw [hsp]; simp)
      have ih := multi_scan k s hs hk dna fuel bs G2 (pre ++ G0 ++ y :: G1) _ _ st' _ _
        (by rw [hdna]; simp) (by rw [g1, hloc]; simp) (by rw [g2, hv, e1]) hret1 hw1 g8
        (by rw [g7, hq]) (hch'.mono (by omega)) h
      rw [g3] at ih
      exact ⟨by simp; omega, fun h' => by simp at h'; omega⟩
    · -- the edit is detected
      obtain ⟨st2, chunk, marker, Ga, F, V3, pre', c, n, u2, eW, edna, hV3, hsc, d1, d2, d3, hret2, hw2,
          d4, d5, d6, d7, -, hcoll⟩ :=
        detect_block k s hs hk true dna st pre G0 mid G1 G2 (tailC bs) (tailO bs) y u cur tl hdna hloc
          hv hu hw hsp hq hkG hkind hy hG1 (by omega) (by simpa using hT)
      have h := scan_mono _ k dna fuel st st' hscan n
      rw [hsc fuel] at h
      have ih := multi_scan k s hs hk dna fuel bs V3 pre' u2 st2 st' _ _ edna d2 d3 hret2 hw2 d4 d7
        (hch'.mono (by omega)) h
      rw [d1, d5, d6] at ih
      refine ⟨by simp; omega, fun h' => ?_⟩
      obtain ⟨A0', items', i1, i2, i3, i4, i5, i6⟩ := ih.2 (by simp at h'; omega)
      refine ⟨Ga, ⟨c :: A0', chunk, marker, F⟩ :: items', by rw [i1]; simp, by rw [i2]; simp,
        by rw [i3]; simp, by rw [eW, i4]; simp, ?_, by simp [i6]⟩
      intro it hit
      rcases List.mem_cons.mp hit with rfl | hit
      · exact hcoll
      · exact i5 it hit

theorem fragFold_items (a : Acc) (k : Nat) (dna : List Char) (hk : 1 ≤ k) :
    ∀ (items : List Item) (acc fv : List (List (List Char)) × Nat),
      (items.map fun it => (it.chunk, it.marker)).foldlM (fragStep a k dna true) acc = .ok fv →
      (∀ it ∈ items, Coll a k true dna it.chunk it.marker it.F) →
      ∃ sets, fv.1 = acc.1 ++ sets ∧ sets.length = items.length ∧
        items.map (·.F) ∈ product sets
  | [], acc, fv, h, _ => by
    simp only [List.map_nil, List.foldlM_nil, pure, Except.pure, Except.ok.injEq] at h
    subst h
    exact ⟨[], by simp, rfl, by simp [product]⟩
  | it :: items, acc, fv, h, hc => by
    rw [List.map_cons, List.foldlM_cons] at h
    obtain ⟨acc1, h1, h⟩ := R.bind_ok _ _ _ h
    obtain ⟨r, hr, e⟩ := R.bind_ok _ _ _ h1
    simp only [Except.ok.injEq] at e
    subst e
    obtain ⟨r', hr', hF, -⟩ := (hc it List.mem_cons_self).collect hk
    rw [hr] at hr'
    cases hr'
    obtain ⟨sets, e1, e2, e3⟩ := fragFold_items a k dna hk items _ fv h
      (fun it' h' => hc it' (List.mem_cons_of_mem _ h'))
    refine ⟨r.1 :: sets, by rw [e1]; simp, by simp [e2], ?_⟩
    simp only [List.map_cons, product, List.mem_flatMap, List.mem_map]
    exact ⟨it.F, hF, _, e3, rfl⟩

theorem candOf_items : ∀ (items : List Item) (s0 acc : List Char),
    ((s0 :: items.map (·.A)).zip (items.map (·.F))).foldl
        (fun s (p : List Char × List Char) => s ++ p.1 ++ p.2) acc ++
      (s0 :: items.map (·.A)).getLastD [] =
    acc ++ s0 ++ (items.map fun it => it.F ++ it.A).flatten
  | [], s0, acc => by simp
  | it :: items, s0, acc => by
    simp only [List.map_cons, List.zip_cons_cons, List.foldl_cons, List.flatten_cons]
    have := candOf_items items it.A (acc ++ s0 ++ it.F)
    rw [List.getLastD_cons] at this ⊢
    rw [List.getLastD_cons]
    rw [this]; simp

/-- the multi-edit theorem in block form. -/
theorem multi_core (k : Nat) (s : Mask) (v : Nat) (G0 : List Char) (bs : List Blk)
    (chk : Option (List Char)) (heap : Nat) (hk : 1 ≤ k) (hs : s.size = 4 ^ k)
    (hv : s.getD v false = true)
    (hw : isWalk (inducedAccessor k s) (v : Int) (G0 ++ tailO bs) = true)
    (hch : Chain k G0.length bs) (hchk : vtMatches (G0 ++ tailO bs) chk = .ok true)
    (hheap : 1 ≤ heap) (cands : List (List Char)) (stats : RepairStats)
    (hres : repairDna (inducedAccessor k s) (G0 ++ tailC bs) v k chk true heap = .ok (cands, stats))
    (hdet : stats.detected = bs.length) : (G0 ++ tailO bs) ∈ cands := by
  obtain ⟨st', fv, hscan, hfold, htail⟩ := repairDna_ok_inv hres
  obtain ⟨hle, hgood⟩ := multi_scan k s hs hk (G0 ++ tailC bs) _ bs G0 [] v
    (Scan.init (G0 ++ tailC bs) v) st' [] [] (by simp) rfl rfl hv hw rfl (by simp [Scan.init]) hch hscan
  have hd0 : (Scan.init (G0 ++ tailC bs) (v : Int)).detected = 0 := rfl
  rw [hd0, Nat.zero_add] at hle hgood
  have hcases := repairTail_cases htail
  have hst' : st'.detected = bs.length := by
    rcases hcases with ⟨h0, -⟩ | ⟨h1, -⟩
    · simp only at h0; omega
    · simp only at h1; omega
  obtain ⟨A0, items, i1, i2, i3, i4, i5, i6⟩ := hgood hst'
  simp only [Scan.init, List.append_nil, List.nil_append] at i1 i2 i3
  rw [fragFold_eq, i2, i3, List.reverse_reverse, List.reverse_reverse, List.zip_map'] at hfold
  obtain ⟨sets, e1, e2, e3⟩ := fragFold_items _ k _ hk items _ fv hfold i5
  simp only [List.nil_append] at e1
  rcases hcases with ⟨h0, hc⟩ | ⟨-, hmem⟩
  · exfalso
    simp only at h0
    have : sets = [] := List.eq_nil_of_length_eq_zero (by omega)
    rw [e1, this] at hc
    simp [fragCount] at hc
    omega
  · have hcand : candOf st'.splits.reverse (items.map (·.F)) = G0 ++ tailO bs := by
      rw [i1, List.reverse_append, List.reverse_reverse]
      simp only [List.reverse_cons, List.reverse_nil, List.nil_append, List.singleton_append]
      unfold candOf
      rw [candOf_items items A0 [], i4]; simp
    have := hmem (items.map (·.F)) (by rw [e1]; exact e3) (by rw [hcand]; exact hchk)
    rw [hcand] at this; exact this

end Dsw.RepairEdit
