import DswModel.Model.Operation
import DswModel.Lemmas.Decimal
import DswModel.Lemmas.Basic
/-!
Bit / number / DNA conversions (C16). Bits and nucleotides are digits in base 2 and 4: the
development is over a base `base ≥ 2` (`valB` folds digits to a number, `digitsNat` of the model
goes back), and the two alphabets are instances.
-/
namespace Dsw

/-- value of a most-significant-first digit list in base `base`, continuing from `n0`. -/
def valB (base : Nat) (m : List Nat) (n0 : Nat) : Nat := m.foldl (fun n d => n * base + d) n0

theorem valB_cons (base d : Nat) (m : List Nat) (n0 : Nat) :
    valB base (d :: m) n0 = valB base m (n0 * base + d) := rfl

theorem valB_replicate_zero (base z : Nat) (ds : List Nat) :
    valB base (List.replicate z 0 ++ ds) 0 = valB base ds 0 := by
  induction z with
  | zero => rfl
  | succ z ih => rwa [List.replicate_succ, List.cons_append, valB_cons, Nat.zero_mul]

theorem valB_succ_le (base : Nat) (m : List Nat) (hm : ∀ d ∈ m, d < base) (n0 : Nat) :
    valB base m n0 + 1 ≤ base ^ m.length * (n0 + 1) := by
  induction m generalizing n0 with
  | nil => simp [valB]
  | cons d m ih =>
    have hd := hm d (by simp)
    have h := ih (fun q hq => hm q (by simp [hq])) (n0 * base + d)
    simp only [valB, List.foldl_cons, List.length_cons] at h ⊢
    refine Nat.le_trans h ?_
    rw [Nat.pow_succ, Nat.mul_assoc]
    apply Nat.mul_le_mul_left
    rw [Nat.mul_add, Nat.mul_comm base n0]
    omega

theorem valB_lt (base : Nat) (m : List Nat) (hm : ∀ d ∈ m, d < base) :
    valB base m 0 < base ^ m.length := by
  have := valB_succ_le base m hm 0
  omega

theorem digitsNat_zero (base : Nat) (acc : List Nat) : digitsNat base 0 acc = acc := by
  rw [digitsNat, dif_pos (Or.inl rfl)]

theorem digitsNat_pos (base n : Nat) (acc : List Nat) (hn : n ≠ 0) (hb : 2 ≤ base) :
    digitsNat base n acc = digitsNat base (n / base) (n % base :: acc) := by
  rw [digitsNat, dif_neg (not_or.2 ⟨hn, Nat.not_lt.2 hb⟩)]

theorem valB_digitsNat (base : Nat) (hb : 2 ≤ base) (n : Nat) (acc : List Nat) :
    valB base (digitsNat base n acc) 0 = valB base acc n := by
  fun_induction digitsNat base n acc with
  | case1 n acc h =>
    obtain rfl : n = 0 := h.resolve_right (Nat.not_lt.2 hb)
    rfl
  | case2 n acc h ih => rw [ih, valB_cons, Nat.div_add_mod']

theorem digitsNat_lt (base : Nat) (hb : 2 ≤ base) (n : Nat) (acc : List Nat)
    (hacc : ∀ d ∈ acc, d < base) : ∀ d ∈ digitsNat base n acc, d < base := by
  fun_induction digitsNat base n acc with
  | case1 n acc h => exact hacc
  | case2 n acc h ih =>
    exact ih (List.forall_mem_cons.2 ⟨Nat.mod_lt _ (Nat.lt_of_lt_of_le Nat.zero_lt_two hb), hacc⟩)

theorem digitsNat_length_le (base n : Nat) (acc : List Nat) (L : Nat) (h : n < base ^ L) :
    (digitsNat base n acc).length ≤ L + acc.length := by
  fun_induction digitsNat base n acc generalizing L with
  | case1 n acc h => exact Nat.le_add_left _ _
  | case2 n acc hn ih =>
    cases L with
    | zero => exact absurd (Or.inl (Nat.lt_one_iff.1 h)) hn
    | succ L =>
      rw [Nat.pow_succ, Nat.mul_comm] at h
      have := ih L (Nat.div_lt_of_lt_mul h)
      rwa [List.length_cons, ← Nat.add_assoc, Nat.add_right_comm] at this

theorem digitsNat_pad_spec (base : Nat) (hb : 2 ≤ base) (n L : Nat) (h : n < base ^ L) :
    ∃ p, p = List.replicate (L - (digitsNat base n []).length) 0 ++ digitsNat base n [] ∧
      p.length = L ∧ (∀ d ∈ p, d < base) ∧ valB base p 0 = n := by
  refine ⟨_, rfl, ?_, ?_, ?_⟩
  · rw [List.length_append, List.length_replicate,
      Nat.sub_add_cancel (show _ ≤ L from digitsNat_length_le base n [] L h)]
  · intro d hd
    rcases List.mem_append.1 hd with hd | hd
    · rw [(List.mem_replicate.1 hd).2]
      exact Nat.lt_of_lt_of_le Nat.zero_lt_two hb
    · exact digitsNat_lt base hb n [] (fun _ hx => nomatch hx) d hd
  · rw [valB_replicate_zero, valB_digitsNat base hb]
    rfl

theorem digitsNat_valB_pos (base : Nat) (hb : 2 ≤ base) (m : List Nat) (hm : ∀ d ∈ m, d < base)
    (n0 : Nat) (h0 : n0 ≠ 0) : digitsNat base (valB base m n0) [] = digitsNat base n0 m := by
  induction m generalizing n0 with
  | nil => rfl
  | cons d m ih =>
    obtain ⟨hd, hm⟩ := List.forall_mem_cons.1 hm
    have hpos : 0 < base := Nat.lt_of_lt_of_le Nat.zero_lt_two hb
    have hne : n0 * base + d ≠ 0 := fun h =>
      Nat.mul_ne_zero h0 (Nat.ne_of_gt hpos) (Nat.eq_zero_of_add_eq_zero_right h)
    obtain ⟨hq, hr⟩ := (Nat.div_mod_unique (a := n0 * base + d) hpos).2
      ⟨by rw [Nat.mul_comm, Nat.add_comm], hd⟩
    rw [valB_cons, ih hm _ hne, digitsNat_pos base _ _ hne hb, hq, hr]

/-- the digits of the value of a digit list are the list without its leading zeros. -/
theorem digitsNat_valB (base : Nat) (hb : 2 ≤ base) (m : List Nat) (hm : ∀ d ∈ m, d < base) :
    ∃ z, List.replicate z 0 ++ digitsNat base (valB base m 0) [] = m := by
  induction m with
  | nil => exact ⟨0, digitsNat_zero base []⟩
  | cons d m ih =>
    obtain ⟨hd, hm⟩ := List.forall_mem_cons.1 hm
    rw [valB_cons, Nat.zero_mul, Nat.zero_add]
    by_cases h0 : d = 0
    · obtain ⟨z, hz⟩ := ih hm
      exact ⟨z + 1, by rw [h0, List.replicate_succ, List.cons_append, hz]⟩
    · refine ⟨0, ?_⟩
      rw [digitsNat_valB_pos base hb m hm d h0, digitsNat_pos base d _ h0 hb, Nat.div_eq_of_lt hd,
        Nat.mod_eq_of_lt hd, digitsNat_zero]
      rfl

theorem digitsNat_valB_pad (base : Nat) (hb : 2 ≤ base) (m : List Nat) (hm : ∀ d ∈ m, d < base) :
    (digitsNat base (valB base m 0) []).length ≤ m.length ∧
    List.replicate (m.length - (digitsNat base (valB base m 0) []).length) 0 ++
      digitsNat base (valB base m 0) [] = m := by
  obtain ⟨z, hz⟩ := digitsNat_valB base hb m hm
  generalize digitsNat base (valB base m 0) [] = one at hz ⊢
  subst hz
  rw [List.length_append, List.length_replicate, Nat.add_sub_cancel]
  exact ⟨Nat.le_add_left _ _, rfl⟩

theorem digitsStrLoop_zero (base f : Nat) (acc : List Nat) :
    digitsStrLoop base (f + 1) [0] acc = .ok (digitsNat base (Dec.toNat [0]) acc) := by
  rw [digitsStrLoop, if_pos rfl, show Dec.toNat [0] = 0 from rfl, digitsNat_zero]

/-- each division by `base ≥ 2` at least halves the number, so `f + 1` rounds are enough below
`2 ^ f`. -/
theorem digitsStrLoop_spec (base : Nat) (hb : 2 ≤ base) (hb' : base < 10) (f : Nat) (s : Dec)
    (acc : List Nat) (hs : s.Canonical) (h : s.toNat < 2 ^ f) :
    digitsStrLoop base (f + 1) s acc = .ok (digitsNat base s.toNat acc) := by
  induction f generalizing s acc with
  | zero =>
    obtain rfl := hs.eq_zero_of_toNat (Nat.lt_one_iff.1 h)
    exact digitsStrLoop_zero base 0 acc
  | succ f ih =>
    by_cases hz : s = [0]
    · subst hz
      exact digitsStrLoop_zero base (f + 1) acc
    · have hne : s.toNat ≠ 0 := fun h0 => hz (hs.eq_zero_of_toNat h0)
      obtain ⟨c1, c2, _, c4⟩ := calculusDivision_spec s base hs hb' (Nat.le_of_succ_le hb)
      have hlt : (calculusDivision s base).1.toNat < 2 ^ f := by
        rw [c2]
        apply Nat.div_lt_of_lt_mul
        rw [Nat.pow_succ, Nat.mul_comm] at h
        exact Nat.lt_of_lt_of_le h (Nat.mul_le_mul_right _ hb)
      rw [digitsStrLoop, if_neg hz]
      show digitsStrLoop base (f + 1) (calculusDivision s base).1 _ = _
      rw [ih _ _ c1 hlt, c2, c4, digitsNat_pos base s.toNat acc hne hb]

theorem toNat_lt_two_pow (s : Dec) (hs : ∀ d ∈ s, d < 10) : s.toNat < 2 ^ (4 * s.length) := by
  rw [Nat.pow_mul]
  exact Nat.lt_of_lt_of_le (Dec.toNat_lt s hs) (Nat.pow_le_pow_left (by decide) _)

theorem digitsStrLoop_fuel (base : Nat) (hb : 2 ≤ base) (hb' : base < 10) (s : Dec)
    (hs : s.Canonical) (acc : List Nat) :
    digitsStrLoop base (digitsFuel s) s acc = .ok (digitsNat base s.toNat acc) :=
  digitsStrLoop_spec base hb hb' (4 * s.length) s acc hs (toNat_lt_two_pow s hs.digits)

theorem strFold_spec (k : Nat) (hk : k < 10) (vs : List Nat) (hv : ∀ v ∈ vs, v < 10) (s0 : Dec)
    (hs0 : s0.Canonical) :
    (vs.foldl (fun n v => calculusAddition (calculusMultiplication n k) v) s0).Canonical ∧
    (vs.foldl (fun n v => calculusAddition (calculusMultiplication n k) v) s0).toNat =
      valB k vs s0.toNat := by
  induction vs generalizing s0 with
  | nil => exact ⟨hs0, rfl⟩
  | cons v vs ih =>
    obtain ⟨hv0, hv⟩ := List.forall_mem_cons.1 hv
    obtain ⟨m1, m2⟩ := calculusMultiplication_spec s0 k hs0 hk
    obtain ⟨a1, a2⟩ := calculusAddition_spec _ v m1 hv0
    rw [List.foldl_cons, valB_cons, ← m2, ← a2]
    exact ih hv _ a1

theorem bitToNumberStr_spec (m : List Nat) (hm : ∀ b ∈ m, b < 2) :
    (bitToNumberStr m).Canonical ∧ (bitToNumberStr m).toNat = bitToNumberInt m :=
  strFold_spec 2 (by decide) m (fun v hv => Nat.lt_trans (hm v hv) (by decide)) [0]
    Dec.canonical_zero

theorem fitBits_of_le (one : List Nat) (L : Nat) (h : one.length ≤ L) :
    fitBits one L = List.replicate (L - one.length) 0 ++ one := by
  unfold fitBits
  by_cases h1 : one.length = L
  · rw [if_pos h1, h1, Nat.sub_self]
    rfl
  · rw [if_neg h1, if_pos (Nat.lt_of_le_of_ne h h1)]

theorem fitBits_length (one : List Nat) (L : Nat) : (fitBits one L).length = L := by
  by_cases h : one.length ≤ L
  · rw [fitBits_of_le one L h, List.length_append, List.length_replicate, Nat.sub_add_cancel h]
  · have h := Nat.lt_of_not_le h
    unfold fitBits
    rw [if_neg (Nat.ne_of_gt h), if_neg (Nat.lt_asymm h), List.length_take,
      Nat.min_eq_left (Nat.le_of_lt h)]

theorem numberToBitInt_bitToNumberInt (m : List Nat) (hm : ∀ b ∈ m, b < 2) :
    numberToBitInt (bitToNumberInt m) m.length = m := by
  obtain ⟨hl, hp⟩ := digitsNat_valB_pad 2 (by decide) m hm
  exact (fitBits_of_le _ _ hl).trans hp

theorem numberToBitStr_eq (s : Dec) (hs : s.Canonical) (L : Nat) :
    numberToBitStr s L = .ok (numberToBitInt s.toNat L) := by
  unfold numberToBitStr numberToBitInt
  rw [digitsStrLoop_fuel 2 (by decide) (by decide) s hs []]
  rfl

theorem numberToBitInt_spec (n L : Nat) (h : n < 2 ^ L) :
    (numberToBitInt n L).length = L ∧ (∀ b ∈ numberToBitInt n L, b < 2) ∧
    bitToNumberInt (numberToBitInt n L) = n ∧
    (∃ z, numberToBitInt n L = List.replicate z 0 ++ digitsNat 2 n []) := by
  obtain ⟨p, hp, h1, h2, h3⟩ := digitsNat_pad_spec 2 (by decide) n L h
  have he : numberToBitInt n L = p :=
    (fitBits_of_le _ _ (digitsNat_length_le 2 n [] L h)).trans hp.symm
  rw [he]
  exact ⟨h1, h2, h3, _, hp⟩

def nucVals (d : List Char) : List Nat := d.map fun c => (nucIdx c).getD 0

theorem nucVals_cons_of_some {c : Char} {j : Nat} (h : nucIdx c = some j) (d : List Char) :
    nucVals (c :: d) = j :: nucVals d := by
  rw [nucVals, List.map_cons, h]
  rfl

theorem nucVals_lt (d : List Char) : ∀ v ∈ nucVals d, v < 4 := by
  intro v hv
  obtain ⟨c, _, rfl⟩ := List.mem_map.1 hv
  exact nucIdx_getD_lt c

theorem nucVals_length (d : List Char) : (nucVals d).length = d.length := List.length_map _

theorem nucValues_ok (d : List Char) (hd : ∀ c ∈ d, (nucIdx c).isSome = true) :
    nucValues d = .ok (nucVals d) := by
  induction d with
  | nil => rfl
  | cons c d ih =>
    obtain ⟨hc, hd⟩ := List.forall_mem_cons.1 hd
    obtain ⟨j, hj⟩ := Option.isSome_iff_exists.1 hc
    rw [nucValues, hj, ih hd, nucVals_cons_of_some hj]
    rfl

theorem nucValues_error (d : List Char) (hd : ¬ ∀ c ∈ d, (nucIdx c).isSome = true) :
    nucValues d = .error .valueError := by
  induction d with
  | nil => exact absurd (fun _ hc => nomatch hc) hd
  | cons c d ih =>
    rw [nucValues]
    cases h : nucIdx c with
    | none => rfl
    | some j =>
      have hc : (nucIdx c).isSome = true := by rw [h]; rfl
      rw [ih fun hall => hd (List.forall_mem_cons.2 ⟨hc, hall⟩)]
      rfl

theorem map_nucChar_nucVals (d : List Char) (hd : ∀ c ∈ d, (nucIdx c).isSome = true) :
    (nucVals d).map nucChar = d := by
  induction d with
  | nil => rfl
  | cons c d ih =>
    obtain ⟨hc, hd⟩ := List.forall_mem_cons.1 hd
    rw [nucVals, List.map_cons, List.map_cons, nucChar_nucIdx_getD hc, ← nucVals, ih hd]

theorem nucVals_map_nucChar (ds : List Nat) (h : ∀ v ∈ ds, v < 4) :
    nucVals (ds.map nucChar) = ds := by
  induction ds with
  | nil => rfl
  | cons v ds ih =>
    obtain ⟨hv, h⟩ := List.forall_mem_cons.1 h
    rw [List.map_cons, nucVals, List.map_cons, ← nucVals, ih h, nucIdx_nucChar v hv]
    rfl

theorem padDna_eq (one : List Nat) (L : Nat) :
    padDna one L = (List.replicate (L - one.length) 0 ++ one).map nucChar := by
  rw [List.map_append, List.map_replicate]
  rfl

theorem nucVals_padDna (one : List Nat) (L : Nat) (h : ∀ v ∈ one, v < 4) :
    nucVals (padDna one L) = List.replicate (L - one.length) 0 ++ one := by
  rw [padDna_eq, nucVals_map_nucChar]
  intro v hv
  rcases List.mem_append.1 hv with hv | hv
  · rw [(List.mem_replicate.1 hv).2]; decide
  · exact h v hv

theorem padDna_isDna (one : List Nat) (L : Nat) :
    ∀ c ∈ padDna one L, (nucIdx c).isSome = true := by
  intro c hc
  rcases List.mem_append.1 hc with hc | hc
  · rw [(List.mem_replicate.1 hc).2]; decide
  · obtain ⟨j, _, rfl⟩ := List.mem_map.1 hc
    exact nucIdx_nucChar_isSome j

theorem dnaToNumberStr_ok (d : List Char) (hd : ∀ c ∈ d, (nucIdx c).isSome = true) :
    dnaToNumberStr d =
      .ok ((nucVals d).foldl (fun n v => calculusAddition (calculusMultiplication n 4) v) [0]) := by
  unfold dnaToNumberStr
  rw [nucValues_ok d hd]
  rfl

theorem dnaToNumberInt_ok (d : List Char) (hd : ∀ c ∈ d, (nucIdx c).isSome = true) :
    dnaToNumberInt d = .ok (valB 4 (nucVals d) 0) := by
  unfold dnaToNumberInt
  rw [nucValues_ok d hd]
  rfl

theorem dnaStr_spec (d : List Char) :
    ((nucVals d).foldl (fun n v => calculusAddition (calculusMultiplication n 4) v) [0]).Canonical ∧
    ((nucVals d).foldl (fun n v => calculusAddition (calculusMultiplication n 4) v) [0]).toNat =
      valB 4 (nucVals d) 0 :=
  strFold_spec 4 (by decide) (nucVals d)
    (fun v hv => Nat.lt_trans (nucVals_lt d v hv) (by decide)) [0] Dec.canonical_zero

theorem numberToDnaStr_eq (s : Dec) (hs : s.Canonical) (L : Nat) :
    numberToDnaStr s L = .ok (numberToDnaInt s.toNat L) := by
  unfold numberToDnaStr numberToDnaInt
  rw [digitsStrLoop_fuel 4 (by decide) (by decide) s hs []]
  rfl

theorem numberToDnaInt_valB (d : List Char) (hd : ∀ c ∈ d, (nucIdx c).isSome = true) :
    numberToDnaInt (valB 4 (nucVals d) 0) d.length = d := by
  obtain ⟨_, hp⟩ := digitsNat_valB_pad 4 (by decide) (nucVals d) (nucVals_lt d)
  rw [numberToDnaInt, padDna_eq, ← nucVals_length d, hp, map_nucChar_nucVals d hd]

theorem numberToDnaInt_spec (n L : Nat) (h : n < 4 ^ L) :
    (numberToDnaInt n L).length = L ∧ (∀ c ∈ numberToDnaInt n L, (nucIdx c).isSome = true) ∧
    dnaToNumberInt (numberToDnaInt n L) = .ok n ∧
    (∃ z, numberToDnaInt n L = List.replicate z 'A' ++ (digitsNat 4 n []).map nucChar) := by
  obtain ⟨p, hp, h1, h2, h3⟩ := digitsNat_pad_spec 4 (by decide) n L h
  have he : numberToDnaInt n L = p.map nucChar := by
    rw [hp]
    exact padDna_eq _ L
  refine ⟨?_, padDna_isDna _ L, ?_, _, rfl⟩
  · rw [he, List.length_map, h1]
  · rw [dnaToNumberInt_ok (numberToDnaInt n L) (padDna_isDna _ L), he, nucVals_map_nucChar p h2,
      h3]

end Dsw
