import Mathlib.Data.Fintype.Pigeonhole
import Mathlib.Data.Fintype.Card
import DswModel.Lemmas.Walk
import DswModel.Lemmas.Vt
import DswModel.Props.C15
import DswModel.Props.C16
/-! Normal (arbitrary-precision) mode of encode/decode, for any table: the encoder loop on natural
numbers as an instance of `encodeLoop`, `decode` characterised on every string, and uniqueness of
the tight walk of a value. It stands on the decimal-string theorems (C15, C16) on purpose: the code does
this arithmetic on strings.

No proof here uses the two Mathlib modules imported above; they stay because with Mathlib in the import closure `^` on
`ℕ` elaborates through `Monoid.npow`, so dropping them would change the statements downstream that mention `4 ^ k`. -/
namespace Dsw

/-- mixed-radix value of a walk with the decoder's digit (`arcDigit`); no hypothesis on the table
is needed for the round trip in this form. -/
def walkValueD (a : Acc) (tbl : Option Tbl) : Int → List Char → Nat
  | _, [] => 0
  | v, c :: s =>
    let j := (nucIdx c).getD 0
    let rest := walkValueD a tbl (a.ent v j) s
    if a.outDeg v > 1 then arcDigit a tbl v j + a.outDeg v * rest else rest

/-- the digit normal mode writes at out-degree `r` and the number left; at `r = 1` that is the
digit 0 and the number itself. -/
def natTake (r q : Nat) : Option (Nat × Nat) := if r = 0 then none else some (q % r, q / r)

/-- the normal-mode encoder loop on natural numbers. -/
def encodeNat (a : Acc) (tbl : Option Tbl) : Nat → Int → Nat → R (List Char) :=
  encodeLoop (· == 0) natTake a tbl

/-- every non-empty suffix of the walk has non-zero `walkValueD`. -/
def TightD (a : Acc) (tbl : Option Tbl) (v : Int) (s : List Char) : Prop :=
  ∀ i, i < s.length → walkValueD a tbl (walkEnd a v (s.take i)) (s.drop i) ≠ 0

theorem natTake_some {r q d q' : Nat} (h : natTake r q = some (d, q')) :
    0 < r ∧ d = q % r ∧ q' = q / r := by
  unfold natTake at h
  by_cases hr : r = 0
  · rw [if_pos hr] at h; cases h
  · rw [if_neg hr] at h
    cases h
    exact ⟨Nat.pos_of_ne_zero hr, rfl, rfl⟩

theorem encodeNat_step (a : Acc) (tbl : Option Tbl) (f : Nat) {v : Int} {q : Nat} (hq : q ≠ 0)
    (hr : 0 < a.outDeg v) :
    encodeNat a tbl (f + 1) v q =
      (encodeNat a tbl f (a.ent v (selectArc a tbl v (q % a.outDeg v))) (q / a.outDeg v)).map
        (nucChar (selectArc a tbl v (q % a.outDeg v)) :: ·) :=
  encodeLoop_step (done := (· == 0)) (take := natTake) f v (beq_false_of_ne hq)
    (if_neg (Nat.ne_of_gt hr))

theorem encodeNat_dead (a : Acc) (tbl : Option Tbl) (f : Nat) {v : Int} {q : Nat} (hq : q ≠ 0)
    (hr : a.outDeg v = 0) : encodeNat a tbl (f + 1) v q = .error .valueError :=
  encodeLoop_dead (done := (· == 0)) (take := natTake) f v (beq_false_of_ne hq) (if_pos hr)

theorem encodeNormalLoop_eq_encodeNat (a : Acc) (tbl : Option Tbl) (f : Nat) (v : Int) (q : Dec)
    (hq : q.Canonical) : encodeNormalLoop a tbl f v q = encodeNat a tbl f v q.toNat := by
  induction f generalizing v q with
  | zero => rfl
  | succ f ih =>
    rw [encodeNormalLoop]
    by_cases h0 : q = [0]
    · subst h0
      rfl
    · have hd : q.toNat ≠ 0 := fun h => h0 (hq.eq_zero_of_toNat h)
      have h4 := live_length_le a v
      rw [if_neg h0]
      by_cases h1 : (a.live v).length > 1
      · obtain ⟨c1, v1, _, v2⟩ := C15_div q (a.live v).length hq (by omega) (by omega)
        rw [encodeNat_step a tbl f hd (Nat.lt_trans Nat.zero_lt_one h1)]
        simp only [if_pos h1]
        rw [ih _ _ c1, v1, v2]
        rfl
      · by_cases h2 : (a.live v).length = 1
        · -- one arc: the digit is `q % 1 = 0`, which selects that arc, and `q / 1 = q` is left
          rw [encodeNat_step a tbl f hd (Nat.le_of_eq h2.symm), Acc.outDeg, h2, Nat.mod_one,
            Nat.div_one, selectArc_forced a tbl h2]
          simp only [if_neg h1, if_pos h2]
          rw [ih _ _ hq]
        · rw [encodeNat_dead a tbl f hd (by unfold Acc.outDeg; omega)]
          simp only [if_neg h1, if_neg h2]

theorem cn_hornerStr_nil : hornerStr [] = [0] := rfl

theorem walkValueD_cons_branch {a : Acc} {tbl : Option Tbl} {v : Int} {c : Char} {s : List Char}
    (h : a.outDeg v > 1) : walkValueD a tbl v (c :: s) =
      arcDigit a tbl v ((nucIdx c).getD 0) +
        a.outDeg v * walkValueD a tbl (a.ent v ((nucIdx c).getD 0)) s := by
  rw [walkValueD, if_pos h]

theorem walkValueD_cons_forced {a : Acc} {tbl : Option Tbl} {v : Int} {c : Char} {s : List Char}
    (h : ¬ a.outDeg v > 1) : walkValueD a tbl v (c :: s) =
      walkValueD a tbl (a.ent v ((nucIdx c).getD 0)) s := by
  rw [walkValueD, if_neg h]

/-- along a live arc the step reads the same at every out-degree: the only arc of a vertex has
digit 0 and radix 1. -/
theorem walkValueD_cons_live {a : Acc} (tbl : Option Tbl) {v : Int} {j : Nat} (hj : j ∈ a.live v)
    (s : List Char) : walkValueD a tbl v (nucChar j :: s) =
      arcDigit a tbl v j + a.outDeg v * walkValueD a tbl (a.ent v j) s := by
  by_cases h : a.outDeg v > 1
  · rw [walkValueD_cons_branch h, nucIdx_nucChar_getD (live_lt_four a v hj)]
  · have h1 : a.outDeg v = 1 := by have := outDeg_pos hj; omega
    rw [walkValueD_cons_forced h, nucIdx_nucChar_getD (live_lt_four a v hj),
      arcDigit_forced a tbl h1 hj, h1, Nat.zero_add, Nat.one_mul]

theorem tightD_cons_iff (a : Acc) (tbl : Option Tbl) (v : Int) (c : Char) (s : List Char) :
    TightD a tbl v (c :: s) ↔
      walkValueD a tbl v (c :: s) ≠ 0 ∧ TightD a tbl (a.ent v ((nucIdx c).getD 0)) s := by
  have hstep : ∀ i, walkValueD a tbl (walkEnd a v ((c :: s).take (i + 1))) ((c :: s).drop (i + 1)) =
      walkValueD a tbl (walkEnd a (a.ent v ((nucIdx c).getD 0)) (s.take i)) (s.drop i) := fun _ => rfl
  constructor
  · intro h
    exact ⟨h 0 (Nat.succ_pos _), fun i hi => hstep i ▸ h (i + 1) (Nat.succ_lt_succ hi)⟩
  · rintro ⟨h0, ht⟩ i hi
    cases i with
    | zero => exact h0
    | succ i => exact (hstep i).symm ▸ ht i (Nat.lt_of_succ_lt_succ hi)

theorem decodeWalk_cons_live (a : Acc) (tbl : Option Tbl) {v : Int} {j : Nat} (hj : j ∈ a.live v)
    (s : List Char) : decodeWalk a tbl v (nucChar j :: s) =
      if a.outDeg v > 1 then
        (decodeWalk a tbl (a.ent v j) s).map ((a.outDeg v, arcDigit a tbl v j) :: ·)
      else decodeWalk a tbl (a.ent v j) s := by
  have hc := nucIdx_nucChar_getD (live_lt_four a v hj)
  unfold Acc.outDeg arcDigit
  rw [decodeWalk]
  simp only [livePos_of_live hj, hc]
  by_cases h1 : (a.live v).length > 1
  · rw [if_pos h1, if_pos h1]
  · have h1' : (a.live v).length = 1 := by have := outDeg_pos hj; unfold Acc.outDeg at this; omega
    rw [if_neg h1, if_neg h1, if_pos h1', ← forced_unique h1' hj, if_pos rfl]

theorem decodeWalk_cons_none (a : Acc) (tbl : Option Tbl) {v : Int} {c : Char} (s : List Char)
    (h : a.next v c = none) : decodeWalk a tbl v (c :: s) = .error .valueError := by
  rw [decodeWalk]
  simp only [livePos_of_next_none h]
  by_cases h1 : (a.live v).length > 1
  · rw [if_pos h1]
  · rw [if_neg h1]
    by_cases h1' : (a.live v).length = 1
    · have hne : c ≠ nucChar ((a.live v).getD 0 0) := by
        intro he
        have hj := forced_mem (Nat.le_of_eq h1'.symm)
        rw [he, next_of_live (nucIdx_nucChar _ (live_lt_four a v hj)) hj] at h
        cases h
      rw [if_pos h1', if_neg hne]
    · rw [if_neg h1']

theorem decodeWalk_walk (a : Acc) (tbl : Option Tbl) (s : List Char) (v : Int)
    (hw : isWalk a v s = true) : ∃ saved, decodeWalk a tbl v s = .ok saved ∧
      (hornerStr saved).Canonical ∧ (hornerStr saved).toNat = walkValueD a tbl v s := by
  refine isWalk_induction (motive := fun v s => ∃ saved, decodeWalk a tbl v s = .ok saved ∧
      (hornerStr saved).Canonical ∧ (hornerStr saved).toNat = walkValueD a tbl v s)
    (fun v => ⟨[], rfl, Dec.canonical_zero, rfl⟩) ?_ s v hw
  intro v j s hj _ ⟨saved, hs, hcan, hval⟩
  rw [decodeWalk_cons_live a tbl hj, hs]
  by_cases h1 : a.outDeg v > 1
  · have h4 := outDeg_le_four a v
    have hd := arcDigit_lt a tbl v hj
    obtain ⟨m1, m2⟩ := C15_mul (hornerStr saved) (a.outDeg v) hcan (by omega)
    obtain ⟨a1, a2⟩ := C15_add _ (arcDigit a tbl v j) m1 (by omega)
    refine ⟨_, if_pos h1, ?_⟩
    rw [hornerStr_cons, walkValueD_cons_live tbl hj, a2, m2, hval, Nat.mul_comm, Nat.add_comm]
    exact ⟨a1, rfl⟩
  · have h1' : a.outDeg v = 1 := by have := outDeg_pos hj; omega
    refine ⟨saved, if_neg h1, hcan, ?_⟩
    rw [walkValueD_cons_live tbl hj, arcDigit_forced a tbl h1' hj, h1', Nat.zero_add, Nat.one_mul, hval]

theorem decodeWalk_not_walk (a : Acc) (tbl : Option Tbl) : ∀ (s : List Char) (v : Int),
    isWalk a v s = false → decodeWalk a tbl v s = .error .valueError := by
  intro s
  induction s with
  | nil => intro v h; cases h
  | cons c s ih =>
    intro v hw
    cases hn : a.next v c with
    | none => exact decodeWalk_cons_none a tbl s hn
    | some t =>
      obtain ⟨j, hc, hj, rfl⟩ := next_some hn
      rw [← nucChar_nucIdx hc] at hw ⊢
      rw [isWalk_cons_live hj] at hw
      rw [decodeWalk_cons_live a tbl hj, ih _ hw]
      split <;> rfl

theorem decode_check_fail (a : Acc) (tbl : Option Tbl) (v : Int) (s : List Char) (L : Nat)
    (fast : Bool) (chk : Option (List Char)) (hc : vtMatches s chk ≠ .ok true) :
    decode a tbl v s L fast chk = .error .valueError := by
  unfold decode
  rcases vtMatches_cases s chk with h | h | h
  · exact absurd h hc
  · rw [h]; rfl
  · rw [h]; rfl

theorem decode_normal_ok (a : Acc) (tbl : Option Tbl) (v : Int) (s : List Char) (L : Nat)
    (chk : Option (List Char)) (hw : isWalk a v s = true) (hc : vtMatches s chk = .ok true) :
    decode a tbl v s L false chk = .ok (numberToBitInt (walkValueD a tbl v s) L) := by
  obtain ⟨saved, hs, hcan, hval⟩ := decodeWalk_walk a tbl s v hw
  unfold decode
  rw [hc, ← hval, ← numberToBitStr_eq _ hcan]
  simp only [hs, bind, Except.bind, Bool.not_true, Bool.false_eq_true, if_false]

theorem decode_normal_err (a : Acc) (tbl : Option Tbl) (v : Int) (s : List Char) (L : Nat)
    (chk : Option (List Char)) (h : ¬ (isWalk a v s = true ∧ vtMatches s chk = .ok true)) :
    decode a tbl v s L false chk = .error .valueError := by
  by_cases hc : vtMatches s chk = .ok true
  · have hw : isWalk a v s = false := Bool.eq_false_iff.2 fun hw => h ⟨hw, hc⟩
    unfold decode
    rw [hc]
    simp only [decodeWalk_not_walk a tbl s v hw, bind, Except.bind, Bool.not_true,
      Bool.false_eq_true, if_false]
  · exact decode_check_fail a tbl v s L false chk hc

theorem encodeNat_spec (a : Acc) (tbl : Option Tbl) : ∀ (f : Nat) (v : Int) (q : Nat)
    (s : List Char), encodeNat a tbl f v q = .ok s →
      isWalk a v s = true ∧ walkValueD a tbl v s = q ∧ TightD a tbl v s := by
  refine encodeLoop_induction (motive := fun _ v q s =>
    isWalk a v s = true ∧ walkValueD a tbl v s = q ∧ TightD a tbl v s) ?_ ?_
  · intro _ v q hd
    exact ⟨rfl, (beq_iff_eq.1 hd).symm, fun _ hi => absurd hi (Nat.not_lt_zero _)⟩
  · intro _ v q d q' s hd ht _ ⟨w1, w2, w3⟩
    obtain ⟨hr, rfl, rfl⟩ := natTake_some ht
    have hlt := Nat.mod_lt q hr
    have hj := selectArc_mem a tbl v hlt
    have hval : walkValueD a tbl v (nucChar (selectArc a tbl v (q % a.outDeg v)) :: s) = q := by
      rw [walkValueD_cons_live tbl hj, arcDigit_selectArc a tbl v hlt, w2]
      exact Nat.mod_add_div q _
    refine ⟨(isWalk_cons_live hj s).trans w1, hval, (tightD_cons_iff a tbl v _ s).2 ⟨?_, ?_⟩⟩
    · rw [hval]
      exact fun h => Bool.false_ne_true (hd.symm.trans (beq_iff_eq.2 h))
    · rw [nucIdx_nucChar_getD (live_lt_four a v hj)]
      exact w3

theorem walkValueD_eq_walkValue (a : Acc) (tbl : Option Tbl) (hd : ∀ v, DistinctKeys a tbl v)
    (s : List Char) (v : Int) (hw : isWalk a v s = true) :
    walkValueD a tbl v s = walkValue a tbl v s := by
  refine isWalk_induction (motive := fun v s => walkValueD a tbl v s = walkValue a tbl v s)
    (fun _ => rfl) ?_ s v hw
  intro v j s hj _ ih
  rw [walkValueD, walkValue]
  simp only [nucIdx_nucChar_getD (live_lt_four a v hj), ih, arcDigit_eq_arcRank a tbl v hj (hd v)]

theorem isWalk_suffix (a : Acc) (s : List Char) (v : Int) (hw : isWalk a v s = true) :
    ∀ i, isWalk a (walkEnd a v (s.take i)) (s.drop i) = true := by
  refine isWalk_induction
    (motive := fun v s => ∀ i, isWalk a (walkEnd a v (s.take i)) (s.drop i) = true)
    (fun v i => by rw [List.take_nil, List.drop_nil]; rfl) ?_ s v hw
  intro v j s hj hw' ih i
  cases i with
  | zero => exact (isWalk_cons_live hj s).trans hw'
  | succ i =>
    rw [List.take_succ_cons, walkEnd_cons_live hj]
    exact ih i

theorem isEncoding_iff (a : Acc) (tbl : Option Tbl) (hd : ∀ v, DistinctKeys a tbl v) (v : Int)
    (val : Nat) (s : List Char) :
    IsEncoding a tbl v val s ↔
      (isWalk a v s = true ∧ walkValueD a tbl v s = val ∧ TightD a tbl v s) := by
  unfold IsEncoding TightD
  refine and_congr_right fun hw => ?_
  rw [walkValueD_eq_walkValue a tbl hd s v hw]
  refine and_congr_right fun _ => forall_congr' fun i => ?_
  rw [walkValueD_eq_walkValue a tbl hd _ _ (isWalk_suffix a s v hw i)]

theorem mixed_radix_unique {r d d' x x' : Nat} (hd : d < r) (hd' : d' < r)
    (h : d + r * x = d' + r * x') : d = d' ∧ x = x' := by
  have h1 := congrArg (· % r) h
  have h2 := congrArg (· / r) h
  simp only [Nat.add_mul_mod_self_left, Nat.mod_eq_of_lt hd, Nat.mod_eq_of_lt hd',
    Nat.add_mul_div_left _ _ (Nat.zero_lt_of_lt hd), Nat.div_eq_of_lt hd, Nat.div_eq_of_lt hd',
    Nat.zero_add] at h1 h2
  exact ⟨h1, h2⟩

theorem tight_unique (a : Acc) (tbl : Option Tbl) : ∀ (s : List Char) (v : Int) (s' : List Char),
    isWalk a v s = true → TightD a tbl v s → isWalk a v s' = true → TightD a tbl v s' →
    walkValueD a tbl v s = walkValueD a tbl v s' → s = s' := by
  intro s
  induction s with
  | nil =>
    intro v s' _ _ _ ht' hv
    cases s' with
    | nil => rfl
    | cons c' t' => exact absurd hv.symm ((tightD_cons_iff a tbl v c' t').1 ht').1
  | cons c t ih =>
    intro v s' hw ht hw' ht' hv
    obtain ⟨hne, htt⟩ := (tightD_cons_iff a tbl v c t).1 ht
    cases s' with
    | nil => exact absurd hv hne
    | cons c' t' =>
      obtain ⟨_, htt'⟩ := (tightD_cons_iff a tbl v c' t').1 ht'
      obtain ⟨j, hj, rfl, hwt⟩ := isWalk_cons hw
      obtain ⟨j', hj', rfl, hwt'⟩ := isWalk_cons hw'
      rw [nucIdx_nucChar_getD (live_lt_four a v hj)] at htt
      rw [nucIdx_nucChar_getD (live_lt_four a v hj')] at htt'
      rw [walkValueD_cons_live tbl hj, walkValueD_cons_live tbl hj'] at hv
      obtain ⟨e1, e2⟩ := mixed_radix_unique (arcDigit_lt a tbl v hj) (arcDigit_lt a tbl v hj') hv
      obtain rfl := arcDigit_inj a tbl v hj hj' e1
      rw [ih _ _ hwt htt hwt' htt' e2]

theorem encode_eq_bind (a : Acc) (tbl : Option Tbl) (v : Int) (bits : List Nat) (fast : Bool)
    (vtLen fuel : Nat) :
    encode a tbl v bits fast vtLen fuel =
      (if fast then encodeFastLoop a tbl fuel v bits
        else encodeNormalLoop a tbl fuel v (bitToNumberStr bits)).bind fun s =>
      if vtLen > 0 then (setVt s vtLen).bind fun c => .ok (s, some c) else .ok (s, none) := by
  cases fast <;> rfl

theorem encode_ok_inv {a : Acc} {tbl : Option Tbl} {v : Int} {bits : List Nat} {fast : Bool}
    {vtLen fuel : Nat} {s : List Char} {c : Option (List Char)}
    (h : encode a tbl v bits fast vtLen fuel = .ok (s, c)) :
    (if fast then encodeFastLoop a tbl fuel v bits
      else encodeNormalLoop a tbl fuel v (bitToNumberStr bits)) = .ok s ∧
    vtMatches s c = .ok true := by
  rw [encode_eq_bind] at h
  generalize (if fast then encodeFastLoop a tbl fuel v bits
      else encodeNormalLoop a tbl fuel v (bitToNumberStr bits)) = r at h ⊢
  cases r with
  | error e => cases h
  | ok s0 =>
    by_cases hv : vtLen > 0
    · simp only [Except.bind, if_pos hv] at h
      cases hc : setVt s0 vtLen with
      | error e => rw [hc] at h; cases h
      | ok c0 =>
        rw [hc] at h
        cases h
        exact ⟨rfl, vtMatches_setVt hv hc⟩
    · simp only [Except.bind, if_neg hv] at h
      cases h
      exact ⟨rfl, rfl⟩

theorem encode_ok_of_loop {a : Acc} {tbl : Option Tbl} {v : Int} {bits : List Nat} {fast : Bool}
    (vtLen : Nat) {fuel : Nat} {s : List Char}
    (h : (if fast then encodeFastLoop a tbl fuel v bits
      else encodeNormalLoop a tbl fuel v (bitToNumberStr bits)) = .ok s)
    (hw : isWalk a v s = true) : ∃ c, encode a tbl v bits fast vtLen fuel = .ok (s, c) := by
  rw [encode_eq_bind, h]
  by_cases hv : vtLen > 0
  · simp only [Except.bind, if_pos hv, setVt_ok vtLen (isAcgt_of_isWalk s v hw)]
    exact ⟨_, rfl⟩
  · simp only [Except.bind, if_neg hv]
    exact ⟨_, rfl⟩

theorem encode_normal_eq (a : Acc) (tbl : Option Tbl) (v : Int) (bits : List Nat) (vtLen fuel : Nat)
    (hb : IsBits bits) :
    encode a tbl v bits false vtLen fuel =
      (encodeNat a tbl fuel v (bitToNumberInt bits)).bind fun s =>
        if vtLen > 0 then (setVt s vtLen).bind fun c => .ok (s, some c) else .ok (s, none) := by
  obtain ⟨hc, hv⟩ := C16_bits_paths_agree bits hb
  rw [encode_eq_bind, if_neg Bool.false_ne_true, encodeNormalLoop_eq_encodeNat a tbl fuel v _ hc, hv]

theorem encode_normal_ok {a : Acc} {tbl : Option Tbl} {v : Int} {bits : List Nat} {vtLen fuel : Nat}
    {s : List Char} {c : Option (List Char)} (hb : IsBits bits)
    (h : encode a tbl v bits false vtLen fuel = .ok (s, c)) :
    encodeNat a tbl fuel v (bitToNumberInt bits) = .ok s ∧ vtMatches s c = .ok true := by
  obtain ⟨hc, hv⟩ := C16_bits_paths_agree bits hb
  obtain ⟨hs, hm⟩ := encode_ok_inv h
  rw [if_neg Bool.false_ne_true, encodeNormalLoop_eq_encodeNat a tbl fuel v _ hc, hv] at hs
  exact ⟨hs, hm⟩

theorem cn_reach_trans {a : Acc} {v u w : Int} (h : a.Reach v u) (h' : a.Reach u w) :
    a.Reach v w :=
  reach_trans h h'

/-- a branching step at least halves the value, so a value below `2 ^ L` takes at most `L` of them. -/
theorem encodeNat_total (a : Acc) (tbl : Option Tbl) (v : Int) (hg : a.GoodFrom v) :
    ∀ (L : Nat) (u : Int) (q : Nat), a.Reach v u → q < 2 ^ L →
      ∃ s, encodeNat a tbl (L * a.size + 1) u q = .ok s := by
  refine encodeLoop_total (P := fun L q => q < 2 ^ L) hg ?_ ?_
  · intro q hq
    exact beq_iff_eq.2 (Nat.lt_one_iff.1 hq)
  · intro L u q hu hq _
    have h1 : 1 ≤ a.outDeg u := (hg u hu).2.1
    refine ⟨q % a.outDeg u, q / a.outDeg u, if_neg (by omega), Nat.mod_lt _ h1, ?_, ?_⟩
    · intro h
      rw [h, Nat.mod_one, Nat.div_one]
      exact ⟨rfl, rfl⟩
    · intro hne
      apply Nat.div_lt_of_lt_mul
      have : 2 * 2 ^ L ≤ a.outDeg u * 2 ^ L := Nat.mul_le_mul_right _ (by omega)
      rw [Nat.pow_succ] at hq
      omega

theorem bitToNumberInt_lt (bits : List Nat) (hb : IsBits bits) :
    bitToNumberInt bits < 2 ^ bits.length :=
  valB_lt 2 bits hb

end Dsw
