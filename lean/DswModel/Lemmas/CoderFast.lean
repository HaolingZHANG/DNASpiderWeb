import DswModel.Lemmas.CoderNormal
/-! Fast mode of encode/decode: the encoder loop as an instance of `encodeLoop`, the bits a walk
carries with the decoder's digit (`walkBitsD`), the round trip, the decoder on an arbitrary string,
and totality. -/
namespace Dsw

/-- the digit fast mode writes at out-degree `r` and the bits left: two bits at 4 (the second is 0
when the message has run out, the padding of odd lengths), one at 2, none at 1. -/
def fastTake (r : Nat) : List Nat → Option (Nat × List Nat)
  | [] => none
  | b0 :: rest =>
    if r = 4 then some (b0 * 2 + rest.headD 0, rest.drop 1)
    else if r = 2 then some (b0, rest)
    else if r = 1 then some (0, b0 :: rest)
    else none

theorem fastTake_four (b0 : Nat) (rest : List Nat) :
    fastTake 4 (b0 :: rest) = some (b0 * 2 + rest.headD 0, rest.drop 1) := rfl

theorem fastTake_two (b0 : Nat) (rest : List Nat) : fastTake 2 (b0 :: rest) = some (b0, rest) := rfl

theorem fastTake_one (b0 : Nat) (rest : List Nat) :
    fastTake 1 (b0 :: rest) = some (0, b0 :: rest) := rfl

theorem encodeFastLoop_eq (a : Acc) (tbl : Option Tbl) (f : Nat) (v : Int) (bits : List Nat) :
    encodeFastLoop a tbl f v bits = encodeLoop List.isEmpty fastTake a tbl f v bits := by
  induction f generalizing v bits with
  | zero => rfl
  | succ f ih =>
    cases bits with
    | nil => rfl
    | cons b0 rest =>
      have hd : (b0 :: rest).isEmpty = false := rfl
      rw [encodeFastLoop]
      by_cases h4 : (a.live v).length = 4
      · rw [encodeLoop_step f v hd (h4 ▸ fastTake_four b0 rest : fastTake (a.outDeg v) _ = _)]
        simp only [if_pos h4, ih]
      · by_cases h2 : (a.live v).length = 2
        · rw [encodeLoop_step f v hd (h2 ▸ fastTake_two b0 rest : fastTake (a.outDeg v) _ = _)]
          simp only [if_neg h4, if_pos h2, ih]
        · by_cases h1 : (a.live v).length = 1
          · rw [encodeLoop_step f v hd (h1 ▸ fastTake_one b0 rest : fastTake (a.outDeg v) _ = _),
              selectArc_forced a tbl h1]
            simp only [if_neg h4, if_neg h2, if_pos h1, ih]
          · rw [encodeLoop_dead (done := List.isEmpty) (take := fastTake) (m := b0 :: rest) f v rfl
              ((if_neg h4).trans ((if_neg h2).trans (if_neg h1)))]
            simp only [if_neg h4, if_neg h2, if_neg h1]

theorem isBits_of_cons {b : Nat} {r : List Nat} (h : IsBits (b :: r)) : b < 2 ∧ IsBits r :=
  ⟨h b (by simp), fun x hx => h x (by simp [hx])⟩

theorem isBits_headD_lt {r : List Nat} (h : IsBits r) : r.headD 0 < 2 := by
  cases r with
  | nil => exact Nat.zero_lt_two
  | cons x r => exact h x (by simp)

theorem two_bits_div_mod (b0 : Nat) {b1 : Nat} (h1 : b1 < 2) :
    (b0 * 2 + b1) / 2 = b0 ∧ (b0 * 2 + b1) % 2 = b1 := by
  rw [Nat.add_comm, Nat.add_mul_div_right _ _ Nat.zero_lt_two, Nat.add_mul_mod_self_right,
    Nat.div_eq_of_lt h1, Nat.mod_eq_of_lt h1, Nat.zero_add]
  exact ⟨rfl, rfl⟩

theorem fastTake_cases {r b0 d : Nat} {rest bits' : List Nat} (hb : IsBits (b0 :: rest))
    (h : fastTake r (b0 :: rest) = some (d, bits')) :
    d < r ∧ IsBits bits' ∧
      ((r = 4 ∧ d = b0 * 2 + rest.headD 0 ∧ bits' = rest.drop 1) ∨
        (r = 2 ∧ d = b0 ∧ bits' = rest) ∨ (r = 1 ∧ d = 0 ∧ bits' = b0 :: rest)) := by
  obtain ⟨hb0, hrest⟩ := isBits_of_cons hb
  have hr0 := isBits_headD_lt hrest
  rw [fastTake] at h
  by_cases h4 : r = 4
  · rw [if_pos h4] at h
    cases h
    exact ⟨by omega, fun x hx => hrest x (List.mem_of_mem_drop hx), .inl ⟨h4, rfl, rfl⟩⟩
  · by_cases h2 : r = 2
    · rw [if_neg h4, if_pos h2] at h
      cases h
      exact ⟨by omega, hrest, .inr (.inl ⟨h2, rfl, rfl⟩)⟩
    · by_cases h1 : r = 1
      · rw [if_neg h4, if_neg h2, if_pos h1] at h
        cases h
        exact ⟨by omega, hb, .inr (.inr ⟨h1, rfl, rfl⟩)⟩
      · rw [if_neg h4, if_neg h2, if_neg h1] at h
        cases h

theorem encodeFastLoop_nil {a : Acc} {tbl : Option Tbl} {f : Nat} {v : Int} {s : List Char}
    (h : encodeFastLoop a tbl f v [] = .ok s) : s = [] := by
  cases f with
  | zero => cases h
  | succ f => cases h; rfl

theorem encodeFastLoop_induction {a : Acc} {tbl : Option Tbl}
    {motive : Nat → Int → List Nat → List Char → Prop} (nil : ∀ f v, motive (f + 1) v [] [])
    (cons : ∀ f v b0 rest d bits' s, fastTake (a.outDeg v) (b0 :: rest) = some (d, bits') →
      encodeFastLoop a tbl f (a.ent v (selectArc a tbl v d)) bits' = .ok s →
      motive f (a.ent v (selectArc a tbl v d)) bits' s →
      motive (f + 1) v (b0 :: rest) (nucChar (selectArc a tbl v d) :: s))
    (f : Nat) (v : Int) (bits : List Nat) (s : List Char)
    (h : encodeFastLoop a tbl f v bits = .ok s) : motive f v bits s := by
  rw [encodeFastLoop_eq] at h
  refine encodeLoop_induction (motive := motive) ?_ ?_ f v bits s h
  · intro f v m hd
    rw [List.isEmpty_iff.1 hd]
    exact nil f v
  · intro f v m d m' s hd ht hs ih
    cases m with
    | nil => cases hd
    | cons b0 rest => exact cons f v b0 rest d m' s ht ((encodeFastLoop_eq a tbl _ _ _).trans hs) ih

theorem decodeFastLoop_cons_live (a : Acc) (tbl : Option Tbl) (L : Nat) {v : Int} {j : Nat}
    (hj : j ∈ a.live v) (s : List Char) (ml : Nat) :
    decodeFastLoop a tbl L v (nucChar j :: s) ml =
      if a.outDeg v = 4 then
        if ml ≥ L then .error .indexError
        else (decodeFastLoop a tbl L (a.ent v j) s (ml + 2)).map
          ((if ml + 1 < L then [arcDigit a tbl v j / 2, arcDigit a tbl v j % 2]
            else [arcDigit a tbl v j / 2]) ++ ·)
      else if a.outDeg v = 2 then
        if ml ≥ L then .error .indexError
        else (decodeFastLoop a tbl L (a.ent v j) s (ml + 1)).map (arcDigit a tbl v j % 2 :: ·)
      else if a.outDeg v = 1 then decodeFastLoop a tbl L (a.ent v j) s ml
      else .error .valueError := by
  rw [decodeFastLoop]
  simp only [livePos_of_live hj, nucIdx_nucChar_getD (live_lt_four a v hj), arcDigit, Acc.outDeg]
  rfl

theorem decodeFastLoop_cons_live4 (a : Acc) (tbl : Option Tbl) {L : Nat} {v : Int} {j : Nat}
    (hj : j ∈ a.live v) (s : List Char) {ml : Nat} (h4 : a.outDeg v = 4) (hml : ml < L) :
    decodeFastLoop a tbl L v (nucChar j :: s) ml =
      (decodeFastLoop a tbl L (a.ent v j) s (ml + 2)).map
        ((if ml + 1 < L then [arcDigit a tbl v j / 2, arcDigit a tbl v j % 2]
          else [arcDigit a tbl v j / 2]) ++ ·) := by
  rw [decodeFastLoop_cons_live a tbl L hj, if_pos h4, if_neg (Nat.not_le.2 hml)]

theorem decodeFastLoop_cons_live2 (a : Acc) (tbl : Option Tbl) {L : Nat} {v : Int} {j : Nat}
    (hj : j ∈ a.live v) (s : List Char) {ml : Nat} (h2 : a.outDeg v = 2) (hml : ml < L) :
    decodeFastLoop a tbl L v (nucChar j :: s) ml =
      (decodeFastLoop a tbl L (a.ent v j) s (ml + 1)).map (arcDigit a tbl v j % 2 :: ·) := by
  rw [decodeFastLoop_cons_live a tbl L hj, if_neg (by rw [h2]; decide), if_pos h2, if_neg (Nat.not_le.2 hml)]

theorem decodeFastLoop_cons_live1 (a : Acc) (tbl : Option Tbl) (L : Nat) {v : Int} {j : Nat}
    (hj : j ∈ a.live v) (s : List Char) (ml : Nat) (h1 : a.outDeg v = 1) :
    decodeFastLoop a tbl L v (nucChar j :: s) ml = decodeFastLoop a tbl L (a.ent v j) s ml := by
  rw [decodeFastLoop_cons_live a tbl L hj, if_neg (by rw [h1]; decide), if_neg (by rw [h1]; decide), if_pos h1]

theorem decodeFastLoop_cons_none (a : Acc) (tbl : Option Tbl) (L : Nat) (v : Int) (c : Char) (s : List Char)
    (ml : Nat) (h : a.next v c = none) :
    decodeFastLoop a tbl L v (c :: s) ml = .error .valueError := by
  rw [decodeFastLoop]
  simp only [livePos_of_next_none h]

theorem encode_fast_ok {a : Acc} {tbl : Option Tbl} {v : Int} {bits : List Nat} {vtLen fuel : Nat}
    {s : List Char} {c : Option (List Char)}
    (h : encode a tbl v bits true vtLen fuel = .ok (s, c)) :
    encodeFastLoop a tbl fuel v bits = .ok s ∧ vtMatches s c = .ok true :=
  encode_ok_inv h

theorem decode_fast_eq {a : Acc} {tbl : Option Tbl} {v : Int} {s : List Char} {L : Nat}
    {chk : Option (List Char)} (hc : vtMatches s chk = .ok true) :
    decode a tbl v s L true chk =
      (decodeFastLoop a tbl L v s 0).map fun bits => bits ++ List.replicate (L - bits.length) 0 := by
  unfold decode
  simp only [hc, bind, Except.bind, pure, Except.pure, Bool.not_true, if_true]
  cases decodeFastLoop a tbl L v s 0 <;> rfl

/-- `walkBits` with the decoder's `arcDigit` in place of the documented `arcRank` (equal under
`DistinctKeys`, see `walkBitsD_eq_walkBits`). -/
def walkBitsD (a : Acc) (tbl : Option Tbl) : Int → List Char → List Nat
  | _, [] => []
  | v, c :: s =>
    let j := (nucIdx c).getD 0
    let d := arcDigit a tbl v j
    (if a.outDeg v = 4 then [d / 2, d % 2] else if a.outDeg v = 2 then [d] else []) ++
      walkBitsD a tbl (a.ent v j) s

theorem walkBitsD_cons4 (a : Acc) (tbl : Option Tbl) {v : Int} {j : Nat} (hj : j ∈ a.live v)
    (s : List Char) (h4 : a.outDeg v = 4) : walkBitsD a tbl v (nucChar j :: s) =
      arcDigit a tbl v j / 2 :: arcDigit a tbl v j % 2 :: walkBitsD a tbl (a.ent v j) s := by
  rw [walkBitsD, nucIdx_nucChar_getD (live_lt_four a v hj), if_pos h4]
  rfl

theorem walkBitsD_cons2 (a : Acc) (tbl : Option Tbl) {v : Int} {j : Nat} (hj : j ∈ a.live v)
    (s : List Char) (h2 : a.outDeg v = 2) : walkBitsD a tbl v (nucChar j :: s) =
      arcDigit a tbl v j :: walkBitsD a tbl (a.ent v j) s := by
  rw [walkBitsD, nucIdx_nucChar_getD (live_lt_four a v hj), if_neg (by rw [h2]; decide), if_pos h2]
  rfl

theorem walkBitsD_cons1 (a : Acc) (tbl : Option Tbl) {v : Int} {j : Nat} (hj : j ∈ a.live v)
    (s : List Char) (h1 : a.outDeg v = 1) :
    walkBitsD a tbl v (nucChar j :: s) = walkBitsD a tbl (a.ent v j) s := by
  rw [walkBitsD, nucIdx_nucChar_getD (live_lt_four a v hj), if_neg (by rw [h1]; decide),
    if_neg (by rw [h1]; decide)]
  rfl

theorem walkBitsD_length (a : Acc) (tbl : Option Tbl) (v : Int) (s : List Char) :
    (walkBitsD a tbl v s).length = (walkBits a tbl v s).length := by
  induction s generalizing v with
  | nil => rfl
  | cons c s ih =>
    rw [walkBitsD, walkBits, List.length_append, List.length_append, ih]
    by_cases h4 : a.outDeg v = 4
    · rw [if_pos h4, if_pos h4]
      rfl
    · by_cases h2 : a.outDeg v = 2
      · rw [if_neg h4, if_neg h4, if_pos h2, if_pos h2]
        rfl
      · rw [if_neg h4, if_neg h4, if_neg h2, if_neg h2]

theorem walkBitsD_eq_walkBits (a : Acc) (tbl : Option Tbl) (hd : ∀ v, DistinctKeys a tbl v) (v : Int)
    (s : List Char) (hw : isWalk a v s = true) : walkBitsD a tbl v s = walkBits a tbl v s := by
  refine isWalk_induction (motive := fun v s => walkBitsD a tbl v s = walkBits a tbl v s)
    (fun _ => rfl) ?_ s v hw
  intro v j s hj _ ih
  rw [walkBitsD, walkBits]
  simp only [nucIdx_nucChar_getD (live_lt_four a v hj), ih, arcDigit_eq_arcRank a tbl v hj (hd v)]

/-- longest prefix of `s` that is a walk from `v`. -/
def walkablePrefix (a : Acc) : Int → List Char → List Char
  | _, [] => []
  | v, c :: s => match a.next v c with
    | some t => c :: walkablePrefix a t s
    | none => []

theorem walkablePrefix_cons_live {a : Acc} {v : Int} {j : Nat} (hj : j ∈ a.live v) (s : List Char) :
    walkablePrefix a v (nucChar j :: s) = nucChar j :: walkablePrefix a (a.ent v j) s := by
  rw [walkablePrefix, next_of_live (nucIdx_nucChar j (live_lt_four a v hj)) hj]

theorem walkablePrefix_of_isWalk (a : Acc) (v : Int) (s : List Char) (hw : isWalk a v s = true) :
    walkablePrefix a v s = s := by
  refine isWalk_induction (motive := fun v s => walkablePrefix a v s = s) (fun _ => rfl) ?_ s v hw
  intro v j s hj _ ih
  rw [walkablePrefix_cons_live hj, ih]

theorem isWalk_walkablePrefix (a : Acc) (v : Int) (s : List Char) :
    isWalk a v (walkablePrefix a v s) = true := by
  induction s generalizing v with
  | nil => rfl
  | cons c s ih =>
    rw [walkablePrefix]
    cases hn : a.next v c with
    | none => rfl
    | some t =>
      simp only [isWalk, hn]
      exact ih t

theorem decodeFastLoop_spec (a : Acc) (tbl : Option Tbl) (L : Nat) :
    ∀ (s : List Char) (v : Int) (ml : Nat),
      (∀ i, i < (walkablePrefix a v s).length →
        a.outDeg (walkEnd a v ((walkablePrefix a v s).take i)) ≠ 3) →
      ml + (walkBitsD a tbl v (walkablePrefix a v s)).length ≤ L →
      decodeFastLoop a tbl L v s ml =
        if isWalk a v s = true then .ok (walkBitsD a tbl v s) else .error .valueError := by
  intro s
  induction s with
  | nil => intro v ml _ _; rfl
  | cons c s ih =>
    intro v ml h3 hL
    cases hn : a.next v c with
    | none =>
      rw [decodeFastLoop_cons_none a tbl L v c s ml hn, isWalk, hn]
      rfl
    | some t =>
      obtain ⟨j, hc, hj, rfl⟩ := next_some hn
      obtain rfl : nucChar j = c := nucChar_nucIdx hc
      rw [walkablePrefix_cons_live hj] at h3 hL
      obtain ⟨h30, h3'⟩ := (forall_walkEnd_take_cons hj _ (a.outDeg · ≠ 3)).1 h3
      rw [isWalk_cons_live hj]
      by_cases h4 : a.outDeg v = 4
      · rw [walkBitsD_cons4 a tbl hj _ h4] at hL ⊢
        have hL' : ml + 2 + (walkBitsD a tbl (a.ent v j) (walkablePrefix a (a.ent v j) s)).length ≤ L := by
          simp only [List.length_cons] at hL
          omega
        rw [decodeFastLoop_cons_live4 a tbl hj s h4 (by omega), if_pos (by omega), ih _ (ml + 2) h3' hL']
        split <;> rfl
      · by_cases h2 : a.outDeg v = 2
        · rw [walkBitsD_cons2 a tbl hj _ h2] at hL ⊢
          have hL' : ml + 1 + (walkBitsD a tbl (a.ent v j) (walkablePrefix a (a.ent v j) s)).length ≤ L := by
            rw [List.length_cons] at hL
            omega
          have hdl := arcDigit_lt a tbl v hj
          rw [decodeFastLoop_cons_live2 a tbl hj s h2 (by omega), ih _ (ml + 1) h3' hL',
            Nat.mod_eq_of_lt (h2 ▸ hdl)]
          split <;> rfl
        · have h1 : a.outDeg v = 1 := by
            have := outDeg_pos hj
            have := outDeg_le_four a v
            omega
          rw [walkBitsD_cons1 a tbl hj _ h1] at hL ⊢
          rw [decodeFastLoop_cons_live1 a tbl L hj s ml h1, ih _ ml h3' hL]

theorem encodeFastLoop_spec (a : Acc) (tbl : Option Tbl) (f : Nat) (v : Int) (bits : List Nat)
    (s : List Char) (hb : IsBits bits) (h : encodeFastLoop a tbl f v bits = .ok s) :
    isWalk a v s = true ∧
      (∀ i, i < s.length → a.outDeg (walkEnd a v (s.take i)) ≠ 3) ∧
      (walkBitsD a tbl v s = bits ∨ walkBitsD a tbl v s = bits ++ [0]) ∧
      ∀ L ml, ml + bits.length = L → decodeFastLoop a tbl L v s ml = .ok bits := by
  refine encodeFastLoop_induction (motive := fun _ v bits s => IsBits bits →
    isWalk a v s = true ∧ (∀ i, i < s.length → a.outDeg (walkEnd a v (s.take i)) ≠ 3) ∧
      (walkBitsD a tbl v s = bits ∨ walkBitsD a tbl v s = bits ++ [0]) ∧
      ∀ L ml, ml + bits.length = L → decodeFastLoop a tbl L v s ml = .ok bits) ?_ ?_ f v bits s h hb
  · intro _ v _
    exact ⟨rfl, fun i hi => absurd hi (Nat.not_lt_zero i), .inl rfl, fun _ _ _ => rfl⟩
  · intro _ v b0 rest d bits' s ht hs ih hb
    obtain ⟨hlt, hb', hcase⟩ := fastTake_cases hb ht
    obtain ⟨hb0, hrest⟩ := isBits_of_cons hb
    obtain ⟨hw, h3, hbits, hdec⟩ := ih hb'
    have hj := selectArc_mem a tbl v hlt
    have hd := arcDigit_selectArc a tbl v hlt
    refine ⟨(isWalk_cons_live hj s).trans hw,
      (forall_walkEnd_take_cons hj s (a.outDeg · ≠ 3)).2 ⟨?_, h3⟩, ?_⟩
    · rcases hcase with ⟨h, _⟩ | ⟨h, _⟩ | ⟨h, _⟩ <;> rw [h] <;> decide
    · rcases hcase with ⟨h4, hdv, hbv⟩ | ⟨h2, rfl, rfl⟩ | ⟨h1, rfl, rfl⟩
      · cases rest with
        | nil =>
          -- the message ends on its first bit: the second one is the padding, which the decoder
          -- does not write because `ml + 1 = L`
          obtain ⟨e1, e2⟩ := two_bits_div_mod b0 Nat.zero_lt_two
          rw [List.headD_nil] at hdv
          subst hdv hbv
          obtain rfl := encodeFastLoop_nil hs
          refine ⟨.inr ?_, fun L ml hl => ?_⟩
          · rw [walkBitsD_cons4 a tbl hj _ h4, hd, e1, e2]
            rfl
          · rw [List.length_cons, List.length_nil] at hl
            rw [decodeFastLoop_cons_live4 a tbl hj _ h4 (by omega), hd, if_neg (by omega), e1]
            rfl
        | cons b1 r =>
          obtain ⟨e1, e2⟩ := two_bits_div_mod b0 (hrest b1 (by simp))
          rw [List.headD_cons] at hdv
          rw [List.drop_one, List.tail_cons] at hbv
          subst hdv hbv
          refine ⟨?_, fun L ml hl => ?_⟩
          · rw [walkBitsD_cons4 a tbl hj _ h4, hd, e1, e2]
            rcases hbits with hbits | hbits <;> rw [hbits]
            · exact .inl rfl
            · exact .inr rfl
          · rw [List.length_cons, List.length_cons] at hl
            rw [decodeFastLoop_cons_live4 a tbl hj _ h4 (by omega), hd, hdec L (ml + 2) (by omega),
              if_pos (by omega), e1, e2]
            rfl
      · refine ⟨?_, fun L ml hl => ?_⟩
        · rw [walkBitsD_cons2 a tbl hj s h2, hd]
          rcases hbits with hbits | hbits <;> rw [hbits]
          · exact .inl rfl
          · exact .inr rfl
        · rw [List.length_cons] at hl
          rw [decodeFastLoop_cons_live2 a tbl hj s h2 (by omega), hd, hdec L (ml + 1) (by omega),
            Nat.mod_eq_of_lt hb0]
          rfl
      · refine ⟨?_, fun L ml hl => ?_⟩
        · rw [walkBitsD_cons1 a tbl hj s h1]
          exact hbits
        · rw [decodeFastLoop_cons_live1 a tbl L hj s ml h1]
          exact hdec L ml hl

/-- a branching step consumes one or two bits, so a message of at most `L` bits is used up after `L` of them. -/
theorem encodeFastLoop_total (a : Acc) (tbl : Option Tbl) (L : Nat) (bits : List Nat) (u : Int)
    (fuel : Nat) (hl : bits.length ≤ L) (hb : IsBits bits) (hg : a.GoodFrom u)
    (h3 : a.NoDeg3From u) (hf : L * a.size + 1 ≤ fuel) :
    ∃ s, encodeFastLoop a tbl fuel u bits = .ok s := by
  obtain ⟨s, hs⟩ := encodeLoop_total (done := List.isEmpty) (take := fastTake) (tbl := tbl)
    (P := fun L bits => bits.length ≤ L ∧ IsBits bits) hg
    (fun m hm => List.isEmpty_iff.2 (List.eq_nil_of_length_eq_zero (Nat.le_zero.1 hm.1)))
    (fun L w m hw hm hd => by
      obtain ⟨hl, hb⟩ := hm
      cases m with
      | nil => cases hd
      | cons b0 rest =>
        have hdeg : a.outDeg w = 4 ∨ a.outDeg w = 2 ∨ a.outDeg w = 1 := by
          have := (hg w hw).2.1
          have := h3 w hw
          have := outDeg_le_four a w
          omega
        obtain ⟨d, bits', ht⟩ : ∃ d bits', fastTake (a.outDeg w) (b0 :: rest) = some (d, bits') := by
          rcases hdeg with h | h | h <;> rw [h] <;> exact ⟨_, _, rfl⟩
        obtain ⟨hlt, hb', hcase⟩ := fastTake_cases hb ht
        rw [List.length_cons] at hl
        refine ⟨d, bits', ht, hlt, fun h1 => ?_, fun hne => ⟨?_, hb'⟩⟩
        · rcases hcase with ⟨h, _⟩ | ⟨h, _⟩ | ⟨_, hd0, hm⟩
          · exact absurd (h1.symm.trans h) (by decide)
          · exact absurd (h1.symm.trans h) (by decide)
          · exact ⟨hd0, hm⟩
        · rcases hcase with ⟨_, _, rfl⟩ | ⟨_, _, rfl⟩ | ⟨h, _⟩
          · rw [List.length_drop]
            omega
          · exact Nat.le_of_succ_le_succ hl
          · exact absurd h hne)
    L u bits (.refl u) ⟨hl, hb⟩
  rw [encodeFastLoop_eq]
  obtain ⟨k, rfl⟩ := Nat.exists_eq_add_of_le hf
  exact ⟨s, encodeLoop_mono _ _ _ _ hs k⟩

end Dsw
