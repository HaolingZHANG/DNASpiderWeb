import DswModel.Model.Spiderweb
import DswModel.Lemmas.Defs
import DswModel.Lemmas.DeBruijn
import DswModel.Lemmas.Trim
import DswModel.Lemmas.Convert3
import DswModel.Lemmas.CoderDefs
import DswModel.Lemmas.UselessSpec
/-! Helper lemmas for the threshold-1 phase of `connect_coding_graph` and for `remove_useless` (C03). -/
namespace Dsw.TrimOne
open Trim

theorem shift_mem (k u j : Nat) (hj : j < 4) : (u * 4 + j) % 4 ^ k ∈ obtainLatters k u :=
  (mem_obtainLatters k u _).2 ⟨j, hj, rfl⟩

/-- the column of a successor determines it. -/
theorem shift_inj {k u j j' : Nat} (hk : 1 ≤ k) (hj : j < 4) (hj' : j' < 4)
    (h : (u * 4 + j) % 4 ^ k = (u * 4 + j') % 4 ^ k) : j = j' := by
  have h1 := shift_column k u j hk hj
  have h2 := shift_column k u j' hk hj'
  rw [h] at h1; exact h1.symm.trans h2

theorem deg_pos_iff (a : Acc) (v : Nat) : 0 < a.deg v ↔ ∃ j, j < 4 ∧ 0 ≤ a.ent (v : Int) j := by
  unfold Acc.deg
  rw [List.length_pos_iff_exists_mem]
  constructor
  · rintro ⟨j, hj⟩; exact ⟨j, (Acc.mem_live _ _ _).1 hj⟩
  · rintro ⟨j, hj⟩; exact ⟨j, (Acc.mem_live _ _ _).2 hj⟩

theorem deg_eq_zero_iff (a : Acc) (v : Nat) :
    a.deg v = 0 ↔ ∀ j, j < 4 → a.ent (v : Int) j < 0 := by
  rw [← Nat.le_zero, ← Nat.not_lt, deg_pos_iff]
  constructor
  · intro h j hj; exact Int.not_le.1 fun he => h ⟨j, hj, he⟩
  · rintro h ⟨j, hj, he⟩; exact Int.not_le.2 (h j hj) he

/-- `b` has no arc that `a` does not have. -/
def ArcLe (b a : Acc) : Prop := ∀ x i : Nat, 0 ≤ b.ent (x : Int) i → 0 ≤ a.ent (x : Int) i

theorem ArcLe.deg_pos {a b : Acc} (h : ArcLe b a) {v : Nat} (hv : 0 < b.deg v) : 0 < a.deg v := by
  obtain ⟨j, hj, he⟩ := (deg_pos_iff b v).1 hv
  exact (deg_pos_iff a v).2 ⟨j, hj, h v j he⟩

theorem ArcLe.deg_zero {a b : Acc} (h : ArcLe b a) {v : Nat} (hv : a.deg v = 0) : b.deg v = 0 := by
  apply Classical.byContradiction
  intro hn
  have := h.deg_pos (v := v) (by omega); omega

theorem deg_congr {a b : Acc} {v : Nat} (h : ∀ i, b.ent (v : Int) i = a.ent (v : Int) i) :
    b.deg v = a.deg v := by
  unfold Acc.deg Acc.live
  simp only [h]

/-- number of vertices with an arc. -/
def liveCount (k : Nat) (a : Acc) : Nat :=
  ((List.range (4 ^ k)).filter fun v => decide (0 < a.deg v)).length

theorem liveCount_le (k : Nat) (a : Acc) : liveCount k a ≤ 4 ^ k := by
  unfold liveCount
  have := List.length_filter_le (fun v => decide (0 < a.deg v)) (List.range (4 ^ k))
  simpa using this

theorem ArcLe.liveCount_le {a b : Acc} (h : ArcLe b a) (k : Nat) : liveCount k b ≤ liveCount k a := by
  unfold liveCount
  apply filter_length_mono
  intro v hv
  simp only [decide_eq_true_eq] at hv ⊢
  exact h.deg_pos hv

theorem ArcLe.liveCount_lt {a b : Acc} (h : ArcLe b a) (k : Nat) {v : Nat} (hv : v < 4 ^ k)
    (ha : 0 < a.deg v) (hb : b.deg v = 0) : liveCount k b < liveCount k a := by
  unfold liveCount
  apply filter_length_lt _ _ _ _ v (List.mem_range.2 hv)
  · simpa using ha
  · simp [hb]
  · intro x hx
    simp only [decide_eq_true_eq] at hx ⊢
    exact h.deg_pos hx

theorem ent_clear {k : Nat} {a : Acc} (h : WFdB k a) {f c : Nat} (hf : f < 4 ^ k) (hc : c < 4)
    (x i : Nat) :
    (a.setEnt f c (-1)).ent (x : Int) i = if x = f ∧ i = c then -1 else a.ent (x : Int) i := by
  by_cases hx : x = f ∧ i = c
  · rw [if_pos hx]
    obtain ⟨rfl, rfl⟩ := hx
    apply Acc.ent_setEnt_self
    rw [(h.2 x hf).1]; exact hc
  · rw [if_neg hx]
    apply Acc.ent_setEnt_ne
    by_cases h1 : x = f
    · right; intro h2; exact hx ⟨h1, h2⟩
    · left; exact h1

theorem ent_clearRow {a : Acc} {u : Nat} (hu : u < a.size) (x i : Nat) :
    Acc.ent (a.setIfInBounds u (Array.replicate 4 (-1))) (x : Int) i =
      if x = u then -1 else a.ent (x : Int) i := by
  rw [Acc.ent_natCast, Acc.ent_natCast]
  by_cases hx : x = u
  · subst hx
    rw [if_pos rfl, getD_setIfInBounds_self _ _ _ _ hu]
    by_cases hi : i < 4
    · simp [Array.getD, hi]
    · simp [Array.getD, hi]
  · rw [if_neg hx, getD_setIfInBounds_ne _ _ _ _ _ (Ne.symm hx)]

theorem ent_clear_nonneg {k : Nat} {a : Acc} (h : WFdB k a) {f c : Nat} (hf : f < 4 ^ k) (hc : c < 4)
    (x i : Nat) :
    0 ≤ (a.setEnt f c (-1)).ent (x : Int) i ↔ ¬ (x = f ∧ i = c) ∧ 0 ≤ a.ent (x : Int) i := by
  rw [ent_clear h hf hc]
  by_cases hx : x = f ∧ i = c
  · rw [if_pos hx]; exact ⟨fun h => absurd h (by decide), fun h => absurd hx h.1⟩
  · rw [if_neg hx]; exact ⟨fun h => ⟨hx, h⟩, fun h => h.2⟩

theorem ent_clearRow_nonneg {a : Acc} {u : Nat} (hu : u < a.size) (x i : Nat) :
    0 ≤ Acc.ent (a.setIfInBounds u (Array.replicate 4 (-1))) (x : Int) i ↔
      x ≠ u ∧ 0 ≤ a.ent (x : Int) i := by
  rw [ent_clearRow hu]
  by_cases hx : x = u
  · rw [if_pos hx]; exact ⟨fun h => absurd h (by decide), fun h => absurd hx h.1⟩
  · rw [if_neg hx]; exact ⟨fun h => ⟨hx, h⟩, fun h => h.2⟩

/-- the invariant of the predecessor cascade, for a closed reference set `C` (which must survive)
and a bounding set `M`: `a` is a de Bruijn sub-table that contains every de Bruijn arc between two
of its vertices with arcs, every arc into a vertex without arcs is listed in `P`, every pair of `P`
points to a vertex without arcs, all arcs inside `C` are present, all vertices with arcs are in
`M`. -/
structure CInv (k : Nat) (C M : Mask) (a : Acc) (P : List (Nat × Nat)) : Prop where
  wf : WFdB k a
  ind : ∀ u j : Nat, u < 4 ^ k → j < 4 → 0 < a.deg u → 0 < a.deg ((u * 4 + j) % 4 ^ k) →
    0 ≤ a.ent (u : Int) j
  good : ∀ p ∈ P, p.2 < 4 ^ k ∧ a.deg p.2 = 0 ∧ p.1 ∈ obtainFormers k p.2
  pend : ∀ u j : Nat, u < 4 ^ k → j < 4 → 0 ≤ a.ent (u : Int) j → a.deg ((u * 4 + j) % 4 ^ k) = 0 →
    (u, (u * 4 + j) % 4 ^ k) ∈ P
  carcs : ∀ u j : Nat, u < 4 ^ k → j < 4 → C.getD u false = true →
    C.getD ((u * 4 + j) % 4 ^ k) false = true → 0 ≤ a.ent (u : Int) j
  sub : ∀ u : Nat, u < 4 ^ k → 0 < a.deg u → M.getD u false = true

theorem CInv.congr {k : Nat} {C M : Mask} {a : Acc} {P P' : List (Nat × Nat)}
    (h : CInv k C M a P) (hP : ∀ p, p ∈ P ↔ p ∈ P') : CInv k C M a P' :=
  ⟨h.wf, h.ind, fun p hp => h.good p ((hP p).2 hp),
    fun u j hu hj he hd => (hP _).1 (h.pend u j hu hj he hd), h.carcs, h.sub⟩

theorem closed_succ {k : Nat} {C : Mask} (hC : Closed k 1 C) {v : Nat}
    (hv : C.getD v false = true) :
    ∃ j, j < 4 ∧ C.getD ((v * 4 + j) % 4 ^ k) false = true := by
  have h := hC v hv
  unfold succIn at h
  obtain ⟨w, hw⟩ := List.exists_mem_of_length_pos (Nat.lt_of_lt_of_le Nat.zero_lt_one h)
  rw [List.mem_filter] at hw
  obtain ⟨j, hj, rfl⟩ := (mem_obtainLatters k v w).1 hw.1
  exact ⟨j, hj, hw.2⟩

theorem CInv.c_live {k : Nat} {C M : Mask} {a : Acc} {P : List (Nat × Nat)}
    (h : CInv k C M a P) (hC : Closed k 1 C) (hCs : C.size = 4 ^ k) {v : Nat}
    (hv : C.getD v false = true) : 0 < a.deg v := by
  obtain ⟨j, hj, hw⟩ := closed_succ hC hv
  have hvn : v < 4 ^ k := hCs ▸ Mask.lt_size_of_getD hv
  exact (deg_pos_iff a v).2 ⟨j, hj, h.carcs v j hvn hj hv hw⟩

/-- one step of the inner loop of `cascade`. -/
def cstep (k : Nat) (st : Acc × List (Nat × Nat)) (fl : Nat × Nat) : Acc × List (Nat × Nat) :=
  let previous := st.1.deg fl.1
  let a' := st.1.setEnt fl.1 (fl.2 % 4) (-1)
  let current := a'.deg fl.1
  (a', if previous > current ∧ current = 0 then
         st.2 ++ (obtainFormers k fl.1).map fun i => (i, fl.1) else st.2)

theorem cascade_succ (k f : Nat) (pairs : List (Nat × Nat)) (a : Acc) :
    cascade k (f + 1) pairs a =
      if pairs.isEmpty then a else
        cascade k f (pairs.foldl (cstep k) (a, [])).2 (pairs.foldl (cstep k) (a, [])).1 := rfl

theorem good_pair {k : Nat} (hk : 1 ≤ k) {f l : Nat} (hl : l < 4 ^ k) (hf : f ∈ obtainFormers k l) :
    f < 4 ^ k ∧ l % 4 < 4 ∧ (f * 4 + l % 4) % 4 ^ k = l := by
  have hfn := formers_lt hk hl f hf
  have := (former_iff_latter hk hfn hl).1 hf
  exact ⟨hfn, by omega, latter_column k f l this⟩

theorem cstep_inv {k : Nat} {C M : Mask} (hk : 1 ≤ k) (hC : Closed k 1 C) (hCs : C.size = 4 ^ k)
    {st : Acc × List (Nat × Nat)} {fl : Nat × Nat} {L : List (Nat × Nat)}
    (h : CInv k C M st.1 (fl :: (L ++ st.2))) :
    CInv k C M (cstep k st fl).1 (L ++ (cstep k st fl).2) ∧
    ArcLe (cstep k st fl).1 st.1 ∧
    ((cstep k st fl).2 = st.2 ∨ liveCount k (cstep k st fl).1 < liveCount k st.1) := by
  obtain ⟨a, new⟩ := st
  obtain ⟨f, l⟩ := fl
  dsimp only at h ⊢
  obtain ⟨hl, hdl, hfl⟩ := h.good (f, l) (by simp)
  simp only at hl hdl hfl
  obtain ⟨hf, hc, hsh⟩ := good_pair hk hl hfl
  have hpos : ∀ x i : Nat, 0 ≤ (a.setEnt f (l % 4) (-1)).ent (x : Int) i ↔
      ¬ (x = f ∧ i = l % 4) ∧ 0 ≤ a.ent (x : Int) i := ent_clear_nonneg h.wf hf hc
  have hle : ArcLe (a.setEnt f (l % 4) (-1)) a := fun x i hx => ((hpos x i).1 hx).2
  have hdeg : ∀ x, x ≠ f → (a.setEnt f (l % 4) (-1)).deg x = a.deg x := fun x hx =>
    deg_congr fun i => Acc.ent_setEnt_ne _ _ _ _ _ _ (Or.inl hx)
  have hwf : WFdB k (a.setEnt f (l % 4) (-1)) := wfdb_setEnt k _ _ _ _ h.wf (Or.inl rfl)
  -- the new pair list, up to membership
  have key : ∀ (E : List (Nat × Nat)),
      (∀ p ∈ E, p.2 < 4 ^ k ∧ (a.setEnt f (l % 4) (-1)).deg p.2 = 0 ∧ p.1 ∈ obtainFormers k p.2) →
      (∀ u, u < 4 ^ k → f ∈ obtainLatters k u → 0 < a.deg f → (a.setEnt f (l % 4) (-1)).deg f = 0 →
        (u, f) ∈ E) →
      CInv k C M (a.setEnt f (l % 4) (-1)) (L ++ (new ++ E)) := by
    intro E hE1 hE2
    refine ⟨hwf, ?_, ?_, ?_, ?_, ?_⟩
    · intro u j hu hj h1 h2
      refine (hpos u j).2 ⟨?_, h.ind u j hu hj (hle.deg_pos h1) (hle.deg_pos h2)⟩
      rintro ⟨rfl, rfl⟩
      rw [hsh] at h2
      exact Nat.ne_of_gt (hle.deg_pos h2) hdl
    · intro p hp
      rcases List.mem_append.1 hp with hp | hp
      · obtain ⟨h1, h2, h3⟩ := h.good p (by simp [hp])
        exact ⟨h1, hle.deg_zero h2, h3⟩
      · rcases List.mem_append.1 hp with hp | hp
        · obtain ⟨h1, h2, h3⟩ := h.good p (by simp [hp])
          exact ⟨h1, hle.deg_zero h2, h3⟩
        · exact hE1 p hp
    · intro u j hu hj he hd
      obtain ⟨hne, he⟩ := (hpos u j).1 he
      by_cases hda : a.deg ((u * 4 + j) % 4 ^ k) = 0
      · have := h.pend u j hu hj he hda
        rcases List.mem_cons.1 this with heq | hmem
        · exfalso
          simp only [Prod.mk.injEq] at heq
          obtain ⟨rfl, h2⟩ := heq
          apply hne
          refine ⟨rfl, ?_⟩
          have := shift_column k u j hk hj
          rw [h2] at this
          exact this.symm
        · rcases List.mem_append.1 hmem with hm | hm
          · exact List.mem_append.2 (Or.inl hm)
          · exact List.mem_append.2 (Or.inr (List.mem_append.2 (Or.inl hm)))
      · have hwf' : (u * 4 + j) % 4 ^ k = f :=
          Classical.byContradiction fun hx => hda (hdeg _ hx ▸ hd)
        rw [hwf'] at hd hda ⊢
        apply List.mem_append.2 (Or.inr (List.mem_append.2 (Or.inr ?_)))
        apply hE2 u hu _ (by omega) hd
        rw [← hwf']
        exact shift_mem k u j hj
    · intro u j hu hj h1 h2
      refine (hpos u j).2 ⟨?_, h.carcs u j hu hj h1 h2⟩
      rintro ⟨rfl, rfl⟩
      rw [hsh] at h2
      exact Nat.ne_of_gt (h.c_live hC hCs h2) hdl
    · intro u hu h1
      exact h.sub u hu (hle.deg_pos h1)
  unfold cstep
  simp only
  by_cases hcond : a.deg f > (a.setEnt f (l % 4) (-1)).deg f ∧ (a.setEnt f (l % 4) (-1)).deg f = 0
  · rw [if_pos hcond]
    refine ⟨?_, hle, Or.inr (hle.liveCount_lt k hf (by omega) hcond.2)⟩
    apply key
    · intro p hp
      rw [List.mem_map] at hp
      obtain ⟨i, hi, rfl⟩ := hp
      exact ⟨hf, hcond.2, hi⟩
    · intro u hu hfu _ _
      rw [List.mem_map]
      exact ⟨u, (former_iff_latter hk hu hf).2 hfu, rfl⟩
  · rw [if_neg hcond]
    refine ⟨?_, hle, Or.inl rfl⟩
    have := key [] (by intro p hp; cases hp) (by
      intro u _ _ h1 h2
      exact absurd ⟨by omega, h2⟩ hcond)
    simpa using this

theorem ArcLe.refl (a : Acc) : ArcLe a a := fun _ _ h => h
theorem ArcLe.trans {a b c : Acc} (h1 : ArcLe a b) (h2 : ArcLe b c) : ArcLe a c :=
  fun x i h => h2 x i (h1 x i h)

theorem cfold_inv {k : Nat} {C M : Mask} (hk : 1 ≤ k) (hC : Closed k 1 C) (hCs : C.size = 4 ^ k) :
    ∀ (pairs : List (Nat × Nat)) (st : Acc × List (Nat × Nat)),
      CInv k C M st.1 (pairs ++ st.2) →
      CInv k C M (pairs.foldl (cstep k) st).1 (pairs.foldl (cstep k) st).2 ∧
      ArcLe (pairs.foldl (cstep k) st).1 st.1 ∧
      ((pairs.foldl (cstep k) st).2 = st.2 ∨
        liveCount k (pairs.foldl (cstep k) st).1 < liveCount k st.1) := by
  intro pairs
  induction pairs with
  | nil => intro st h; exact ⟨h, ArcLe.refl _, Or.inl rfl⟩
  | cons fl rest ih =>
    intro st h
    obtain ⟨h1, h2, h3⟩ := cstep_inv hk hC hCs (fl := fl) (L := rest) h
    rw [List.foldl_cons]
    obtain ⟨i1, i2, i3⟩ := ih _ h1
    refine ⟨i1, i2.trans h2, ?_⟩
    have hmono := i2.liveCount_le k
    rcases i3 with i3 | i3
    · rcases h3 with h3 | h3
      · left; rw [i3, h3]
      · right; omega
    · right
      have := h2.liveCount_le k
      omega

theorem cascade_inv {k : Nat} {C M : Mask} (hk : 1 ≤ k) (hC : Closed k 1 C) (hCs : C.size = 4 ^ k) :
    ∀ (f : Nat) (pairs : List (Nat × Nat)) (a : Acc), CInv k C M a pairs →
      (pairs ≠ [] → liveCount k a < f) →
      CInv k C M (cascade k f pairs a) [] ∧ ArcLe (cascade k f pairs a) a := by
  intro f
  induction f with
  | zero =>
    intro pairs a h hf
    have : pairs = [] := by
      apply Classical.byContradiction
      intro hne; have := hf hne; omega
    subst this
    exact ⟨h, ArcLe.refl a⟩
  | succ f ih =>
    intro pairs a h hf
    rw [cascade_succ]
    cases pairs with
    | nil => exact ⟨h, ArcLe.refl a⟩
    | cons p ps =>
      simp only [List.isEmpty_cons, Bool.false_eq_true, if_false]
      have hlt := hf (by simp)
      obtain ⟨h1, h2, h3⟩ := cfold_inv hk hC hCs (p :: ps) (a, []) (by simpa using h)
      dsimp only at h2 h3
      obtain ⟨i1, i2⟩ := ih _ _ h1 (by
        intro hne
        rcases h3 with h3 | h3
        · exact absurd h3 hne
        · omega)
      exact ⟨i1, i2.trans h2⟩

theorem removeVertex_inv {k : Nat} {C M : Mask} (hk : 1 ≤ k) (hC : Closed k 1 C)
    (hCs : C.size = 4 ^ k) {a : Acc} {u : Nat} (h : CInv k C M a []) (hu : u < 4 ^ k)
    (hCu : ¬ C.getD u false = true) :
    CInv k C M (removeVertex k a u) [] ∧ ArcLe (removeVertex k a u) a ∧
      (removeVertex k a u).deg u = 0 := by
  have hus : u < a.size := by rw [h.wf.1]; exact hu
  have hpos : ∀ x i : Nat, 0 ≤ Acc.ent (a.setIfInBounds u (Array.replicate 4 (-1))) (x : Int) i ↔
      x ≠ u ∧ 0 ≤ a.ent (x : Int) i := ent_clearRow_nonneg hus
  have hle : ArcLe (a.setIfInBounds u (Array.replicate 4 (-1))) a := fun x i hx => ((hpos x i).1 hx).2
  have hdeg : ∀ x, x ≠ u → Acc.deg (a.setIfInBounds u (Array.replicate 4 (-1))) x = a.deg x := by
    intro x hx
    apply deg_congr
    intro i
    rw [ent_clearRow hus, if_neg hx]
  have hdu : Acc.deg (a.setIfInBounds u (Array.replicate 4 (-1))) u = 0 := by
    rw [deg_eq_zero_iff]
    intro j _
    rw [ent_clearRow hus, if_pos rfl]; decide
  have hwf : WFdB k (a.setIfInBounds u (Array.replicate 4 (-1))) :=
    wfdb_setIfInBounds_row k a u _ h.wf (rowOK_replicate k u)
  have h1 : CInv k C M (a.setIfInBounds u (Array.replicate 4 (-1)))
      ((obtainFormers k u).map fun i => (i, u)) := by
    refine ⟨hwf, ?_, ?_, ?_, ?_, ?_⟩
    · intro x j hx hj d1 d2
      refine (hpos x j).2 ⟨?_, h.ind x j hx hj (hle.deg_pos d1) (hle.deg_pos d2)⟩
      rintro rfl
      exact Nat.ne_of_gt d1 hdu
    · intro p hp
      rw [List.mem_map] at hp
      obtain ⟨i, hi, rfl⟩ := hp
      exact ⟨hu, hdu, hi⟩
    · intro x j hx hj he hd
      obtain ⟨_, he⟩ := (hpos x j).1 he
      by_cases hda : a.deg ((x * 4 + j) % 4 ^ k) = 0
      · have := h.pend x j hx hj he hda
        cases this
      · have hw : (x * 4 + j) % 4 ^ k = u :=
          Classical.byContradiction fun hne => hda (hdeg _ hne ▸ hd)
        rw [hw, List.mem_map]
        refine ⟨x, (former_iff_latter hk hx hu).2 ?_, rfl⟩
        rw [← hw]; exact shift_mem k x j hj
    · intro x j hx hj c1 c2
      refine (hpos x j).2 ⟨?_, h.carcs x j hx hj c1 c2⟩
      rintro rfl
      exact hCu c1
    · intro x hx d
      exact h.sub x hx (hle.deg_pos d)
  have hfuel : liveCount k (a.setIfInBounds u (Array.replicate 4 (-1))) < a.size + 1 := by
    have := liveCount_le k (a.setIfInBounds u (Array.replicate 4 (-1)))
    rw [h.wf.1]; omega
  obtain ⟨c1, c2⟩ := cascade_inv hk hC hCs (a.size + 1) _ _ h1 (fun _ => hfuel)
  exact ⟨c1, c2.trans hle, c2.deg_zero hdu⟩

theorem removeAll_inv {k : Nat} {C M : Mask} (hk : 1 ≤ k) (hC : Closed k 1 C)
    (hCs : C.size = 4 ^ k) : ∀ (us : List Nat) (a : Acc), CInv k C M a [] →
      (∀ u ∈ us, u < 4 ^ k ∧ ¬ C.getD u false = true) →
      CInv k C M (us.foldl (removeVertex k) a) [] ∧ ArcLe (us.foldl (removeVertex k) a) a ∧
        ∀ u ∈ us, (us.foldl (removeVertex k) a).deg u = 0 := by
  intro us
  induction us with
  | nil => intro a h _; exact ⟨h, ArcLe.refl a, fun u hu => absurd hu List.not_mem_nil⟩
  | cons u us ih =>
    intro a h hus
    obtain ⟨hu1, hu2⟩ := hus u (by simp)
    obtain ⟨r1, r2, r3⟩ := removeVertex_inv hk hC hCs h hu1 hu2
    obtain ⟨i1, i2, i3⟩ := ih _ r1 (fun x hx => hus x (by simp [hx]))
    refine ⟨i1, i2.trans r2, fun x hx => ?_⟩
    rcases List.mem_cons.1 hx with rfl | hx
    · exact i2.deg_zero r3
    · exact i3 x hx

def ustep (a : Acc) (useful : Array Bool) (ex : Array Bool) (v : Nat) : Array Bool :=
  if useful.getD v false then ex
  else ex.setIfInBounds v ((a.liveEntries (v : Int)).any fun w => useful.getD w false)

theorem usefulStep_eq (a : Acc) (vs : List Nat) (useful : Array Bool) :
    usefulStep a vs useful = vs.foldl (ustep a useful) useful := rfl

theorem ustep_size (a : Acc) (u ex : Array Bool) (v : Nat) : (ustep a u ex v).size = ex.size := by
  unfold ustep
  cases u.getD v false
  · exact Array.size_setIfInBounds
  · rfl

theorem ufold_size (a : Acc) (u : Array Bool) : ∀ (l : List Nat) (ex : Array Bool),
    (l.foldl (ustep a u) ex).size = ex.size := by
  intro l
  induction l with
  | nil => intro ex; rfl
  | cons x xs ih => intro ex; rw [List.foldl_cons, ih, ustep_size]

theorem ustep_getD (a : Acc) (u ex : Array Bool) (x v : Nat) :
    (ustep a u ex x).getD v false =
      if v = x ∧ u.getD v false = false ∧ v < ex.size then
        (a.liveEntries (v : Int)).any fun w => u.getD w false
      else ex.getD v false := by
  unfold ustep
  by_cases hvx : v = x
  · subst hvx
    cases hu : u.getD v false with
    | true => rw [if_pos rfl, if_neg fun h => Bool.noConfusion h.2.1]
    | false =>
      rw [if_neg Bool.false_ne_true]
      by_cases hs : v < ex.size
      · rw [if_pos ⟨rfl, rfl, hs⟩, getD_setIfInBounds_self _ _ _ _ hs]
      · rw [if_neg fun h => hs h.2.2, getD_setIfInBounds_oob _ _ _ _ _ (Nat.le_of_not_lt hs)]
  · have hc : ¬ (v = x ∧ u.getD v false = false ∧ v < ex.size) := fun h => hvx h.1
    rw [if_neg hc]
    cases u.getD x false
    · exact getD_setIfInBounds_ne _ _ _ _ _ (Ne.symm hvx)
    · rfl

theorem ufold_getD (a : Acc) (u : Array Bool) : ∀ (l : List Nat) (ex : Array Bool) (v : Nat),
    (l.foldl (ustep a u) ex).getD v false =
      if v ∈ l ∧ u.getD v false = false ∧ v < ex.size then
        (a.liveEntries (v : Int)).any fun w => u.getD w false
      else ex.getD v false := by
  intro l
  induction l with
  | nil => intro ex v; rw [List.foldl_nil, if_neg fun h => List.not_mem_nil h.1]
  | cons x xs ih =>
    intro ex v
    rw [List.foldl_cons, ih, ustep_size, ustep_getD]
    by_cases h : u.getD v false = false ∧ v < ex.size
    · by_cases h1 : v ∈ xs
      · rw [if_pos ⟨h1, h⟩, if_pos ⟨List.mem_cons_of_mem _ h1, h⟩]
      · rw [if_neg fun c => h1 c.1]
        by_cases h2 : v = x
        · rw [if_pos ⟨h2, h⟩, if_pos ⟨List.mem_cons.2 (Or.inl h2), h⟩]
        · rw [if_neg fun c => h2 c.1, if_neg fun c => (List.mem_cons.1 c.1).elim h2 h1]
    · rw [if_neg fun c => h c.2, if_neg fun c => h c.2, if_neg fun c => h c.2]

theorem usefulStep_size (a : Acc) (vs : List Nat) (u : Array Bool) :
    (usefulStep a vs u).size = u.size := by
  rw [usefulStep_eq, ufold_size]

theorem usefulStep_getD (a : Acc) (vs : List Nat) (u : Array Bool) (v : Nat) :
    (usefulStep a vs u).getD v false =
      if v ∈ vs ∧ u.getD v false = false ∧ v < u.size then
        (a.liveEntries (v : Int)).any fun w => u.getD w false
      else u.getD v false := by
  rw [usefulStep_eq, ufold_getD]

theorem usefulStep_le (a : Acc) (vs : List Nat) (u : Array Bool) :
    Mask.Sub u (usefulStep a vs u) := by
  intro v (hv : u.getD v false = true)
  show (usefulStep a vs u).getD v false = true
  rw [usefulStep_getD, if_neg]
  · exact hv
  · rintro ⟨_, h, _⟩; rw [hv] at h; cases h

theorem usefulStep_sound {a : Acc} {vs : List Nat} {u : Array Bool} {v : Nat}
    (h : (usefulStep a vs u).getD v false = true) :
    u.getD v false = true ∨
      (v ∈ vs ∧ ∃ w, w ∈ a.liveEntries (v : Int) ∧ u.getD w false = true) := by
  rw [usefulStep_getD] at h
  by_cases hc : v ∈ vs ∧ u.getD v false = false ∧ v < u.size
  · rw [if_pos hc, List.any_eq_true] at h
    exact Or.inr ⟨hc.1, h⟩
  · rw [if_neg hc] at h
    exact Or.inl h

theorem usefulStep_closed {a : Acc} {vs : List Nat} {u : Array Bool} {v w : Nat}
    (hv : v ∈ vs) (hs : v < u.size) (hw : w ∈ a.liveEntries (v : Int))
    (hu : u.getD w false = true) : (usefulStep a vs u).getD v false = true := by
  rw [usefulStep_getD]
  by_cases h : u.getD v false = true
  · rw [if_neg]
    · exact h
    · rintro ⟨_, h', _⟩; rw [h] at h'; cases h'
  · rw [if_pos ⟨hv, by simpa using h, hs⟩, List.any_eq_true]
    exact ⟨w, hw, hu⟩

theorem usefulLoop_succ (a : Acc) (vs : List Nat) (f : Nat) (u : Array Bool) :
    usefulLoop a vs (f + 1) u =
      if Mask.count (usefulStep a vs u) = Mask.count u then u
      else usefulLoop a vs f (usefulStep a vs u) := rfl

theorem usefulLoop_spec (a : Acc) (vs : List Nat) : ∀ (f : Nat) (u : Array Bool),
    u.size < f + Mask.count u →
    Mask.Sub u (usefulLoop a vs f u) ∧ (usefulLoop a vs f u).size = u.size ∧
    usefulStep a vs (usefulLoop a vs f u) = usefulLoop a vs f u ∧
    (∀ P : Nat → Prop, (∀ v, u.getD v false = true → P v) →
      (∀ v w, v ∈ vs → w ∈ a.liveEntries (v : Int) → P w → P v) →
      ∀ v, (usefulLoop a vs f u).getD v false = true → P v) := by
  intro f
  induction f with
  | zero =>
    intro u h
    have := Mask.count_le_size u
    omega
  | succ f ih =>
    intro u h
    rw [usefulLoop_succ]
    have hle := usefulStep_le a vs u
    have hsz := usefulStep_size a vs u
    by_cases hc : Mask.count (usefulStep a vs u) = Mask.count u
    · rw [if_pos hc]
      have heq : u = usefulStep a vs u := Mask.eq_of_le_of_count hsz.symm hle hc
      exact ⟨Mask.Sub.refl u, rfl, heq.symm, fun P h0 _ v hv => h0 v hv⟩
    · rw [if_neg hc]
      have hcl := Mask.count_le_of_le hsz.symm hle
      obtain ⟨i1, i2, i3, i4⟩ := ih (usefulStep a vs u) (by rw [hsz]; omega)
      refine ⟨hle.trans i1, by rw [i2, hsz], i3, fun P h0 hs v hv => ?_⟩
      apply i4 P _ hs v hv
      intro x hx
      rcases usefulStep_sound hx with h1 | ⟨h1, w, h2, h3⟩
      · exact h0 x h1
      · exact hs x w h1 h2 (h0 w h3)

/-- `v` reaches, along arcs of `a`, a vertex with two or more arcs. -/
inductive ARB (a : Acc) : Nat → Prop
  | here (v : Nat) : 2 ≤ a.deg v → ARB a v
  | step (v w : Nat) : w ∈ a.liveEntries (v : Int) → ARB a w → ARB a v

theorem _root_.Dsw.Closed1.closed {k : Nat} {s : Mask} (h : Closed1 k s) : Closed k 1 s :=
  fun v hv => (h v hv).1

theorem succIn_eq (k : Nat) (s : Mask) (v : Nat) :
    succIn k s v = ((List.range 4).filter fun j => s.getD ((v * 4 + j) % 4 ^ k) false).length := by
  unfold succIn obtainLatters
  rw [List.filter_map, List.length_map]
  rfl

theorem deg_eq (a : Acc) (v : Nat) :
    a.deg v = ((List.range 4).filter fun j => decide (a.ent (v : Int) j ≥ 0)).length := rfl

/-- the useful vertices of a round. -/
def usefulOf (a : Acc) : Array Bool :=
  usefulLoop a (obtainVertices a) (a.size + 1) ((Array.range a.size).map fun v => decide (a.deg v > 1))

theorem thresholdOneLoop_succ (k f : Nat) (a : Acc) :
    thresholdOneLoop k (f + 1) a =
      if (obtainVertices a).isEmpty then .error .valueError else
      if ((obtainVertices a).filter fun v => !(usefulOf a).getD v false).isEmpty then
        .ok (obtainVertices a, a)
      else thresholdOneLoop k f
        (((obtainVertices a).filter fun v => !(usefulOf a).getD v false).foldl (removeVertex k) a) := rfl

theorem u0_getD (a : Acc) (v : Nat) :
    ((Array.range a.size).map fun v => decide (a.deg v > 1)).getD v false = true ↔
      v < a.size ∧ 1 < a.deg v :=
  getD_range_map_decide _ _ v

theorem mem_vs {k : Nat} {a : Acc} (h : WFdB k a) (v : Nat) :
    v ∈ obtainVertices a ↔ v < 4 ^ k ∧ 0 < a.deg v := by
  rw [h.mem_obtainVertices]
  unfold Acc.deg
  rw [List.length_pos_iff]

theorem usefulOf_spec (a : Acc) :
    (∀ v, ((Array.range a.size).map fun v => decide (a.deg v > 1)).getD v false = true →
      (usefulOf a).getD v false = true) ∧
    (usefulOf a).size = a.size ∧
    usefulStep a (obtainVertices a) (usefulOf a) = usefulOf a ∧
    ∀ v, (usefulOf a).getD v false = true → ARB a v := by
  obtain ⟨h1, h2, h3, h4⟩ := usefulLoop_spec a (obtainVertices a) (a.size + 1)
    ((Array.range a.size).map fun v => decide (a.deg v > 1)) (by simp; omega)
  refine ⟨h1, by rw [usefulOf, h2]; simp, h3, ?_⟩
  apply h4 (ARB a)
  · intro v hv
    exact ARB.here v ((u0_getD a v).1 hv).2
  · intro v w _ hw hp
    exact ARB.step v w hw hp

theorem usefulOf_closed {k : Nat} {C M : Mask} {a : Acc} (hC : Closed1 k C) (hCs : C.size = 4 ^ k)
    (h : CInv k C M a []) {v : Nat} (hv : C.getD v false = true) :
    (usefulOf a).getD v false = true := by
  obtain ⟨s1, s2, s3, _⟩ := usefulOf_spec a
  have hlt : ∀ x, C.getD x false = true → x < 4 ^ k := fun x hx => by
    rw [← hCs]; exact Mask.lt_size_of_getD hx
  induction (hC v hv).2 with
  | here v hv h2 =>
    apply s1
    rw [u0_getD, h.wf.1]
    refine ⟨hlt v hv, ?_⟩
    rw [succIn_eq] at h2
    rw [deg_eq]
    refine Nat.lt_of_lt_of_le h2 (filter_length_mono_mem _ _ _ ?_)
    intro j hj hc
    simp only [List.mem_range] at hj
    simpa using h.carcs v j (hlt v hv) hj hv hc
  | step v w hv hw hcw _ ih =>
    have hr := ih hcw
    obtain ⟨j, hj, rfl⟩ := (mem_obtainLatters k v w).1 hw
    have hvn := hlt v hv
    have he := h.carcs v j hvn hj hv hcw
    have he' := (h.wf.ent_nonneg_iff hvn hj).1 he
    rw [← s3]
    apply usefulStep_closed (w := (v * 4 + j) % 4 ^ k)
    · rw [mem_vs h.wf]
      exact ⟨hvn, h.c_live hC.closed hCs hv⟩
    · rw [s2, h.wf.1]; exact hvn
    · rw [Acc.mem_liveEntries]; exact ⟨j, hj, he'⟩
    · exact hr

theorem loop_spec {k : Nat} {C M : Mask} (hk : 1 ≤ k) (hC : Closed1 k C) (hCs : C.size = 4 ^ k) :
    ∀ (f : Nat) (a : Acc), CInv k C M a [] → liveCount k a < f →
      (∀ vs r, thresholdOneLoop k f a = .ok (vs, r) →
        CInv k C M r [] ∧ vs = obtainVertices r ∧ vs ≠ [] ∧ ∀ v ∈ vs, ARB r v) ∧
      (∀ e, thresholdOneLoop k f a = .error e →
        e = .valueError ∧ ∀ v, ¬ C.getD v false = true) := by
  intro f
  induction f with
  | zero => intro a _ h; omega
  | succ f ih =>
    intro a h hf
    rw [thresholdOneLoop_succ]
    by_cases hvs : (obtainVertices a).isEmpty = true
    · rw [if_pos hvs]
      refine ⟨fun vs r hr => (by cases hr), fun e he => ?_⟩
      cases he
      refine ⟨rfl, fun v hv => ?_⟩
      have hlive := h.c_live hC.closed hCs hv
      have hvn : v < 4 ^ k := hCs ▸ Mask.lt_size_of_getD hv
      have : v ∈ obtainVertices a := (mem_vs h.wf v).2 ⟨hvn, hlive⟩
      rw [List.isEmpty_iff] at hvs
      rw [hvs] at this; cases this
    · rw [if_neg hvs]
      by_cases hul : ((obtainVertices a).filter fun v => !(usefulOf a).getD v false).isEmpty = true
      · rw [if_pos hul]
        refine ⟨fun vs r hr => ?_, fun e he => by cases he⟩
        cases hr
        refine ⟨h, rfl, fun hnil => hvs (by rw [hnil]; rfl), fun v hv => ?_⟩
        apply (usefulOf_spec a).2.2.2
        rw [List.isEmpty_iff, List.filter_eq_nil_iff] at hul
        have := hul v hv
        simpa using this
      · rw [if_neg hul]
        have hall : ∀ x ∈ (obtainVertices a).filter fun v => !(usefulOf a).getD v false,
            x < 4 ^ k ∧ 0 < a.deg x ∧ ¬ C.getD x false = true := by
          intro x hx
          obtain ⟨hx1, hx2⟩ := List.mem_filter.1 hx
          have := (mem_vs h.wf x).1 hx1
          refine ⟨this.1, this.2, fun hc => ?_⟩
          rw [usefulOf_closed hC hCs h hc] at hx2
          cases hx2
        obtain ⟨r1, r2, r3⟩ := removeAll_inv hk hC.closed hCs _ a h
          (fun x hx => ⟨(hall x hx).1, (hall x hx).2.2⟩)
        -- a useless vertex had an arc and has none left: fewer vertices with arcs, so fuel suffices
        obtain ⟨u, hu⟩ := List.exists_mem_of_ne_nil _ (fun e => hul (List.isEmpty_iff.2 e))
        have := r2.liveCount_lt k (hall u hu).1 (hall u hu).2.1 (r3 u hu)
        exact ih _ r1 (by omega)

theorem induced_deg_pos {k : Nat} {s : Mask} {v : Nat} (hv : v < 4 ^ k)
    (h : 0 < (inducedAccessor k s).deg v) : s.getD v false = true := by
  obtain ⟨j, hj, he⟩ := (deg_pos_iff _ v).1 h
  exact ((inducedAccessor_ent_nonneg hv hj).1 he).1

theorem induced_deg_pos_of_closed {k : Nat} {s : Mask} (hs : Closed k 1 s) {v : Nat}
    (hv : v < 4 ^ k) (h : s.getD v false = true) : 0 < (inducedAccessor k s).deg v := by
  obtain ⟨j, hj, hw⟩ := closed_succ hs h
  exact (deg_pos_iff _ v).2 ⟨j, hj, (inducedAccessor_ent_nonneg hv hj).2 ⟨h, hw⟩⟩

theorem init_inv {k : Nat} {C s : Mask} (hs : Closed k 1 s) (hCs : Mask.Sub C s) :
    CInv k C s (inducedAccessor k s) [] := by
  refine ⟨wfdb_induced k s, ?_, ?_, ?_, ?_, ?_⟩
  · intro u j hu hj h1 h2
    exact (inducedAccessor_ent_nonneg hu hj).2
      ⟨induced_deg_pos hu h1, induced_deg_pos (shift_lt k u j) h2⟩
  · intro p hp; cases hp
  · intro u j hu hj he hd
    have := induced_deg_pos_of_closed hs (shift_lt k u j) ((inducedAccessor_ent_nonneg hu hj).1 he).2
    omega
  · intro u j hu hj h1 h2
    exact (inducedAccessor_ent_nonneg hu hj).2 ⟨hCs _ h1, hCs _ h2⟩
  · intro u hu h; exact induced_deg_pos hu h

def liveMask (k : Nat) (a : Acc) : Mask := (Array.range (4 ^ k)).map fun v => decide (0 < a.deg v)

theorem liveMask_size (k : Nat) (a : Acc) : (liveMask k a).size = 4 ^ k := by simp [liveMask]

theorem liveMask_getD (k : Nat) (a : Acc) (v : Nat) :
    (liveMask k a).getD v false = true ↔ v < 4 ^ k ∧ 0 < a.deg v :=
  getD_range_map_decide _ _ v

theorem CInv.target_live {k : Nat} {C M : Mask} {a : Acc} (h : CInv k C M a []) {u j : Nat}
    (hu : u < 4 ^ k) (hj : j < 4) (he : 0 ≤ a.ent (u : Int) j) :
    0 < a.deg ((u * 4 + j) % 4 ^ k) := by
  refine Nat.pos_of_ne_zero fun hn => ?_
  cases h.pend u j hu hj he hn

theorem final_induced {k : Nat} {C M : Mask} {a : Acc} (h : CInv k C M a []) :
    a = inducedAccessor k (liveMask k a) := by
  apply wfdb_ext h.wf (wfdb_induced k _)
  intro v j hv hj
  rw [inducedAccessor_ent k _ v j hv hj]
  by_cases he : 0 ≤ a.ent (v : Int) j
  · rw [if_pos]
    · exact (h.wf.ent_nonneg_iff hv hj).1 he
    · exact ⟨(liveMask_getD k a v).2 ⟨hv, (deg_pos_iff a v).2 ⟨j, hj, he⟩⟩,
        (liveMask_getD k a _).2 ⟨shift_lt k v j, h.target_live hv hj he⟩⟩
  · rw [if_neg]
    · exact h.wf.ent_neg hv hj he
    · rintro ⟨h1, h2⟩
      exact he (h.ind v j hv hj ((liveMask_getD k a v).1 h1).2 ((liveMask_getD k a _).1 h2).2)

theorem deg_le_succIn {k : Nat} {C M : Mask} {a : Acc} (h : CInv k C M a []) {v : Nat}
    (hv : v < 4 ^ k) : a.deg v ≤ succIn k (liveMask k a) v := by
  rw [succIn_eq, deg_eq]
  apply filter_length_mono_mem
  intro j hj he
  simp only [List.mem_range] at hj
  simp only [ge_iff_le, decide_eq_true_eq] at he
  exact (liveMask_getD k a _).2 ⟨shift_lt k v j, h.target_live hv hj he⟩

theorem deg_pos_lt {k : Nat} {a : Acc} (h : WFdB k a) {v : Nat} (hv : 0 < a.deg v) : v < 4 ^ k := by
  apply Classical.byContradiction
  intro hn
  have := Acc.live_oob a v (by rw [h.1]; omega)
  unfold Acc.deg at hv
  rw [this] at hv
  cases hv

theorem arb_rb {k : Nat} {C M : Mask} {a : Acc} (h : CInv k C M a []) {v : Nat} (hv : ARB a v) :
    ReachesBranching k (liveMask k a) v := by
  induction hv with
  | here v h2 =>
    have hpos : 0 < a.deg v := Nat.lt_of_lt_of_le Nat.zero_lt_two h2
    have hvn := deg_pos_lt h.wf hpos
    exact ReachesBranching.here v ((liveMask_getD k a v).2 ⟨hvn, hpos⟩)
      (Nat.le_trans h2 (deg_le_succIn h hvn))
  | step v w hw _ ih =>
    obtain ⟨j, hj, he⟩ := (Acc.mem_liveEntries a _ w).1 hw
    have he0 : 0 ≤ a.ent (v : Int) j := he ▸ Int.natCast_nonneg w
    have hpos : 0 < a.deg v := (deg_pos_iff a v).2 ⟨j, hj, he0⟩
    have hvn := deg_pos_lt h.wf hpos
    obtain rfl : (v * 4 + j) % 4 ^ k = w :=
      Int.natCast_inj.1 (((h.wf.ent_nonneg_iff hvn hj).1 he0).symm.trans he)
    exact ReachesBranching.step v _ ((liveMask_getD k a v).2 ⟨hvn, hpos⟩) (shift_mem k v j hj)
      ((liveMask_getD k a _).2 ⟨shift_lt k v j, h.target_live hvn hj he0⟩) ih

theorem final_closed {k : Nat} {C M : Mask} {a : Acc} (h : CInv k C M a [])
    (harb : ∀ v ∈ obtainVertices a, ARB a v) : Closed1 k (liveMask k a) := by
  intro v hv
  obtain ⟨hvn, hpos⟩ := (liveMask_getD k a v).1 hv
  refine ⟨Nat.le_trans hpos (deg_le_succIn h hvn), arb_rb h (harb v ?_)⟩
  exact (mem_vs h.wf v).2 ⟨hvn, hpos⟩

theorem final_indices {k : Nat} {a : Acc} (h : WFdB k a) :
    obtainVertices a = (liveMask k a).indices := by
  rw [h.obtainVertices_eq]
  unfold Mask.indices
  rw [liveMask_size]
  apply List.filter_congr
  intro v hv
  rw [List.mem_range] at hv
  rw [Bool.eq_iff_iff, liveMask_getD]
  simp only [decide_eq_true_eq]
  unfold Acc.deg
  rw [List.length_pos_iff]
  exact ⟨fun h => ⟨hv, h⟩, fun h => h.2⟩

theorem closed1_empty (k : Nat) : Closed1 k (Array.replicate (4 ^ k) false) :=
  fun v hv => absurd hv (not_getD_replicate_false _ v)

theorem thresholdOne_main {k : Nat} {s0 : Mask} (hk : 1 ≤ k) (hcl : Closed k 1 s0) :
    (∀ vs a, thresholdOneLoop k (4 ^ k + 1) (inducedAccessor k s0) = .ok (vs, a) →
      ∃ s : Mask, s.size = 4 ^ k ∧ Mask.Sub s s0 ∧ Closed1 k s ∧
        (∀ c : Mask, c.size = 4 ^ k → Mask.Sub c s0 → Closed1 k c → Mask.Sub c s) ∧
        a = inducedAccessor k s ∧ vs = s.indices ∧ vs = obtainVertices a ∧ vs ≠ []) ∧
    (∀ e, thresholdOneLoop k (4 ^ k + 1) (inducedAccessor k s0) = .error e →
      e = .valueError ∧
      ∀ c : Mask, c.size = 4 ^ k → Mask.Sub c s0 → Closed1 k c → ∀ v, ¬ c.getD v false = true) := by
  have hfuel : liveCount k (inducedAccessor k s0) < 4 ^ k + 1 := by
    have := liveCount_le k (inducedAccessor k s0); omega
  -- the loop, read once for each closed reference set below `s0`; the empty one always is
  have loop := fun (c : Mask) (hcs : c.size = 4 ^ k) (hc0 : Mask.Sub c s0) (hcc : Closed1 k c) =>
    loop_spec (M := s0) hk hcc hcs _ _ (init_inv hcl hc0) hfuel
  have loop0 := loop _ (by simp) (fun v hv => absurd hv (not_getD_replicate_false _ v))
    (closed1_empty k)
  refine ⟨fun vs a hr => ?_, fun e he => ?_⟩
  · obtain ⟨h1, h2, h3, h4⟩ := loop0.1 vs a hr
    refine ⟨liveMask k a, liveMask_size k a, ?_, final_closed h1 (h2 ▸ h4), ?_, final_induced h1,
      ?_, h2, h3⟩
    · intro v hv
      obtain ⟨hvn, hpos⟩ := (liveMask_getD k a v).1 hv
      exact h1.sub v hvn hpos
    · intro c hcs hc0 hcc v hv
      obtain ⟨g1, _⟩ := (loop c hcs hc0 hcc).1 vs a hr
      exact (liveMask_getD k a v).2
        ⟨hcs ▸ Mask.lt_size_of_getD hv, g1.c_live hcc.closed hcs hv⟩
    · rw [h2]; exact final_indices h1.wf
  · exact ⟨(loop0.2 e he).1, fun c hcs hc0 hcc => ((loop c hcs hc0 hcc).2 e he).2⟩

theorem connectCodingGraph_one (k : Nat) (m : Mask) :
    connectCodingGraph k m 1 =
      match trimLoop k 1 (4 ^ k + 1) m with
      | .error e => .error e
      | .ok s => thresholdOneLoop k (4 ^ k + 1) (inducedAccessor k s) := by
  unfold connectCodingGraph
  cases trimLoop k 1 (4 ^ k + 1) m with
  | error e => rfl
  | ok s => simp [bind, Except.bind]

/-- the latter map with keys `K` whose lists are the successors inside `T`. -/
def lmOf (k : Nat) (K T : Mask) : LMap :=
  K.indices.map fun v => (v, (obtainLatters k v).filter fun w => T.getD w false)

theorem mem_lmOf {k : Nat} {K T : Mask} {v : Nat} {ls : List Nat} :
    (v, ls) ∈ lmOf k K T ↔ K.getD v false = true ∧
      ls = (obtainLatters k v).filter fun w => T.getD w false := by
  unfold lmOf
  rw [List.mem_map]
  constructor
  · rintro ⟨u, hu, e⟩
    obtain ⟨rfl, rfl⟩ := Prod.mk.inj e
    exact ⟨Mask.mem_indices.1 hu, rfl⟩
  · rintro ⟨h1, rfl⟩
    exact ⟨v, Mask.mem_indices.2 h1, rfl⟩

theorem lmOf_keys (k : Nat) (K T : Mask) : (lmOf k K T).map (·.1) = K.indices := by
  unfold lmOf
  rw [List.map_map]
  exact List.map_id _

theorem indices_nodup (m : Mask) : m.indices.Nodup := List.Pairwise.filter _ List.nodup_range

theorem lmOf_closed {k t : Nat} {s : Mask} (hc : Closed k t s) :
    LMap.ClosedT (lmOf k s s) t := by
  intro v ls h
  obtain ⟨hv, rfl⟩ := mem_lmOf.1 h
  refine ⟨hc v hv, fun w hw => ?_⟩
  rw [LMap.keys, lmOf_keys]
  exact Mask.mem_indices.2 (List.mem_filter.1 hw).2

theorem lmOf_sub {k : Nat} {K K' T T' : Mask} (hs : K.size = K'.size) (hK : Mask.Sub K K')
    (hT : Mask.Sub T T') : UselessSpec.Sub (lmOf k K T) (lmOf k K' T') := by
  refine ⟨?_, fun v ls' h => ?_⟩
  · rw [lmOf_keys, lmOf_keys]
    unfold Mask.indices
    rw [hs]
    exact sublist_filter List.filter_sublist fun v hv => hK v (List.mem_filter.1 hv).2
  · obtain ⟨hv, rfl⟩ := mem_lmOf.1 h
    exact ⟨_, mem_lmOf.2 ⟨hK v hv, rfl⟩,
      sublist_filter List.filter_sublist fun w hw => hT w (List.mem_filter.1 hw).2⟩

/-- a closed sub-map of `lmOf k K m` lies inside `lmOf k s s` when `s` contains every closed
submask of `m`: its keys form such a submask. -/
theorem closed_sub_lmOf {k t : Nat} {K m s : Mask} {c : LMap} (hK : K.size = 4 ^ k)
    (hs : s.size = 4 ^ k) (hsK : Mask.Sub s K) (hKm : Mask.Sub K m)
    (hmax : ∀ C : Mask, Mask.Sub C m → Closed k t C → Mask.Sub C s)
    (hc : UselessSpec.Sub c (lmOf k K m)) (hcl : LMap.ClosedT c t) :
    UselessSpec.Sub c (lmOf k s s) := by
  have hkeyK : ∀ v ∈ c.map (·.1), K.getD v false = true := fun v hv =>
    Mask.mem_indices.1 (lmOf_keys k K m ▸ hc.1.subset hv)
  have hlist : ∀ v ls', (v, ls') ∈ c → ls'.Sublist (obtainLatters k v) := by
    intro v ls' h
    obtain ⟨ls, hm, hsub⟩ := hc.2 v ls' h
    rw [(mem_lmOf.1 hm).2] at hsub
    exact hsub.trans List.filter_sublist
  -- the keys of `c` as a mask
  have hC : ∀ v, ((Array.range (4 ^ k)).map fun v => decide (v ∈ c.map (·.1))).getD v false = true ↔
      v ∈ c.map (·.1) := by
    intro v
    rw [getD_range_map_decide]
    exact ⟨fun h => h.2, fun h => ⟨hK ▸ Mask.lt_size_of_getD (hkeyK v h), h⟩⟩
  have hkeys : ∀ v ∈ c.map (·.1), s.getD v false = true := by
    intro v hv
    refine hmax _ (fun u hu => hKm u (hkeyK u ((hC u).1 hu))) (fun u hu => ?_) v ((hC v).2 hv)
    obtain ⟨⟨u', ls'⟩, hmem, rfl⟩ := List.mem_map.1 ((hC u).1 hu)
    refine Nat.le_trans (hcl _ _ hmem).1 (List.Sublist.length_le ?_)
    exact sublist_filter (hlist _ _ hmem) fun w hw => (hC w).2 ((hcl _ _ hmem).2 w hw)
  refine ⟨?_, fun v ls' h => ?_⟩
  · have h1 := sublist_filter (lmOf_keys k K m ▸ hc.1) hkeys
    rw [lmOf_keys]
    unfold Mask.indices at h1 ⊢
    rw [List.filter_filter, hK] at h1
    rw [hs]
    rwa [List.filter_congr fun v _ => ?_] at h1
    cases hv : s.getD v false with
    | false => rfl
    | true => rw [hsK v hv]; rfl
  · have hv := hkeys v (List.mem_map.2 ⟨_, h, rfl⟩)
    exact ⟨_, mem_lmOf.2 ⟨hv, rfl⟩,
      sublist_filter (hlist v ls' h) fun w hw => hkeys w ((hcl v ls' h).2 w hw)⟩

theorem arcs_nil : LMap.arcs [] = 0 := rfl

theorem induced_liveEntries {k : Nat} {m : Mask} {v : Nat} (hvn : v < 4 ^ k)
    (hmv : m.getD v false = true) :
    (inducedAccessor k m).liveEntries (v : Int) = (obtainLatters k v).filter fun w => m.getD w false := by
  rw [(wfdb_induced k m).liveEntries_eq hvn]
  unfold obtainLatters Acc.live
  rw [List.filter_map]
  refine congrArg (List.map _) (List.filter_congr fun j hj => ?_)
  rw [List.mem_range] at hj
  rw [Function.comp_apply, Bool.eq_iff_iff, decide_eq_true_iff, ge_iff_le,
    inducedAccessor_ent_nonneg hvn hj]
  exact ⟨fun h => h.2, fun h => ⟨hmv, h⟩⟩

theorem accessorToLatterMap_induced (k : Nat) (m : Mask) :
    accessorToLatterMap (inducedAccessor k m) = lmOf k (trimStep k 1 m) m := by
  unfold accessorToLatterMap lmOf
  rw [obtainVertices_induced]
  apply List.map_congr_left
  intro v hvm
  have hvm' := Mask.mem_indices.1 hvm
  rw [trimStep_getD] at hvm'
  simp only [Bool.and_eq_true, decide_eq_true_eq] at hvm'
  rw [induced_liveEntries hvm'.1 hvm'.2.1]

theorem latterMapToAccessor_some (lm lm' : LMap) (k t : Nat) (h : removeUseless lm t = .ok lm') :
    latterMapToAccessor lm k (some t) = latterMapToAccessor lm' k none := by
  unfold latterMapToAccessor
  simp only [h, bind, Except.bind, pure, Except.pure]

/-- trimming the latter map of the induced graph to threshold `t` gives the graph induced on the
result of the trimming loop. -/
theorem latterMap_trim {k t f : Nat} {m s : Mask} (hk : 1 ≤ k) (ht : 1 ≤ t) (hm : m.size = 4 ^ k)
    (hl : trimLoop k t f m = .ok s) :
    latterMapToAccessor (accessorToLatterMap (inducedAccessor k m)) k (some t) =
      .ok (inducedAccessor k s) := by
  obtain ⟨h1, h2, h3, h4, _⟩ := trimLoop_ok k t f m s hm hl
  have hc1 : Closed k 1 s := fun v hv => Nat.le_trans ht (h3 v hv)
  have hloop : removeUseless (accessorToLatterMap (inducedAccessor k m)) t =
      .ok (accessorToLatterMap (inducedAccessor k s)) := by
    have hsK := trimStep_closed_le hm h2 hc1
    rw [accessorToLatterMap_induced k s, trimStep_one_of_closed h1 hc1, accessorToLatterMap_induced k m]
    -- `remove_useless` returns the largest closed sub-map, and so is the map of the trimmed mask
    obtain ⟨m', e, hsub, hcl, hmax⟩ := UselessSpec.removeUseless_spec (lmOf k (trimStep k 1 m) m) t
      (lmOf_keys k _ m ▸ indices_nodup _)
    rw [e, UselessSpec.Sub.antisymm (lmOf_keys k s s ▸ indices_nodup s)
      (closed_sub_lmOf (trimStep_size k 1 m) h1 hsK (trimStep_le k 1 m) h4 hsub hcl)
      (hmax _ (lmOf_sub (by rw [h1, trimStep_size]) hsK h2) (lmOf_closed h3))]
  rw [latterMapToAccessor_some _ _ k t hloop]
  exact latterMap_roundtrip k _ hk (wfdb_induced k s)

theorem closed_closed1 {k t : Nat} {s : Mask} (ht : 2 ≤ t) (h : Closed k t s) :
    Closed1 k s := fun v hv =>
  ⟨Nat.le_trans (by omega) (h v hv), ReachesBranching.here v hv (Nat.le_trans ht (h v hv))⟩

theorem succIn_le_induced_deg {k : Nat} {s : Mask} {v : Nat} (hvn : v < 4 ^ k)
    (hv : s.getD v false = true) : succIn k s v ≤ (inducedAccessor k s).deg v := by
  rw [succIn_eq, deg_eq]
  apply filter_length_mono_mem
  intro j hj hc
  rw [List.mem_range] at hj
  exact decide_eq_true ((inducedAccessor_ent_nonneg hvn hj).2 ⟨hv, hc⟩)

theorem induced_arc {k : Nat} {s : Mask} {v j : Nat} (hvn : v < 4 ^ k)
    (hj : j ∈ (inducedAccessor k s).live (v : Int)) :
    (inducedAccessor k s).ent (v : Int) j = (((v * 4 + j) % 4 ^ k : Nat) : Int) ∧
      s.getD ((v * 4 + j) % 4 ^ k) false = true := by
  rw [Acc.mem_live] at hj
  obtain ⟨hj4, he⟩ := hj
  have hc := (inducedAccessor_ent_nonneg hvn hj4).1 he
  rw [inducedAccessor_ent k s v j hvn hj4, if_pos hc]
  exact ⟨rfl, hc.2⟩

theorem induced_reach_marked {k : Nat} {s : Mask} (hs : s.size = 4 ^ k) {x u : Int}
    (h : (inducedAccessor k s).Reach x u) :
    ∀ v : Nat, x = (v : Int) → s.getD v false = true →
      ∃ u0 : Nat, u = (u0 : Int) ∧ s.getD u0 false = true := by
  induction h with
  | refl x => intro v hx hv; exact ⟨v, hx, hv⟩
  | step x j w hj _ ih =>
    intro v hx hv
    subst hx
    have hvn : v < 4 ^ k := hs ▸ Mask.lt_size_of_getD hv
    obtain ⟨e1, e2⟩ := induced_arc hvn hj
    exact ih _ e1 e2

theorem induced_rb_reach {k : Nat} {s : Mask} (hs : s.size = 4 ^ k) {v : Nat} (h : ReachesBranching k s v) :
    ∃ w : Int, (inducedAccessor k s).Reach (v : Int) w ∧ (inducedAccessor k s).outDeg w ≥ 2 := by
  induction h with
  | here v hv h2 =>
    have hvn : v < 4 ^ k := hs ▸ Mask.lt_size_of_getD hv
    exact ⟨(v : Int), Acc.Reach.refl _, Nat.le_trans h2 (succIn_le_induced_deg hvn hv)⟩
  | step v w hv hw hsw _ ih =>
    have hvn : v < 4 ^ k := hs ▸ Mask.lt_size_of_getD hv
    obtain ⟨x, hx1, hx2⟩ := ih
    obtain ⟨j, hj, rfl⟩ := (mem_obtainLatters k v w).1 hw
    have he : (inducedAccessor k s).ent (v : Int) j = (((v * 4 + j) % 4 ^ k : Nat) : Int) := by
      rw [inducedAccessor_ent k s v j hvn hj, if_pos ⟨hv, hsw⟩]
    refine ⟨x, Acc.Reach.step _ j x ((Acc.mem_live _ _ _).2 ⟨hj, he ▸ Int.natCast_nonneg _⟩) ?_, hx2⟩
    rw [he]; exact hx1

/-- on the graph induced on a `Closed1` mask every marked vertex is a good start for the
encoder. -/
theorem induced_goodFrom {k : Nat} {s : Mask} (hs : s.size = 4 ^ k) (hc : Closed1 k s) {v : Nat}
    (hv : s.getD v false = true) : (inducedAccessor k s).GoodFrom (v : Int) := by
  intro u hu
  obtain ⟨u0, rfl, hu0⟩ := induced_reach_marked hs hu v rfl hv
  have hun : u0 < 4 ^ k := hs ▸ Mask.lt_size_of_getD hu0
  refine ⟨⟨by omega, ?_⟩, ?_, induced_rb_reach hs (hc u0 hu0).2⟩
  · rw [inducedAccessor_size]; exact_mod_cast hun
  · exact induced_deg_pos_of_closed hc.closed hun hu0

end Dsw.TrimOne
