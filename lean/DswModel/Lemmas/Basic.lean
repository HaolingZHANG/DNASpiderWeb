import DswModel.Model.Basic
/-! Facts about the definitions of `Model/Basic.lean` that every layer uses: the four nucleotide letters and
their indices, Python's index normalisation and slices, the live columns of an accessor row, and insertion sort. -/
namespace Dsw

/-! ## nucleotides: `nucIdx` and `nucChar` are inverse between `A, C, G, T` and `0, 1, 2, 3` -/

theorem nucIdx_nucChar (j : Nat) (hj : j < 4) : nucIdx (nucChar j) = some j :=
  (by decide : ∀ j, j < 4 → nucIdx (nucChar j) = some j) j hj

theorem nucIdx_eq_some {c : Char} {j : Nat} (h : nucIdx c = some j) : j < 4 ∧ nucChar j = c := by
  unfold nucIdx at h
  by_cases hA : c = 'A'
  · rw [if_pos hA] at h; cases h; exact ⟨by decide, hA.symm⟩
  rw [if_neg hA] at h
  by_cases hC : c = 'C'
  · rw [if_pos hC] at h; cases h; exact ⟨by decide, hC.symm⟩
  rw [if_neg hC] at h
  by_cases hG : c = 'G'
  · rw [if_pos hG] at h; cases h; exact ⟨by decide, hG.symm⟩
  rw [if_neg hG] at h
  by_cases hT : c = 'T'
  · rw [if_pos hT] at h; cases h; exact ⟨by decide, hT.symm⟩
  rw [if_neg hT] at h
  cases h

theorem nucIdx_lt {c : Char} {j : Nat} (h : nucIdx c = some j) : j < 4 := (nucIdx_eq_some h).1

theorem nucChar_nucIdx {c : Char} {j : Nat} (h : nucIdx c = some j) : nucChar j = c :=
  (nucIdx_eq_some h).2

theorem nucIdx_getD_lt (c : Char) : (nucIdx c).getD 0 < 4 := by
  cases h : nucIdx c with
  | none => decide
  | some j => exact nucIdx_lt h

theorem nucChar_nucIdx_getD {c : Char} (h : (nucIdx c).isSome = true) :
    nucChar ((nucIdx c).getD 0) = c := by
  cases h' : nucIdx c with
  | none => rw [h'] at h; cases h
  | some j => exact nucChar_nucIdx h'

/-- `nucChar j` is a nucleotide for every `j` (`'T'` from 3 on). -/
theorem nucIdx_nucChar_isSome (j : Nat) : (nucIdx (nucChar j)).isSome = true :=
  match j with
  | 0 | 1 | 2 | 3 => by decide
  | _ + 4 => rfl

theorem nucIdx_nucChar_getD {j : Nat} (hj : j < 4) : (nucIdx (nucChar j)).getD 0 = j := by
  rw [nucIdx_nucChar j hj]
  rfl

theorem nucChar_inj {i j : Nat} (hi : i < 4) (hj : j < 4) (h : nucChar i = nucChar j) : i = j := by
  have h1 := nucIdx_nucChar i hi
  rw [h, nucIdx_nucChar j hj] at h1
  exact (Option.some.inj h1).symm

theorem nucIdx_getD_inj {c d : Char} (hc : (nucIdx c).isSome = true) (hd : (nucIdx d).isSome = true)
    (h : (nucIdx c).getD 0 = (nucIdx d).getD 0) : c = d := by
  rw [← nucChar_nucIdx_getD hc, h, nucChar_nucIdx_getD hd]

theorem nucChar_ne_of_nucIdx_none {c : Char} (h : nucIdx c = none) {j : Nat} (hj : j < 4) :
    nucChar j ≠ c := by
  intro he; rw [← he, nucIdx_nucChar j hj] at h; cases h

theorem pyNorm_natCast (n i : Nat) : pyNorm n (i : Int) = min i n := by
  rw [pyNorm, if_neg (by omega), Int.toNat_natCast]

theorem pyNorm_neg {n : Nat} {i : Int} (h : i < 0) : pyNorm n i = (n + i).toNat := by
  rw [pyNorm, if_pos h]

/-- a bound `k` further left is normalised to a position at most `k` further left, also when the
bound wraps on the way. -/
theorem pyNorm_le_add (n : Nat) (i : Int) (k : Nat) : pyNorm n i ≤ pyNorm n (i - k) + k := by
  unfold pyNorm; split <;> split <;> omega

theorem length_pySlice {α} (l : List α) (a b : Int) :
    (pySlice l a b).length =
      min (pyNorm l.length b - pyNorm l.length a) (l.length - pyNorm l.length a) := by
  simp [pySlice, List.length_take, List.length_drop]

theorem mem_of_mem_pySlice {α} {l : List α} {a b : Int} {x : α} (h : x ∈ pySlice l a b) : x ∈ l :=
  List.mem_of_mem_drop (List.mem_of_mem_take h)

theorem length_pySlice_le {α} (l : List α) {a b : Int} (h : a ≤ b) :
    (pySlice l a b).length ≤ (b - a).toNat := by
  refine Nat.le_trans (List.length_take_le _ _) ?_
  have := pyNorm_le_add l.length b (b - a).toNat
  rw [Int.toNat_of_nonneg (by omega), Int.sub_sub_self] at this
  omega

theorem pySlice_nat {α} (l : List α) (a b : Nat) : pySlice l (a : Int) (b : Int) = (l.drop a).take (b - a) := by
  simp only [pySlice, pyNorm_natCast]
  rcases Nat.le_total a l.length with ha | ha
  · rw [Nat.min_eq_left ha, List.take_eq_take_min (i := b - a), List.length_drop, Nat.sub_min_sub_right]
  · rw [List.drop_of_length_le ha, Nat.min_eq_right ha, List.drop_length, List.take_nil, List.take_nil]

theorem pySlice_mid {α} (A B C : List α) (i j : Int) (hi : i = A.length)
    (hj : j = A.length + B.length) : pySlice (A ++ B ++ C) i j = B := by
  rw [hi, hj, ← Int.natCast_add, pySlice_nat, List.append_assoc, List.drop_left,
    Nat.add_sub_cancel_left, List.take_left]

theorem pySlice_last {α} (s : List α) (k : Nat) (hk : 1 ≤ k) :
    pySlice s (-(k : Int)) s.length = s.drop (s.length - k) := by
  rw [pySlice, pyNorm_neg (Int.neg_neg_of_pos (Int.natCast_pos.2 hk)), pyNorm_natCast, Nat.min_self,
    ← Int.sub_eq_add_neg, Int.toNat_sub, List.take_of_length_le (by rw [List.length_drop]; omega)]

/-! ## rows of an accessor at a non-negative, a wrapped and an out-of-range index -/

theorem getD_of_size_le {α} (r : Array α) (j : Nat) (d : α) (hj : r.size ≤ j) :
    r.getD j d = d := dif_neg (Nat.not_lt.2 hj)

theorem Acc.row_natCast (a : Acc) (v : Nat) : a.row (v : Int) = a.getD v #[] := by
  have h1 : ¬ ((v : Int) < 0) := Int.not_lt.2 (Int.natCast_nonneg v)
  simp only [Acc.row, if_neg h1, Int.toNat_natCast]
  by_cases h : v < a.size
  · rw [if_pos ⟨Int.natCast_nonneg v, Int.ofNat_lt.2 h⟩]
  · rw [if_neg fun h' => h (Int.ofNat_lt.1 h'.2), Array.getD, dif_neg h]

theorem Acc.row_of_nonneg (a : Acc) {v : Int} (h : 0 ≤ v) : a.row v = a.getD v.toNat #[] := by
  rw [← Acc.row_natCast, Int.toNat_of_nonneg h]

theorem Acc.row_neg (a : Acc) {v : Int} (h : v < 0) (h' : 0 ≤ v + a.size) : a.row v = a.row (v + a.size) := by
  simp only [Acc.row, if_pos h, if_neg (Int.not_lt.2 h')]

theorem Acc.ent_natCast (a : Acc) (v j : Nat) :
    a.ent (v : Int) j = (a.getD v #[]).getD j (-1) := by
  unfold Acc.ent; rw [Acc.row_natCast]

theorem Acc.live_eq_filter (a : Acc) (v : Int) :
    a.live v = (List.range 4).filter fun j => decide (0 ≤ a.ent v j) := rfl

/-- past the last row every entry reads `-1`. -/
theorem Acc.live_oob (a : Acc) (v : Nat) (hv : a.size ≤ v) : a.live (v : Int) = [] := by
  rw [Acc.live_eq_filter, List.filter_eq_nil_iff]
  intro j _
  rw [Acc.ent_natCast, getD_of_size_le a v #[] hv, getD_of_size_le #[] j (-1) (Nat.zero_le j)]
  decide

theorem Acc.mem_live (a : Acc) (v : Int) (j : Nat) : j ∈ a.live v ↔ j < 4 ∧ 0 ≤ a.ent v j := by
  unfold Acc.live
  rw [List.mem_filter, List.mem_range, decide_eq_true_iff]

theorem live_lt_four (a : Acc) (v : Int) {j : Nat} (h : j ∈ a.live v) : j < 4 :=
  ((a.mem_live v j).1 h).1

theorem live_ent_nonneg (a : Acc) (v : Int) {j : Nat} (h : j ∈ a.live v) : a.ent v j ≥ 0 :=
  ((a.mem_live v j).1 h).2

theorem live_pairwise_lt (a : Acc) (v : Int) : (a.live v).Pairwise (· < ·) := by
  unfold Acc.live
  exact List.Pairwise.filter _ List.pairwise_lt_range

theorem live_nodup (a : Acc) (v : Int) : (a.live v).Nodup :=
  (live_pairwise_lt a v).imp (fun h => Nat.ne_of_lt h)

theorem live_length_le (a : Acc) (v : Int) : (a.live v).length ≤ 4 := by
  unfold Acc.live
  exact Nat.le_trans (List.length_filter_le _ _) (Nat.le_of_eq List.length_range)

theorem mem_insertSorted {α} (le : α → α → Bool) (x y : α) (l : List α) :
    y ∈ insertSorted le x l ↔ y = x ∨ y ∈ l := by
  induction l with
  | nil => simp [insertSorted]
  | cons z zs ih =>
    unfold insertSorted
    split
    · simp
    · simp only [List.mem_cons, ih]
      exact or_left_comm

theorem isort_cons {α} (le : α → α → Bool) (z : α) (zs : List α) :
    isort le (z :: zs) = insertSorted le z (isort le zs) := rfl

theorem mem_isort {α} (le : α → α → Bool) (y : α) (l : List α) : y ∈ isort le l ↔ y ∈ l := by
  induction l with
  | nil => simp [isort]
  | cons z zs ih =>
    rw [isort_cons, mem_insertSorted, ih]; simp

end Dsw
