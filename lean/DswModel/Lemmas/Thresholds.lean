import DswModel.Model.Biofilter
import Mathlib.Data.Rat.Floor
import Mathlib.Algebra.Order.Floor.Ring
import Mathlib.Tactic.Ring
import Mathlib.Tactic.NormNum
/-! Mathlib's `⌊ ⌋` / `⌈ ⌉` on `ℚ` agree with core's `Rat.floor` / `Rat.ceil`, in which `exactGcRule` is written,
so that Mathlib's floor and ceiling lemmas apply to it. -/
namespace Dsw.Thresholds

theorem ceil_eq (q : ℚ) : ⌈q⌉ = q.ceil :=
  eq_of_forall_ge_iff fun z => by rw [Int.ceil_le, Rat.ceil_le_iff]

/-- Mathlib's `⌊q⌋` on `ℚ` is core's `Rat.floor` (by definition of the `FloorRing ℚ` instance). -/
theorem floor_eq (q : ℚ) : ⌊q⌋ = q.floor := rfl

theorem floor_natCast_sub (k : Nat) (x : ℚ) : ((k : ℚ) - x).floor = (k : Int) - x.ceil := by
  rw [← floor_eq, ← ceil_eq]
  have h : ((k : ℚ) - x) = ((k : ℤ) : ℚ) + (-x) := by push_cast; ring
  rw [h, Int.floor_intCast_add, Int.floor_neg]; ring

theorem natCast_gt_iff (g : Nat) (x : ℚ) : ((g : ℚ) > x) ↔ ((g : Int) > x.floor) := by
  have h : (g : ℚ) = ((g : ℤ) : ℚ) := by push_cast; rfl
  rw [h]; exact Rat.floor_lt_iff.symm

theorem natCast_lt_iff (g : Nat) (x : ℚ) : ((g : ℚ) < x) ↔ ((g : Int) < x.ceil) := by
  have h : (g : ℚ) = ((g : ℤ) : ℚ) := by push_cast; rfl
  rw [h]; exact Rat.lt_ceil_iff.symm

end Dsw.Thresholds
