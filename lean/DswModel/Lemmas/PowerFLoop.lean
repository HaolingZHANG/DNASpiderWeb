import DswModel.Lemmas.PowerF
/-!
# Helper lemmas for C17d and C17f: the loop of the double-precision power iteration

One iteration from a state in range (`capLoopF_first`, `capLoopF_next`: vector in `[0, 1]`, queue in `[0, 4]`) never
fails and stays in range; the bounds `(0, 4]`, totality and the settled stop are inductions over these two.
-/
namespace Dsw.PowerF
open Dsw.FloatErr Dsw.PowerStopF

def Pos4 (r : Dbl) : Prop := 0 < r.num ∧ r.num ≤ 4 * r.den ∧ 0 < r.den

theorem pos4_one : Pos4 ⟨1, 1⟩ := ⟨by decide, by decide, by decide⟩

theorem clamp_pos4 (tol ev : Dbl) (htol : 0 ≤ tol.num) (hev : Le 4 ev) : Pos4 (clampEvF tol ev) := by
  unfold clampEvF
  split
  · rename_i h
    -- `0 ≤ tol < ev`, cross-multiplied
    have h' : tol.num * (ev.den : Int) < ev.num * (tol.den : Int) := of_decide_eq_true h
    refine ⟨Int.not_le.1 fun hc => ?_, hev.2.2, hev.1⟩
    exact absurd (Int.lt_of_le_of_lt (Int.mul_nonneg htol (Int.natCast_nonneg _)) h')
      (Int.not_lt.2 (Int.mul_nonpos_of_nonpos_of_nonneg hc (Int.natCast_nonneg _)))
  · exact pos4_one

/-- the median of doubles of `[0, 4]` is defined (the mean of the two middle values does not overflow) and in `[0, 4]`. -/
theorem median_defined (l : List Dbl) (hl : ∀ t ∈ l, Le 4 t) : ∃ m, medianF l = some m ∧ Le 4 m := by
  unfold medianF
  have hs : ∀ t ∈ isort (fun x y => Dbl.le x y) l, Le 4 t := fun t ht => hl t ((mem_isort _ _ _).1 ht)
  have h0 : Le 4 Dbl.zero := le_zero 4 (by decide)
  simp only
  split
  · exact ⟨_, rfl, Power.list_getD_prop (Le 4) _ _ _ h0 hs⟩
  · have h1 := Power.list_getD_prop (Le 4) _ ((isort (fun x y => Dbl.le x y) l).length / 2 - 1) _ h0 hs
    have h2 := Power.list_getD_prop (Le 4) _ ((isort (fun x y => Dbl.le x y) l).length / 2) _ h0 hs
    obtain ⟨t, ht, htl⟩ := add_le 4 4 _ _ h1 h2 (by decide)
    obtain ⟨r, hr, hrl⟩ := div_two 4 (by decide) t htl
    rw [ht, Option.bind_some]
    exact ⟨r, hr, hrl⟩

theorem sub_defined (x y : Dbl) (hx : Le 1 x) (hy : Le 1 y) : ∃ r, Dbl.sub x y = some r := by
  obtain ⟨hxd, hx0, hx1⟩ := hx
  obtain ⟨hyd, hy0, hy1⟩ := hy
  -- both cross products lie in `[0, D]` for the common denominator `D`, so their difference is at most `D`
  have key : ∀ A B D : Int, 0 ≤ A → A ≤ D → 0 ≤ B → B ≤ D → ((A - B).natAbs : Int) ≤ D := by
    intro A B D _ _ _ _
    omega
  have hA := Int.mul_le_mul_of_nonneg_right hx1 (Int.natCast_nonneg y.den)
  have hB := Int.mul_le_mul_of_nonneg_right hy1 (Int.natCast_nonneg x.den)
  rw [Int.one_mul] at hA hB
  rw [Int.mul_comm (y.den : Int)] at hB
  have h := key _ _ _ (Int.mul_nonneg hx0 (Int.natCast_nonneg y.den)) hA
    (Int.mul_nonneg hy0 (Int.natCast_nonneg x.den)) hB
  rw [← Int.natCast_mul] at h
  exact roundDouble_defined (Nat.mul_pos hxd hyd)
    (Nat.le_trans (Int.ofNat_le.1 h) (Nat.le_mul_of_pos_left _ (Nat.pow_pos (by decide))))

theorem maxDiff_defined (n : Nat) (x y : VecF) (hx : ∀ w, Le 1 (x.getD w Dbl.zero))
    (hy : ∀ w, Le 1 (y.getD w Dbl.zero)) : ∃ md, maxDiffF n x y = some md := by
  unfold maxDiffF
  obtain ⟨ds, hds, _⟩ := allSome_map_prop
    (fun v => (Dbl.sub (x.getD v Dbl.zero) (y.getD v Dbl.zero)).map Dbl.abs) (fun _ => True) (List.range n) (by
      intro v _
      obtain ⟨r, hr⟩ := sub_defined _ _ (hx v) (hy v)
      exact ⟨Dbl.abs r, by rw [hr]; rfl, trivial⟩)
  rw [hds]
  exact ⟨_, rfl⟩

/-- `relative_error < tol` (an infinite quotient is not below `tol`). -/
def relLtF (tol ev le : Dbl) : Bool :=
  if Dbl.lt Dbl.zero le then
    match ((Dbl.sub ev le).map Dbl.abs).bind fun d => Dbl.div d le with
    | some rel => Dbl.lt rel tol
    | none => false
  else Dbl.lt Dbl.zero tol

def res1F (tol : Dbl) (relLt : Bool) (md ev : Dbl) : List Dbl :=
  if relLt ∧ Dbl.lt md tol then [clampEvF tol ev] else []

def res2F (tol : Dbl) (maxIter : Nat) (queue : List Dbl) : Option (List Dbl) :=
  if queue.length > maxIter then (medianF queue).map fun m => [clampEvF tol m] else some []

theorem capLoopF_none (a : Acc) (tol : Dbl) (maxIter f : Nat) (last z : VecF) (ev : Dbl) (queue record : List Dbl)
    (hstep : capStepF a last = some (z, ev)) :
    capLoopF a tol maxIter (f + 1) last none queue record =
      capLoopF a tol maxIter f z (some ev) queue (record ++ [clampEvF tol ev]) := by
  rw [capLoopF]
  simp only [hstep]

theorem capLoopF_some (a : Acc) (tol : Dbl) (maxIter f : Nat) (last z : VecF) (ev le : Dbl) (queue record : List Dbl)
    (hstep : capStepF a last = some (z, ev)) :
    capLoopF a tol maxIter (f + 1) last (some le) queue record =
      match maxDiffF a.size z last with
      | some md =>
        (match res2F tol maxIter (queue ++ [ev]) with
         | none => none
         | some res2 =>
           if res1F tol (relLtF tol ev le) md ev ++ res2 ≠ [] then
             some ⟨res1F tol (relLtF tol ev le) md ev ++ res2, record ++ [clampEvF tol ev]⟩
           else capLoopF a tol maxIter f z (some ev) (queue ++ [ev]) (record ++ [clampEvF tol ev]))
      | none => none := by
  rw [capLoopF]
  simp only [hstep]
  rfl

theorem capLoopF_first (a : Acc) (tol : Dbl) (maxIter f : Nat) (ha : a.Closed) (last : VecF) (queue record : List Dbl)
    (hl : VecF.In01 a.size last) :
    ∃ z ev, VecF.In01 a.size z ∧ Le 4 ev ∧
      capLoopF a tol maxIter (f + 1) last none queue record =
        capLoopF a tol maxIter f z (some ev) queue (record ++ [clampEvF tol ev]) := by
  obtain ⟨z, ev, hstep, hev0, hev4, hevd, hz⟩ := step_bounds a last hl ha
  exact ⟨z, ev, hz, ⟨hevd, hev0, hev4⟩, capLoopF_none a tol maxIter f last z ev queue record hstep⟩

/-- a later iteration, from a vector in `[0, 1]` and a queue in `[0, 4]`: nothing fails, vector, estimate and queue stay in
range, and the second result `res2` is the clamped median `m ∈ [0, 4]` exactly when the queue has outgrown `maxIter`. -/
theorem capLoopF_next (a : Acc) (tol : Dbl) (maxIter f : Nat) (ha : a.Closed) (last : VecF) (le : Dbl)
    (queue record : List Dbl) (hl : VecF.In01 a.size last) (hq : ∀ r ∈ queue, Le 4 r) :
    ∃ z ev md m res2, capStepF a last = some (z, ev) ∧ maxDiffF a.size z last = some md ∧ VecF.In01 a.size z ∧ Le 4 ev ∧
      (∀ r ∈ queue ++ [ev], Le 4 r) ∧ Le 4 m ∧
      res2 = (if (queue ++ [ev]).length > maxIter then [clampEvF tol m] else []) ∧
      capLoopF a tol maxIter (f + 1) last (some le) queue record =
        if res1F tol (relLtF tol ev le) md ev ++ res2 ≠ [] then
          some ⟨res1F tol (relLtF tol ev le) md ev ++ res2, record ++ [clampEvF tol ev]⟩
        else capLoopF a tol maxIter f z (some ev) (queue ++ [ev]) (record ++ [clampEvF tol ev]) := by
  obtain ⟨z, ev, hstep, hev0, hev4, hevd, hz⟩ := step_bounds a last hl ha
  have hev : Le 4 ev := ⟨hevd, hev0, hev4⟩
  have hq' : ∀ r ∈ queue ++ [ev], Le 4 r := List.forall_mem_append.2 ⟨hq, List.forall_mem_singleton.2 hev⟩
  obtain ⟨md, hmd⟩ := maxDiff_defined a.size z last (in01_le hz) (in01_le hl)
  obtain ⟨m, hm, hm4⟩ := median_defined _ hq'
  refine ⟨z, ev, md, m, _, hstep, hmd, hz, hev, hq', hm4, rfl, ?_⟩
  rw [capLoopF_some a tol maxIter f last z ev le queue record hstep, hmd]
  unfold res2F
  by_cases hc : (queue ++ [ev]).length > maxIter
  · rw [if_pos hc, if_pos hc, hm]
    rfl
  · rw [if_neg hc, if_neg hc]

theorem capLoopF_bounds (a : Acc) (tol : Dbl) (maxIter : Nat) (ha : a.Closed) (htol : 0 ≤ tol.num) :
    ∀ (f : Nat) (last : VecF) (lastEv : Option Dbl) (queue record : List Dbl) (run : CapRunF),
      VecF.In01 a.size last → (∀ r ∈ queue, Le 4 r) → (∀ r ∈ record, Pos4 r) →
      capLoopF a tol maxIter f last lastEv queue record = some run →
      (∀ r ∈ run.results, Pos4 r) ∧ ∀ r ∈ run.record, Pos4 r := by
  intro f
  induction f with
  | zero => intro last lastEv queue record run _ _ _ h; simp [capLoopF] at h
  | succ f ih =>
    intro last lastEv queue record run hl hq hr h
    cases lastEv with
    | none =>
      obtain ⟨z, ev, hz, hev, heq⟩ := capLoopF_first a tol maxIter f ha last queue record hl
      rw [heq] at h
      exact ih _ _ _ _ _ hz hq
        (List.forall_mem_append.2 ⟨hr, List.forall_mem_singleton.2 (clamp_pos4 _ _ htol hev)⟩) h
    | some le =>
      obtain ⟨z, ev, md, m, res2, _, _, hz, hev, hq', hm, hres2, heq⟩ :=
        capLoopF_next a tol maxIter f ha last le queue record hl hq
      have hrec : ∀ r ∈ record ++ [clampEvF tol ev], Pos4 r :=
        List.forall_mem_append.2 ⟨hr, List.forall_mem_singleton.2 (clamp_pos4 _ _ htol hev)⟩
      rw [heq] at h
      split at h
      · cases h
        refine ⟨fun r hr' => ?_, hrec⟩
        rcases List.mem_append.1 hr' with h' | h'
        · rw [Power.mem_ite_singleton h']; exact clamp_pos4 _ _ htol hev
        · rw [hres2] at h'
          rw [Power.mem_ite_singleton h']; exact clamp_pos4 _ _ htol hm
      · exact ih _ _ _ _ _ hz hq' hrec h

/-- after its first iteration the loop returns: the fuel left plus the length of the queue always reaches `maxIter + 1`,
where the median ends the repeat. -/
theorem capLoopF_total (a : Acc) (tol : Dbl) (maxIter : Nat) (ha : a.Closed) :
    ∀ (f : Nat) (last : VecF) (le : Dbl) (queue record : List Dbl),
      VecF.In01 a.size last → (∀ r ∈ queue, Le 4 r) → queue.length ≤ maxIter → maxIter + 1 ≤ f + queue.length →
      ∃ run, capLoopF a tol maxIter f last (some le) queue record = some run := by
  intro f
  induction f with
  | zero =>
    intro last le queue record _ _ hlen hf
    rw [Nat.zero_add] at hf
    exact absurd (Nat.le_trans hf hlen) (Nat.not_succ_le_self _)
  | succ f ih =>
    intro last le queue record hl hq hlen hf
    obtain ⟨z, ev, md, m, res2, _, _, hz, _, hq', _, hres2, heq⟩ :=
      capLoopF_next a tol maxIter f ha last le queue record hl hq
    have hlen' : (queue ++ [ev]).length = queue.length + 1 := by rw [List.length_append, List.length_singleton]
    rw [heq]
    by_cases hc : (queue ++ [ev]).length > maxIter
    · rw [hres2, if_pos hc, if_pos (List.append_ne_nil_of_right_ne_nil _ (List.cons_ne_nil _ _))]
      exact ⟨_, rfl⟩
    · split
      · exact ⟨_, rfl⟩
      · exact ih _ _ _ _ hz hq' (Nat.le_of_not_lt hc) (by rw [hlen']; omega)

/-- a run that ends with at most `maxIter + 1` recorded estimates ended by the settled rule: the record is one estimate
ahead of the queue, so a short record means that the median did not end the run. -/
theorem capLoopF_settled (a : Acc) (tol : Dbl) (maxIter : Nat) (ha : a.Closed) :
    ∀ (f : Nat) (x0 : VecF) (le : Dbl) (queue record : List Dbl) (run : CapRunF),
      VecF.In01 a.size x0 → (∀ r ∈ queue, Le 4 r) → record.length = queue.length + 1 →
      capLoopF a tol maxIter f x0 (some le) queue record = some run → run.record.length ≤ maxIter + 1 →
      ∃ x z ev md, VecF.In01 a.size x ∧ capStepF a x = some (z, ev) ∧ maxDiffF a.size z x = some md ∧
        Dbl.lt md tol = true ∧ run.results = [clampEvF tol ev] := by
  intro f
  induction f with
  | zero => intro x0 le queue record run _ _ _ h; simp [capLoopF] at h
  | succ f ih =>
    intro x0 le queue record run hx hq hlen h hearly
    obtain ⟨z, ev, md, m, res2, hstep, hmd, hz, _, hq', _, hres2, heq⟩ :=
      capLoopF_next a tol maxIter f ha x0 le queue record hx hq
    have hlen' : (queue ++ [ev]).length = queue.length + 1 := by rw [List.length_append, List.length_singleton]
    rw [heq] at h
    split at h
    · rename_i hne
      cases h
      rw [List.length_append, List.length_singleton] at hearly
      rw [hres2, if_neg (by omega), List.append_nil] at hne ⊢
      unfold res1F at hne ⊢
      by_cases hc : relLtF tol ev le = true ∧ Dbl.lt md tol = true
      · rw [if_pos hc]
        exact ⟨x0, z, ev, md, hx, hstep, hmd, hc.2, rfl⟩
      · rw [if_neg hc] at hne
        exact absurd rfl hne
    · refine ih z ev _ _ run hz hq' ?_ h hearly
      rw [List.length_append, List.length_singleton, hlen', hlen]

theorem zeroDeadF_getD (a : Acc) (x : VecF) (v : Nat) (hv : v < a.size) :
    (zeroDeadF a x).getD v Dbl.zero =
      if (a.getD v #[]).foldl (· + ·) 0 == -4 then Dbl.zero else x.getD v Dbl.zero := by
  unfold zeroDeadF; exact getD_range_map _ _ _ _ hv

theorem zeroDeadF_size (a : Acc) (x : VecF) : (zeroDeadF a x).size = a.size := by simp [zeroDeadF]

theorem zeroDeadF_in01 (a : Acc) (x : VecF) (hx : VecF.In01 a.size x) : VecF.In01 a.size (zeroDeadF a x) := by
  refine ⟨⟨zeroDeadF_size a x, fun v hv => ?_⟩, fun v hv => ?_⟩
  · rw [zeroDeadF_getD a x v hv]
    by_cases c : ((a.getD v #[]).foldl (· + ·) 0 == -4) = true
    · rw [if_pos c]; exact ⟨isB64_zero, le_refl _⟩
    · rw [if_neg c]; exact hx.1.2 v hv
  · rw [zeroDeadF_getD a x v hv]
    by_cases c : ((a.getD v #[]).foldl (· + ·) 0 == -4) = true
    · rw [if_pos c]; decide
    · rw [if_neg c]; exact hx.2 v hv

theorem approximateCapacityF_eq (a : Acc) (tol : Dbl) (maxIter : Nat) (starts : List VecF) :
    approximateCapacityF a tol maxIter starts =
      if a.all (fun r => r.all (· == -1)) then some ([⟨1, 1⟩], starts.map fun _ => [⟨1, 1⟩])
      else starts.foldl (Power.addRun CapRunF.results CapRunF.record fun x0 =>
        capLoopF a tol maxIter (maxIter + 2) (zeroDeadF a x0) none [] []) (some ([], [])) := by
  unfold approximateCapacityF
  congr 2
  funext acc x0
  cases acc with
  | none => rfl
  | some p =>
    obtain ⟨res, recs⟩ := p
    cases hrun : capLoopF a tol maxIter (maxIter + 2) (zeroDeadF a x0) none [] [] <;> simp only [Power.addRun, hrun]

theorem approxF_bounds (a : Acc) (tol : Dbl) (maxIter : Nat) (starts : List VecF) (res : List Dbl)
    (recs : List (List Dbl)) (ha : a.Closed) (htol : 0 ≤ tol.num) (hs : ∀ x ∈ starts, VecF.In01 a.size x)
    (h : approximateCapacityF a tol maxIter starts = some (res, recs)) :
    (∀ r ∈ res, Pos4 r) ∧ ∀ rec ∈ recs, ∀ r ∈ rec, Pos4 r := by
  rw [approximateCapacityF_eq] at h
  split at h
  · cases h
    exact Power.forall_const_runs Pos4 _ pos4_one starts
  · exact Power.foldl_addRun_forall Pos4 starts [] [] res recs
      (fun x0 hx0 run hrun => capLoopF_bounds a tol maxIter ha htol _ _ _ _ _ run
        (zeroDeadF_in01 a x0 (hs x0 hx0)) (by simp) (by simp) hrun) (by simp) (by simp) h

theorem approxF_total (a : Acc) (tol : Dbl) (maxIter : Nat) (starts : List VecF) (ha : a.Closed)
    (hs : ∀ x ∈ starts, VecF.In01 a.size x) :
    ∃ res recs, approximateCapacityF a tol maxIter starts = some (res, recs) := by
  rw [approximateCapacityF_eq]
  split
  · exact ⟨_, _, rfl⟩
  · refine Power.foldl_addRun_some starts [] [] fun x0 hx0 => ?_
    obtain ⟨z, ev, hz, _, heq⟩ :=
      capLoopF_first a tol maxIter (maxIter + 1) ha _ [] [] (zeroDeadF_in01 a x0 (hs x0 hx0))
    rw [heq]
    exact capLoopF_total a tol maxIter ha (maxIter + 1) z ev [] _ hz (by simp) (Nat.zero_le _) (Nat.le_refl _)

end Dsw.PowerF
