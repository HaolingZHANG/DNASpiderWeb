import DswModel.Model.Float
import Mathlib.Tactic.Linarith
/-!
# The rounding model (`Model/Float.lean`) taken apart

`roundPos` is a choice of exponent followed by `rne`, the round-half-even division; `roundDouble` is a zero test, an
overflow test on the result of `roundPos`, and a sign put in front of the value `magNum / magDen` of that result
(`roundDouble_eq_ite`). Here are these equations and what follows from them alone: the denominator of a result is
positive, negating the input negates the result. What the rounding does to a value is in `FloatSpec*.lean`.
-/
namespace Dsw

/-- the rounding step of `roundPos`: `num / den` rounded to the nearest natural, ties to even. -/
def rne (num den : Nat) : Nat :=
  let m := num / den
  let r := num % den
  if 2 * r > den ∨ (2 * r = den ∧ m % 2 = 1) then m + 1 else m

theorem rne_ge {J num den : Nat} (hd : 0 < den) (h : J * den ≤ num) : J ≤ rne num den := by
  have h1 : J ≤ num / den := (Nat.le_div_iff_mul_le hd).2 h
  unfold rne
  simp only
  split <;> omega

theorem rne_le {J num den : Nat} (hd : 0 < den) (h : num ≤ J * den) : rne num den ≤ J := by
  have h1 : num / den ≤ J := by
    have : num / den * den ≤ J * den := Nat.le_trans (Nat.div_mul_le_self num den) h
    exact Nat.le_of_mul_le_mul_right this hd
  rcases Nat.lt_or_eq_of_le h1 with hlt | heq
  · unfold rne
    simp only
    split <;> omega
  · have hr : num % den = 0 := by
      have h2 := Nat.div_add_mod num den
      rw [heq, Nat.mul_comm] at h2
      omega
    unfold rne
    simp only [hr]
    split <;> omega

theorem roundPos_eq (n d : Nat) :
    roundPos n d =
      (rne (if max (ratLog2 n d - 52) (-1074) < 0 then n * 2 ^ (-(max (ratLog2 n d - 52) (-1074))).toNat else n)
           (if max (ratLog2 n d - 52) (-1074) < 0 then d else d * 2 ^ (max (ratLog2 n d - 52) (-1074)).toNat),
       max (ratLog2 n d - 52) (-1074)) := rfl

/-- numerator of the value `m * 2^e` of a `roundPos` result, as a fraction `magNum / magDen`. -/
def magNum (p : Nat × Int) : Nat := if p.2 ≥ 0 then p.1 * 2 ^ p.2.toNat else p.1
/-- denominator of the value `m * 2^e`. -/
def magDen (p : Nat × Int) : Nat := if p.2 ≥ 0 then 1 else 2 ^ (-p.2).toNat

theorem magDen_pos (p : Nat × Int) : 0 < magDen p := by
  unfold magDen
  split
  · omega
  · exact Nat.pow_pos (by omega)

theorem roundDouble_of_zero {num : Int} {den : Nat} (h0 : num = 0 ∨ den = 0) : roundDouble num den = some ⟨0, 1⟩ :=
  if_pos h0

theorem roundDouble_zero (den : Nat) : roundDouble 0 den = some ⟨0, 1⟩ := roundDouble_of_zero (Or.inl rfl)

theorem roundDouble_eq_ite {num : Int} {den : Nat} (hnum : num ≠ 0) (hden : den ≠ 0) :
    roundDouble num den =
      if (roundPos num.natAbs den).2 > 971 ∨
          ((roundPos num.natAbs den).2 = 971 ∧ (roundPos num.natAbs den).1 ≥ 2 ^ 53) then none
      else some ⟨(if num < 0 then -1 else 1) * (magNum (roundPos num.natAbs den) : Int),
                 magDen (roundPos num.natAbs den)⟩ := by
  have h0 : ¬ (num = 0 ∨ den = 0) := by omega
  unfold roundDouble magNum magDen
  rw [if_neg h0]
  rcases roundPos num.natAbs den with ⟨m, e⟩
  dsimp only
  by_cases hov : e > 971 ∨ (e = 971 ∧ m ≥ 2 ^ 53)
  · rw [if_pos hov, if_pos hov]
  · by_cases he : e ≥ 0
    · rw [if_neg hov, if_neg hov, if_pos he, if_pos he, if_pos he]
    · rw [if_neg hov, if_neg hov, if_neg he, if_neg he, if_neg he]

theorem roundDouble_some {num : Int} {den : Nat} {r : Dbl} (hnum : num ≠ 0) (hden : den ≠ 0)
    (h : roundDouble num den = some r) :
    r.num = (if num < 0 then -1 else 1) * (magNum (roundPos num.natAbs den) : Int) ∧
      r.den = magDen (roundPos num.natAbs den) := by
  rw [roundDouble_eq_ite hnum hden] at h
  split at h
  · cases h
  · cases h
    exact ⟨rfl, rfl⟩

theorem roundDouble_den_pos {num : Int} {den : Nat} {r : Dbl} (h : roundDouble num den = some r) : 0 < r.den := by
  by_cases h0 : num = 0 ∨ den = 0
  · rw [roundDouble_of_zero h0] at h
    cases h
    exact Nat.one_pos
  · rw [(roundDouble_some (by omega) (by omega) h).2]
    exact magDen_pos _

theorem roundDouble_neg {num : Int} {den : Nat} {r : Dbl} (hr : roundDouble num den = some r) :
    roundDouble (-num) den = some ⟨-r.num, r.den⟩ := by
  by_cases h0 : num = 0 ∨ den = 0
  · rw [roundDouble_of_zero h0] at hr
    cases hr
    exact roundDouble_of_zero (by omega)
  · have hnum : num ≠ 0 := by omega
    rw [roundDouble_eq_ite hnum (by omega)] at hr
    rw [roundDouble_eq_ite (Int.neg_ne_zero.2 hnum) (by omega), Int.natAbs_neg]
    split at hr
    · cases hr
    · rename_i hov
      cases hr
      rw [if_neg hov]
      dsimp only
      by_cases hneg : num < 0
      · rw [if_pos hneg, if_neg (by omega : ¬ -num < 0), Int.neg_mul, Int.neg_neg]
      · rw [if_neg hneg, if_pos (by omega : -num < 0), Int.neg_mul]

end Dsw
