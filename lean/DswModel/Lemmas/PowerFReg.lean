import DswModel.Lemmas.PowerFInt
import DswModel.Lemmas.PowerFLoop
/-!
# Helper lemmas for C17d: regular graphs in double precision

With the indicator vector of the vertices that have an arc, one step of `capStepF` returns the estimate `canon d`
and the (canonical) indicator vector again; the second step is literally the same, so the loop stops.
-/
namespace Dsw.PowerF
open Dsw.FloatErr Dsw.PowerStopF

def ind (a : Acc) (v : Nat) : Nat := if a.live (v : Int) ≠ [] then 1 else 0

/-- `x` is (entry by entry, as values) the indicator vector of the vertices that have an arc. -/
def IsIndF (a : Acc) (x : VecF) : Prop := ∀ v : Nat, IsInt (x.getD v Dbl.zero) (ind a v)

def indList (a : Acc) (d : Nat) : List Dbl :=
  (List.range a.size).map fun (v : Nat) => canon (if a.live (v : Int) ≠ [] then d else 0)

def indVec (a : Acc) : VecF := (indList a 1).toArray

theorem indVec_getD (a : Acc) (v : Nat) (hv : v < a.size) :
    (indVec a).getD v Dbl.zero = canon (if a.live (v : Int) ≠ [] then 1 else 0) := by
  unfold indVec indList
  apply toArray_getD
  rw [List.getElem?_map, List.getElem?_range hv]
  rfl

theorem indVec_size (a : Acc) : (indVec a).size = a.size := by simp [indVec, indList]

theorem indVec_isInd (a : Acc) : IsIndF a (indVec a) := by
  intro v
  by_cases hv : v < a.size
  · rw [indVec_getD a v hv]
    exact canon_isInt _
  · rw [getD_of_size_le _ _ _ (by rw [indVec_size]; omega)]
    unfold ind
    rw [if_neg (not_not.2 (Acc.live_oob a v (Nat.le_of_not_lt hv)))]
    exact isInt_zero

theorem zeroDeadF_ones_ind {k : Nat} {a : Acc} (hw : WFdB k a) :
    IsIndF a (zeroDeadF a (Array.replicate a.size ⟨1, 1⟩)) := by
  intro v
  unfold ind
  by_cases hv : v < a.size
  · rw [zeroDeadF_getD a _ v hv]
    have h1 : (Array.replicate a.size (⟨1, 1⟩ : Dbl)).getD v Dbl.zero = ⟨1, 1⟩ := by simp [Array.getD, hv]
    by_cases hl : a.live (v : Int) = []
    · rw [if_pos ((Power.rowSum_iff hw hv).2 hl), if_neg (not_not.2 hl)]
      exact isInt_zero
    · rw [if_neg (fun c => hl ((Power.rowSum_iff hw hv).1 c)), h1, if_pos hl]
      exact isInt_one
  · rw [getD_of_size_le _ _ _ (by rw [zeroDeadF_size]; omega),
      if_neg (not_not.2 (Acc.live_oob a v (Nat.le_of_not_lt hv)))]
    exact isInt_zero

section regular
variable {k d : Nat} {a : Acc} (hw : WFdB k a) (hd : 1 ≤ d)
  (hlive : ∃ v : Nat, v < 4 ^ k ∧ a.live (v : Int) ≠ [])
  (hreg : ∀ v : Nat, v < 4 ^ k → a.live (v : Int) ≠ [] → liveSucc a v = d)

include hw hreg in
theorem rowSum_ind (x : VecF) (hx : IsIndF a x) (v : Nat) (hv : v < a.size) :
    rowSumF a x v = some (canon (if a.live (v : Int) ≠ [] then d else 0)) := by
  have hv' : v < 4 ^ k := by rw [← hw.1]; exact hv
  -- the live successors of `v` that have an arc themselves, counted by the sum of their indicators
  have hsum : ((a.liveEntries (v : Int)).map (ind a)).sum = liveSucc a v := by
    unfold liveSucc
    apply sum_map_ite
    intro w _
    simp only [ind, decide_eq_true_eq]
  have hlen : 0 + ((a.liveEntries (v : Int)).map (ind a)).sum < 2 ^ 52 := by
    rw [hsum, Nat.zero_add]
    unfold liveSucc
    exact Nat.lt_of_le_of_lt
      (Nat.le_trans (List.length_filter_le _ _) (Power.liveEntries_length_le a (v : Int))) (by decide)
  have hfold : rowSumF a x v = (a.liveEntries (v : Int)).foldl (PowerStopF.addStep x) (some (canon 0)) := rfl
  rw [hfold, rowFold_int x (ind a) _ 0 (fun w _ => hx w) hlen, Nat.zero_add, hsum]
  by_cases hl : a.live (v : Int) = []
  · have : a.liveEntries (v : Int) = [] := by unfold Acc.liveEntries; rw [hl]; rfl
    unfold liveSucc
    rw [this, if_neg (not_not.2 hl)]
    rfl
  · rw [hreg v hv' hl, if_pos hl]

include hw hd hlive hreg in
theorem capStepF_ind (x : VecF) (hx : IsIndF a x) : capStepF a x = some (indVec a, canon d) := by
  have hcd := canon_isInt d
  have hcpos : 0 < (canon d).num := isInt_num_pos hcd hd
  have hrows : ((List.range a.size).map fun v => rowSumF a x v) =
      (List.range a.size).map fun (v : Nat) => some (canon (if a.live (v : Int) ≠ [] then d else 0)) :=
    List.map_congr_left fun v hv => rowSum_ind hw hreg x hx v (List.mem_range.1 hv)
  have hy : allSome ((List.range a.size).map fun v => rowSumF a x v) = some (indList a d) := by
    rw [hrows]
    exact allSome_map_some (fun (v : Nat) => canon (if a.live (v : Int) ≠ [] then d else 0)) _
  have hev : (indList a d).foldl Dbl.maxD Dbl.zero = canon d := by
    apply foldl_maxD_two _ hcpos hcd.1
    · intro t ht
      obtain ⟨v, _, rfl⟩ := List.mem_map.1 ht
      by_cases hl : a.live (v : Int) = []
      · rw [if_neg (not_not.2 hl)]; exact Or.inl rfl
      · rw [if_pos hl]; exact Or.inr rfl
    · obtain ⟨v, hv, hl⟩ := hlive
      refine List.mem_map.2 ⟨v, List.mem_range.2 (by rw [hw.1]; exact hv), ?_⟩
      rw [if_pos hl]
  have hdiv : ((indList a d).map fun t => Dbl.div t (canon d)) =
      (List.range a.size).map fun (v : Nat) => some (canon (if a.live (v : Int) ≠ [] then 1 else 0)) := by
    unfold indList
    rw [List.map_map]
    apply List.map_congr_left
    intro v _
    simp only [Function.comp]
    by_cases hl : a.live (v : Int) = []
    · rw [if_neg (not_not.2 hl), if_neg (not_not.2 hl)]
      exact div_int _ _ 0 d 0 (canon_isInt 0) hcd hd (Nat.zero_mul d).symm (by decide)
    · rw [if_pos hl, if_pos hl]
      exact div_int _ _ d d 1 hcd hcd hd (Nat.one_mul d).symm (by decide)
  have hzl : allSome ((indList a d).map fun t => Dbl.div t ((indList a d).foldl Dbl.maxD Dbl.zero)) =
      some (indList a 1) := by
    rw [hev, hdiv]
    exact allSome_map_some (fun (v : Nat) => canon (if a.live (v : Int) ≠ [] then 1 else 0)) _
  have hlt : Dbl.lt Dbl.zero ((indList a d).foldl Dbl.maxD Dbl.zero) = true := by
    rw [hev]; exact (lt_zero_iff _).2 hcpos
  have := capStepF_pos a x _ _ hy hlt hzl
  rw [hev] at this
  exact this

end regular

theorem maxDiffF_self (n : Nat) (z : VecF) : maxDiffF n z z = some Dbl.zero := by
  unfold maxDiffF
  have : ((List.range n).map fun v => (Dbl.sub (z.getD v Dbl.zero) (z.getD v Dbl.zero)).map Dbl.abs) =
      (List.range n).map fun _ => some Dbl.zero := by
    apply List.map_congr_left
    intro v _
    rw [dbl_sub_self]
    rfl
  rw [this, allSome_map_some, Option.map_some]
  exact congrArg some (foldl_maxD_prop (· = Dbl.zero) _ Dbl.zero rfl fun t ht => by
    obtain ⟨_, _, rfl⟩ := List.mem_map.1 ht
    rfl)

theorem relLtF_self (tol c : Dbl) (hc : 0 < c.num) : relLtF tol c c = Dbl.lt Dbl.zero tol := by
  unfold relLtF
  rw [if_pos ((lt_zero_iff c).2 hc), dbl_sub_self]
  simp only [Option.map_some, Option.bind_some, abs_zero]
  rw [zero_div c hc]

theorem clamp_int (tol c : Dbl) (d : Nat) (hc : IsInt c d) (hd : 1 ≤ d) (ht : tol.num < tol.den) :
    clampEvF tol c = c := by
  -- `tol < 1 ≤ d`, cross-multiplied
  have h1 : tol.num * (c.den : Int) < (tol.den : Int) * (c.den : Int) :=
    Int.mul_lt_mul_of_pos_right ht (Int.natCast_pos.2 hc.1)
  have h2 : (1 : Int) * ((c.den : Int) * (tol.den : Int)) ≤ (d : Int) * ((c.den : Int) * (tol.den : Int)) :=
    Int.mul_le_mul_of_nonneg_right (Int.ofNat_le.2 hd) (Int.mul_nonneg (Int.natCast_nonneg _) (Int.natCast_nonneg _))
  rw [Int.one_mul, ← Int.mul_assoc, Int.mul_comm (c.den : Int) tol.den, ← hc.2] at h2
  have : Dbl.lt tol c = true := decide_eq_true (Int.lt_of_lt_of_le h1 h2)
  unfold clampEvF
  rw [this]
  rfl

theorem capLoopF_regular {k d : Nat} {a : Acc} (tol : Dbl) (maxIter : Nat) (hw : WFdB k a) (hd : 1 ≤ d)
    (htol : 0 < tol.num ∧ tol.num < tol.den) (hmax : 1 ≤ maxIter)
    (hlive : ∃ v : Nat, v < 4 ^ k ∧ a.live (v : Int) ≠ [])
    (hreg : ∀ v : Nat, v < 4 ^ k → a.live (v : Int) ≠ [] → liveSucc a v = d)
    (x : VecF) (hx : IsIndF a x) :
    capLoopF a tol maxIter (maxIter + 2) x none [] [] = some ⟨[canon d], [canon d, canon d]⟩ := by
  have h1 := capStepF_ind hw hd hlive hreg x hx
  have h2 := capStepF_ind hw hd hlive hreg _ (indVec_isInd a)
  have hcd := canon_isInt d
  have hcpos : 0 < (canon d).num := isInt_num_pos hcd hd
  have hclamp := clamp_int tol (canon d) d hcd hd htol.2
  have hzt : Dbl.lt Dbl.zero tol = true := (lt_zero_iff tol).2 htol.1
  have hres1 : res1F tol true Dbl.zero (canon d) = [canon d] := by
    unfold res1F
    rw [if_pos ⟨rfl, hzt⟩, hclamp]
  have hres2 : res2F tol maxIter ([] ++ [canon d]) = some [] := by
    unfold res2F
    exact if_neg (Nat.not_lt.2 hmax)
  rw [show maxIter + 2 = (maxIter + 1) + 1 from rfl, capLoopF_none a tol maxIter (maxIter + 1) x _ _ [] [] h1,
    capLoopF_some a tol maxIter maxIter _ _ _ (canon d) [] _ h2, relLtF_self _ _ hcpos, hzt, maxDiffF_self]
  simp only [hres2, hres1, hclamp]
  exact if_pos (List.cons_ne_nil _ _)

end Dsw.PowerF
