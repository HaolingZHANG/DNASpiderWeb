import DswModel.Model.Biofilter
import DswModel.Props.FloatSpec
/-!
`Dbl.floor` / `Dbl.ceil` as integer bounds, the products `x * float(k)` for `x ∈ [0, 1]` and the difference `float(k) − a`
of `floatGcRule`, and what a successful `floatGcRule` consists of; `Props/C02b.lean` draws the consequences.
-/
namespace Dsw

theorem Dbl.floor_eq (x : Dbl) : x.floor = x.num / (x.den : Int) := by
  unfold Dbl.floor
  exact Int.fdiv_eq_ediv_of_nonneg _ (by omega)

theorem Dbl.ceil_eq (x : Dbl) : x.ceil = -((-x.num) / (x.den : Int)) := by
  unfold Dbl.ceil
  rw [Int.fdiv_eq_ediv_of_nonneg _ (by omega)]

theorem Dbl.le_floor {x : Dbl} {N : Int} (hd : 0 < x.den) (h : N * x.den ≤ x.num) : N ≤ x.floor := by
  rw [Dbl.floor_eq]
  exact (Int.le_ediv_iff_mul_le (by omega)).2 h

theorem Dbl.floor_le {x : Dbl} {N : Int} (hd : 0 < x.den) (h : x.num ≤ N * x.den) : x.floor ≤ N := by
  rw [Dbl.floor_eq]
  have hd' : (0 : Int) < (x.den : Int) := by omega
  have h1 : x.num / (x.den : Int) * (x.den : Int) ≤ x.num := Int.ediv_mul_le _ (by omega)
  have h2 : x.num / (x.den : Int) * (x.den : Int) ≤ N * (x.den : Int) := Int.le_trans h1 h
  exact Int.le_of_mul_le_mul_right h2 hd'

theorem Dbl.le_ceil_mul {x : Dbl} (hd : 0 < x.den) : x.num ≤ x.ceil * x.den := by
  rw [Dbl.ceil_eq]
  have h1 : (-x.num) / (x.den : Int) * (x.den : Int) ≤ -x.num := Int.ediv_mul_le _ (by omega)
  rw [Int.neg_mul]
  omega

theorem Dbl.ceil_le {x : Dbl} {N : Int} (hd : 0 < x.den) (h : x.num ≤ N * x.den) : x.ceil ≤ N := by
  rw [Dbl.ceil_eq]
  have : -N ≤ (-x.num) / (x.den : Int) := by
    apply (Int.le_ediv_iff_mul_le (by omega)).2
    rw [Int.neg_mul]
    omega
  omega

theorem Dbl.le_ceil {x : Dbl} {N : Int} (hd : 0 < x.den) (h : N * x.den ≤ x.num) : N ≤ x.ceil := by
  have h1 := Dbl.le_ceil_mul hd
  have hd' : (0 : Int) < (x.den : Int) := by omega
  exact Int.le_of_mul_le_mul_right (Int.le_trans h h1) hd'

theorem Dbl.mul_spec {x fk : Dbl} {k : Nat} (hden : 0 < x.den) (h0 : 0 ≤ x.num) (h1 : x.num ≤ x.den)
    (hk : k ≤ 2 ^ 53) (hfk : fk.num = k * fk.den) (hfd : 0 < fk.den) :
    ∃ a, x.mul fk = some a ∧ 0 < a.den ∧ 0 ≤ a.num ∧ a.num ≤ k * a.den := by
  have hkf : (0 : Int) ≤ (k : Int) * (fk.den : Int) := Int.mul_nonneg (Int.natCast_nonneg _) (Int.natCast_nonneg _)
  unfold Dbl.mul
  rw [hfk]
  apply roundDouble_range (Nat.mul_pos hden hfd) (by omega) (Int.mul_nonneg h0 hkf)
  calc x.num * ((k : Int) * (fk.den : Int)) ≤ (x.den : Int) * ((k : Int) * (fk.den : Int)) :=
        Int.mul_le_mul_of_nonneg_right h1 hkf
    _ = (k : Int) * ((x.den * fk.den : Nat) : Int) := by rw [Int.natCast_mul, Int.mul_left_comm]

theorem Dbl.mul_range {x fk a : Dbl} {k : Nat} (hden : 0 < x.den) (h0 : 0 ≤ x.num) (h1 : x.num ≤ x.den)
    (hk : k ≤ 2 ^ 53) (hfk : fk.num = k * fk.den) (hfd : 0 < fk.den) (ha : x.mul fk = some a) :
    0 < a.den ∧ 0 ≤ a.num ∧ a.num ≤ k * a.den := by
  obtain ⟨a', ha', h⟩ := Dbl.mul_spec hden h0 h1 hk hfk hfd
  cases ha.symm.trans ha'
  exact h

/-- the exact difference is `(k · a.den − a.num) / a.den`, in `[0, k]`. -/
theorem Dbl.sub_defined {fk a : Dbl} {k : Nat} (hk : k ≤ 2 ^ 53) (hfk : fk.num = k * fk.den) (hfd : 0 < fk.den)
    (had : 0 < a.den) (ha0 : 0 ≤ a.num) (ha1 : a.num ≤ k * a.den) : ∃ c, fk.sub a = some c := by
  have e : fk.num * (a.den : Int) - a.num * (fk.den : Int) = ((k : Int) * (a.den : Int) - a.num) * (fk.den : Int) := by
    rw [hfk, Int.sub_mul, Int.mul_right_comm]
  unfold Dbl.sub
  rw [e]
  obtain ⟨c, hc, _⟩ := roundDouble_range (num := ((k : Int) * (a.den : Int) - a.num) * (fk.den : Int)) (j := k)
    (Nat.mul_pos hfd had) (by omega)
    (Int.mul_nonneg (by omega) (Int.natCast_nonneg fk.den)) (by
      rw [Int.natCast_mul, Int.mul_comm (fk.den : Int), ← Int.mul_assoc]
      exact Int.mul_le_mul_of_nonneg_right (by omega) (Int.natCast_nonneg _))
  exact ⟨c, hc⟩

theorem floatGcRule_some {lo hi : Dbl} {k : Nat} {g : GcRule} (hk : k ≤ 2 ^ 53)
    (hg : floatGcRule lo hi k = some g) :
    ∃ fk a b c : Dbl, fk.num = (k : Int) * fk.den ∧ 0 < fk.den ∧ lo.mul fk = some a ∧ hi.mul fk = some b ∧
      fk.sub a = some c ∧ g.gcLo = a.ceil ∧ g.gcHi = b.floor ∧ g.atHi = c.floor := by
  obtain ⟨fk, hfk, hnum, hden⟩ := roundDouble_int_exact (k : Int) (by simpa using hk)
  unfold floatGcRule Dbl.ofInt at hg
  rw [hfk] at hg
  simp only at hg
  split at hg
  · rename_i a b ha hb
    split at hg
    · rename_i c hc
      cases hg
      exact ⟨fk, a, b, c, hnum, hden, ha, hb, hc, rfl, rfl, rfl⟩
    · cases hg
  · cases hg

end Dsw
