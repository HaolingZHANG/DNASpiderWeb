import DswModel.Lemmas.PowerF
/-!
# Helper lemmas for C17d: small integers in the rounding model, literally

`roundDouble` returns one fixed representative `canon j` for every fraction whose value is the natural number
`j < 2^52`; so sums of ones, `d / d`, `0 / d`, `d − d` are computed exactly AND to literally equal structures.
-/
namespace Dsw.PowerF
open Dsw.FloatErr Dsw.PowerStopF

/-- the representative `roundDouble` returns for the value `j`. -/
def canon (j : Nat) : Dbl :=
  if j = 0 then ⟨0, 1⟩ else ⟨((j * 2 ^ (52 - Nat.log2 j) : Nat) : Int), 2 ^ (52 - Nat.log2 j)⟩

def IsInt (x : Dbl) (j : Nat) : Prop := 0 < x.den ∧ x.num = (j : Int) * x.den

theorem canon_zero : canon 0 = Dbl.zero := rfl

theorem canon_isInt (j : Nat) : IsInt (canon j) j := by
  unfold canon IsInt
  by_cases h : j = 0
  · subst h
    simp
  · rw [if_neg h]
    refine ⟨Nat.pow_pos (by omega), ?_⟩
    push_cast
    rfl

theorem isInt_zero : IsInt Dbl.zero 0 := canon_isInt 0

theorem isInt_one : IsInt ⟨1, 1⟩ 1 := ⟨by decide, by decide⟩

theorem rne_mul (K den : Nat) (hden : 0 < den) : rne (K * den) den = K := by
  unfold rne
  simp only [Nat.mul_div_cancel K hden, Nat.mul_mod_left K den, Nat.mul_zero]
  rw [if_neg]
  omega

/-- `ratLog2` is determined by its specification (for a fraction `≥ 1`). -/
theorem ratLog2_eq (n d L : Nat) (hd : 0 < d) (h1 : d * 2 ^ L ≤ n) (h2 : n < d * 2 ^ (L + 1)) :
    ratLog2 n d = (L : Int) := by
  have hdn : ¬ n < d := Nat.not_lt.2 (Nat.le_trans (Nat.le_mul_of_pos_right _ (Nat.two_pow_pos L)) h1)
  obtain ⟨hlo, hhi⟩ := ratLog2_spec' n d (Nat.lt_of_lt_of_le hd (Nat.not_lt.1 hdn)) hd
  generalize ratLog2 n d = R at hlo hhi
  -- an exponent `R < 0` would mean `n < d`
  rcases Int.lt_trichotomy (R + 1) 0 with h | h | h
  · rw [if_neg (Int.not_le.2 h)] at hhi
    exact absurd (Nat.lt_of_le_of_lt (Nat.le_mul_of_pos_right n (Nat.two_pow_pos _)) hhi) hdn
  · rw [h, if_pos (Int.le_refl 0), Int.toNat_zero, Nat.pow_zero, Nat.mul_one] at hhi
    exact absurd hhi hdn
  · have hge : 0 ≤ R := Int.lt_add_one_iff.1 h
    obtain ⟨r, rfl⟩ := Int.eq_ofNat_of_zero_le hge
    rw [if_pos hge, Int.toNat_natCast] at hlo
    rw [if_pos (Int.le_of_lt h), show ((r : Int) + 1) = ((r + 1 : Nat) : Int) from rfl, Int.toNat_natCast] at hhi
    have a : L < r + 1 := (Nat.pow_lt_pow_iff_right (by decide)).1
      (Nat.lt_of_mul_lt_mul_left (Nat.lt_of_le_of_lt h1 hhi))
    have b : r < L + 1 := (Nat.pow_lt_pow_iff_right (by decide)).1
      (Nat.lt_of_mul_lt_mul_left (Nat.lt_of_le_of_lt hlo h2))
    exact congrArg _ (Nat.le_antisymm (Nat.lt_succ_iff.1 b) (Nat.lt_succ_iff.1 a))

/-- a natural number `j < 2^52` over any denominator: the last place is `2^-(52 - log2 j)` and nothing is lost. -/
theorem roundPos_int (j den : Nat) (hj0 : j ≠ 0) (hj : j < 2 ^ 52) (hden : 0 < den) :
    roundPos (j * den) den = (j * 2 ^ (52 - Nat.log2 j), -((52 - Nat.log2 j : Nat) : Int)) := by
  have hlog : ratLog2 (j * den) den = (Nat.log2 j : Int) := by
    apply ratLog2_eq _ _ _ hden
    · rw [Nat.mul_comm]; exact Nat.mul_le_mul_right den (Nat.log2_self_le hj0)
    · rw [Nat.mul_comm den]; exact Nat.mul_lt_mul_of_pos_right Nat.lt_log2_self hden
  have hL : Nat.log2 j < 52 := (Nat.log2_lt hj0).2 hj
  rw [roundPos_eq, hlog]
  generalize Nat.log2 j = L at hL
  have he : (L : Int) - 52 = -((52 - L : Nat) : Int) := by
    rw [Int.ofNat_sub (Nat.le_of_lt hL), Int.neg_sub]
    rfl
  have hneg : -((52 - L : Nat) : Int) < 0 := Int.neg_neg_of_pos (Int.natCast_pos.2 (Nat.sub_pos_of_lt hL))
  have hmax : max (-((52 - L : Nat) : Int)) (-1074) = -((52 - L : Nat) : Int) :=
    max_eq_left (Int.neg_le_neg (Int.ofNat_le.2 (Nat.le_trans (Nat.sub_le 52 L) (by decide))))
  rw [he, hmax, if_pos hneg, if_pos hneg, Int.neg_neg, Int.toNat_natCast, Nat.mul_right_comm, rne_mul _ _ hden]

theorem round_int (j : Nat) (hj : j < 2 ^ 52) (num : Int) (den : Nat) (hden : 0 < den)
    (h : num = (j : Int) * den) : roundDouble num den = some (canon j) := by
  subst h
  by_cases hj0 : j = 0
  · subst hj0
    rw [Int.natCast_zero, Int.zero_mul, roundDouble_zero]
    rfl
  · have hk : 0 < 52 - Nat.log2 j := Nat.sub_pos_of_lt ((Nat.log2_lt hj0).2 hj)
    have hneg : ¬ (-((52 - Nat.log2 j : Nat) : Int) ≥ 0) := Int.not_le.2 (Int.neg_neg_of_pos (Int.natCast_pos.2 hk))
    have hov : ¬ (-((52 - Nat.log2 j : Nat) : Int) > 971 ∨
        (-((52 - Nat.log2 j : Nat) : Int) = 971 ∧ j * 2 ^ (52 - Nat.log2 j) ≥ 2 ^ 53)) := by omega
    rw [← Int.natCast_mul, roundDouble_eq_ite (Int.natCast_ne_zero.2 (Nat.mul_ne_zero hj0 (Nat.ne_of_gt hden)))
      (Nat.ne_of_gt hden), Int.natAbs_natCast, roundPos_int j den hj0 hj hden, if_neg hov,
      if_neg (Int.not_lt.2 (Int.natCast_nonneg _)), Int.one_mul]
    unfold magNum magDen canon
    rw [if_neg hneg, if_neg hneg, if_neg hj0, Int.neg_neg, Int.toNat_natCast]

theorem isInt_num_pos {x : Dbl} {d : Nat} (hx : IsInt x d) (hd : 0 < d) : 0 < x.num := by
  rw [hx.2]
  exact Int.mul_pos (Int.natCast_pos.2 hd) (Int.natCast_pos.2 hx.1)

theorem add_int (s t : Dbl) (i b : Nat) (hs : IsInt s i) (ht : IsInt t b) (hib : i + b < 2 ^ 52) :
    Dbl.add s t = some (canon (i + b)) := by
  unfold Dbl.add
  apply round_int (i + b) hib _ _ (Nat.mul_pos hs.1 ht.1)
  rw [hs.2, ht.2, Int.natCast_add, Int.natCast_mul, Int.add_mul, Int.mul_assoc, Int.mul_assoc,
    Int.mul_comm (t.den : Int)]

theorem div_int (t e : Dbl) (c d b : Nat) (ht : IsInt t c) (he : IsInt e d) (hd : 0 < d) (hc : c = b * d)
    (hb : b < 2 ^ 52) : Dbl.div t e = some (canon b) := by
  have hepos := isInt_num_pos he hd
  rw [div_eq t e hepos]
  apply round_int b hb _ _ (Nat.mul_pos ht.1 (Int.pos_iff_toNat_pos.1 hepos))
  rw [Int.natCast_mul, Int.toNat_of_nonneg (Int.le_of_lt hepos), ht.2, he.2, hc, Int.natCast_mul]
  ac_rfl

theorem dbl_sub_self (t : Dbl) : Dbl.sub t t = some Dbl.zero := by
  unfold Dbl.sub
  rw [Int.sub_self, roundDouble_zero]
  rfl

theorem abs_zero : Dbl.abs Dbl.zero = Dbl.zero := rfl

theorem zero_div (e : Dbl) (he : 0 < e.num) : Dbl.div Dbl.zero e = some Dbl.zero := by
  rw [div_eq _ e he, show Dbl.zero.num = 0 from rfl, Int.zero_mul, roundDouble_zero]
  rfl

theorem rowFold_int (x : VecF) (c : Nat → Nat) :
    ∀ (l : List Nat) (i : Nat), (∀ w ∈ l, IsInt (x.getD w Dbl.zero) (c w)) → i + (l.map c).sum < 2 ^ 52 →
      l.foldl (PowerStopF.addStep x) (some (canon i)) = some (canon (i + (l.map c).sum))
  | [], i, _, _ => rfl
  | w :: l, i, hl, hb => by
    rw [List.map_cons, List.sum_cons, ← Nat.add_assoc] at hb ⊢
    have hadd : PowerStopF.addStep x (some (canon i)) w = some (canon (i + c w)) :=
      add_int _ _ i (c w) (canon_isInt i) (hl w (by simp)) (Nat.lt_of_le_of_lt (Nat.le_add_right _ _) hb)
    rw [List.foldl_cons, hadd]
    exact rowFold_int x c l (i + c w) (fun w' hw' => hl w' (by simp [hw'])) hb

theorem sum_map_ite (p : Nat → Bool) (c : Nat → Nat) :
    ∀ l : List Nat, (∀ w ∈ l, c w = if p w then 1 else 0) → (l.map c).sum = (l.filter p).length
  | [], _ => rfl
  | w :: l, h => by
    rw [List.map_cons, List.sum_cons, sum_map_ite p c l fun w' hw' => h w' (by simp [hw']), h w (by simp),
      List.filter_cons]
    split
    · rw [List.length_cons, Nat.add_comm]
    · rw [Nat.zero_add]

theorem allSome_map_some {α β} (f : α → β) : ∀ l : List α, allSome (l.map fun v => some (f v)) = some (l.map f)
  | [] => rfl
  | v :: l => by
    simp only [List.map_cons, allSome, allSome_map_some f l, Option.map_some]

/-- among the values `0` and `c > 0`, with `c` present, the maximum is `c`: it is one of the two, and not below `c`. -/
theorem foldl_maxD_two (c : Dbl) (hc : 0 < c.num) (hcd : 0 < c.den) (l : List Dbl)
    (h : ∀ t ∈ l, t = Dbl.zero ∨ t = c) (hm : c ∈ l) : l.foldl Dbl.maxD Dbl.zero = c := by
  rcases foldl_maxD_prop (fun t => t = Dbl.zero ∨ t = c) l Dbl.zero (Or.inl rfl) h with h0 | h0
  · have hden : ∀ t ∈ l, 0 < t.den := by
      intro t ht
      rcases h t ht with rfl | rfl
      · exact Nat.one_pos
      · exact hcd
    have hge := (foldl_maxD_ge l Dbl.zero Nat.one_pos hden).2 c hm
    rw [h0, toRat_zero] at hge
    exact absurd hge (not_le.2 (div_pos (Int.cast_pos.2 hc) (Nat.cast_pos.2 hcd)))
  · exact h0

end Dsw.PowerF
