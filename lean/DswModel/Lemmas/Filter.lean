import DswModel.Model.Biofilter
import DswModel.Lemmas.Basic
/-!
`LocalBioFilter`: the Boolean verdict as a conjunction of four declarative rules, the verdict of a long
string as the conjunction over its k-windows, reverse-complement invariance.
-/
namespace Dsw

theorem isInfix_iff (p s : List Char) : isInfix p s = true ↔ p <:+: s := by
  induction s with
  | nil => simp [isInfix]
  | cons c s ih =>
    simp only [isInfix, Bool.or_eq_true, ih, List.isPrefixOf_iff_prefix, List.infix_cons_iff]

theorem window_infix {α} (l : List α) (i k : Nat) : (l.drop i).take k <:+: l :=
  List.IsInfix.trans (List.take_prefix _ _).isInfix (List.drop_suffix _ _).isInfix

theorem window_length {α} (l : List α) (i k : Nat) (h : i + k ≤ l.length) :
    ((l.drop i).take k).length = k := by
  rw [List.length_take, List.length_drop]
  exact Nat.min_eq_left (Nat.le_sub_of_add_le' h)

theorem infix_in_window {α} (m l : List α) (k : Nat) (hk : k ≤ l.length) (hm : m.length ≤ k)
    (h : m <:+: l) : ∃ i, i + k ≤ l.length ∧ m <:+: (l.drop i).take k := by
  obtain ⟨s, t, rfl⟩ := h
  rw [List.append_assoc] at hk ⊢
  by_cases hs : s.length + k ≤ (s ++ (m ++ t)).length
  · -- the window that starts where `m` starts
    refine ⟨s.length, hs, List.IsPrefix.isInfix ?_⟩
    rw [List.drop_left, List.prefix_take_iff]
    exact ⟨List.prefix_append m t, hm⟩
  · -- the last window: it contains all of `m ++ t`
    refine ⟨(s ++ (m ++ t)).length - k, Nat.le_of_eq (Nat.sub_add_cancel hk), ?_⟩
    rw [List.take_of_length_le (by rw [List.length_drop, Nat.sub_sub_self hk]; exact Nat.le_refl k),
      List.drop_append_of_le_length (Nat.sub_le_of_le_add (Nat.le_of_lt (Nat.lt_of_not_le hs)))]
    exact ⟨_, t, List.append_assoc _ _ _⟩

theorem infix_iff_infix_window {α} (m l : List α) (k : Nat) (hk : k ≤ l.length) (hm : m.length ≤ k) :
    m <:+: l ↔ ∃ i, i + k ≤ l.length ∧ m <:+: (l.drop i).take k :=
  ⟨infix_in_window m l k hk hm, fun ⟨i, _, h⟩ => h.trans (window_infix l i k)⟩

theorem all_windows (k : Nat) (s : List Char) (f : List Char → Bool) :
    (windows k s).all f = true ↔ ∀ i, i + k ≤ s.length → f ((s.drop i).take k) = true := by
  simp only [windows, List.all_map, List.all_eq_true, List.mem_range, Function.comp]
  exact forall_congr' fun i => by rw [Nat.lt_sub_iff_add_lt, Nat.lt_succ_iff]

theorem windows_self (w : List Char) : windows w.length w = [w] := by
  simp [windows]

def IsNuc (ch : Char) : Prop := ch = 'A' ∨ ch = 'C' ∨ ch = 'G' ∨ ch = 'T'

theorem nucIdx_isSome_iff (ch : Char) : (nucIdx ch).isSome = true ↔ IsNuc ch := by
  by_cases h : IsNuc ch
  · refine iff_of_true ?_ h
    rcases h with rfl | rfl | rfl | rfl <;> rfl
  · have h' := h
    simp only [IsNuc, not_or] at h'
    rw [nucIdx, if_neg h'.1, if_neg h'.2.1, if_neg h'.2.2.1, if_neg h'.2.2.2]
    exact iff_of_false Bool.false_ne_true h

theorem all_acgt (p : Char → Bool) : "ACGT".toList.all p = true ↔ ∀ ch, IsNuc ch → p ch = true := by
  have : "ACGT".toList = ['A', 'C', 'G', 'T'] := rfl
  simp only [this, IsNuc, List.all_cons, List.all_nil, Bool.and_true, Bool.and_eq_true,
    forall_eq_or_imp, forall_eq]

def CharsOk (s : List Char) : Prop := ∀ ch ∈ s, IsNuc ch

/-- no homopolymer run longer than the limit. -/
def RunOk (c : FilterCfg) (s : List Char) : Prop :=
  ∀ r, c.run = some r → ∀ ch, IsNuc ch → ¬ List.replicate (r + 1) ch <:+: s

/-- no forbidden motif, nor the reverse complement of one. -/
def MotifOk (c : FilterCfg) (s : List Char) : Prop :=
  ∀ ms, c.motifs = some ms → ∀ m ∈ ms, ¬ m <:+: s ∧ ¬ revComp m <:+: s

/-- the GC rule: every k-window within `[gcLo, gcHi]`, or the short-string rule. -/
def GcOk (c : FilterCfg) (s : List Char) : Prop :=
  ∀ g, c.gc = some g →
      if c.k ≤ s.length then
        ∀ i, i + c.k ≤ s.length →
          g.gcLo ≤ (gcCount ((s.drop i).take c.k) : Int) ∧ (gcCount ((s.drop i).take c.k) : Int) ≤ g.gcHi
      else (gcCount s : Int) ≤ g.gcHi ∧ (atCount s : Int) ≤ g.atHi

theorem validObserved_iff (c : FilterCfg) (s : List Char) :
    validObserved c s = true ↔ CharsOk s ∧ RunOk c s ∧ MotifOk c s ∧ GcOk c s := by
  unfold validObserved
  simp only [Bool.and_eq_true, and_assoc]
  refine and_congr ?_ (and_congr ?_ (and_congr ?_ ?_))
  · simp only [List.all_eq_true, nucIdx_isSome_iff, CharsOk]
  · unfold RunOk
    cases c.run with
    | none => exact iff_of_true rfl nofun
    | some r =>
      simp only [Option.some.injEq, forall_eq', all_acgt, Bool.not_eq_true', Bool.eq_false_iff, ne_eq, isInfix_iff,
        Nat.add_comm 1 r]
  · unfold MotifOk
    cases c.motifs with
    | none => exact iff_of_true rfl nofun
    | some ms =>
      simp only [Option.some.injEq, forall_eq', List.all_eq_true, Bool.and_eq_true,
        Bool.not_eq_true', Bool.eq_false_iff, ne_eq, isInfix_iff]
  · unfold GcOk
    cases c.gc with
    | none => exact iff_of_true rfl nofun
    | some g =>
      simp only [Option.some.injEq, forall_eq', ge_iff_le]
      split
      · simp only [all_windows, Bool.and_eq_true, Bool.not_eq_true', decide_eq_false_iff_not,
          Int.not_lt, and_comm]
      · simp only [Bool.and_eq_true, Bool.not_eq_true', decide_eq_false_iff_not, Int.not_lt]

theorem valid_false (c : FilterCfg) (s : List Char) : c.valid s false = validObserved c s := rfl

theorem revComp_length (s : List Char) : (revComp s).length = s.length := by
  simp [revComp]

theorem CharsOk.of_infix {t s : List Char} (h : t <:+: s) (hs : CharsOk s) : CharsOk t :=
  fun ch hch => hs ch (h.subset hch)

theorem RunOk.of_infix {c : FilterCfg} {t s : List Char} (h : t <:+: s) (hs : RunOk c s) :
    RunOk c t :=
  fun r hr ch hch hin => hs r hr ch hch (hin.trans h)

theorem MotifOk.of_infix {c : FilterCfg} {t s : List Char} (h : t <:+: s) (hs : MotifOk c s) :
    MotifOk c t :=
  fun ms hms m hm => ⟨fun hin => (hs ms hms m hm).1 (hin.trans h),
    fun hin => (hs ms hms m hm).2 (hin.trans h)⟩

/-! Under `hk`, `hrun`, `hmot` each of the first three rules forbids only strings no longer than `k`; an occurrence of one in `s` lies
inside a window (`infix_in_window`). -/

theorem singleton_infix_iff {α} (a : α) (l : List α) : [a] <:+: l ↔ a ∈ l :=
  ⟨fun h => h.subset (List.mem_singleton_self a),
    fun h => by obtain ⟨s, t, rfl⟩ := List.append_of_mem h; exact ⟨s, t, by simp⟩⟩

theorem charsOk_windows (k : Nat) (s : List Char) (hk : 1 ≤ k) (hs : k ≤ s.length) :
    CharsOk s ↔ ∀ i, i + k ≤ s.length → CharsOk ((s.drop i).take k) := by
  constructor
  · intro h i _; exact h.of_infix (window_infix s i k)
  · intro h ch hch
    obtain ⟨i, hi, hin⟩ := infix_in_window [ch] s k hs hk ((singleton_infix_iff ch s).2 hch)
    exact h i hi ch ((singleton_infix_iff ch _).1 hin)

theorem runOk_windows (c : FilterCfg) (s : List Char) (hrun : ∀ r, c.run = some r → r < c.k)
    (hs : c.k ≤ s.length) :
    RunOk c s ↔ ∀ i, i + c.k ≤ s.length → RunOk c ((s.drop i).take c.k) := by
  constructor
  · intro h i _; exact h.of_infix (window_infix s i c.k)
  · intro h r hr ch hch hin
    obtain ⟨i, hi, hin'⟩ := infix_in_window _ s c.k hs
      (by rw [List.length_replicate]; exact hrun r hr) hin
    exact h i hi r hr ch hch hin'

theorem motifOk_windows (c : FilterCfg) (s : List Char)
    (hmot : ∀ ms, c.motifs = some ms → ∀ m ∈ ms, m.length ≤ c.k) (hs : c.k ≤ s.length) :
    MotifOk c s ↔ ∀ i, i + c.k ≤ s.length → MotifOk c ((s.drop i).take c.k) := by
  constructor
  · intro h i _; exact h.of_infix (window_infix s i c.k)
  · intro h ms hms m hm
    constructor
    · intro hin
      obtain ⟨i, hi, hin'⟩ := infix_in_window _ s c.k hs (hmot ms hms m hm) hin
      exact (h i hi ms hms m hm).1 hin'
    · intro hin
      obtain ⟨i, hi, hin'⟩ := infix_in_window _ s c.k hs
        (by rw [revComp_length]; exact hmot ms hms m hm) hin
      exact (h i hi ms hms m hm).2 hin'

theorem gcOk_of_length_eq (c : FilterCfg) (w : List Char) (hw : w.length = c.k) :
    GcOk c w ↔ ∀ g, c.gc = some g → g.gcLo ≤ (gcCount w : Int) ∧ (gcCount w : Int) ≤ g.gcHi := by
  unfold GcOk
  refine forall_congr' fun g => imp_congr_right fun _ => ?_
  rw [if_pos (Nat.le_of_eq hw.symm)]
  -- the only window of `w` is `w` itself
  have hw0 : (w.drop 0).take c.k = w := by rw [List.drop_zero, ← hw, List.take_length]
  constructor
  · intro h
    have := h 0 (by rw [Nat.zero_add, hw]; exact Nat.le_refl _)
    rwa [hw0] at this
  · intro h i hi
    have hi' : i + c.k ≤ 0 + c.k := Nat.le_trans (hw ▸ hi) (Nat.le_of_eq (Nat.zero_add _).symm)
    obtain rfl : i = 0 := Nat.le_zero.1 (Nat.le_of_add_le_add_right hi')
    rwa [hw0]

theorem gcOk_windows (c : FilterCfg) (s : List Char) (hs : c.k ≤ s.length) :
    GcOk c s ↔ ∀ i, i + c.k ≤ s.length → GcOk c ((s.drop i).take c.k) := by
  have key := fun i hi => gcOk_of_length_eq c _ (window_length s i c.k hi)
  constructor
  · intro h i hi
    refine (key i hi).2 fun g hg => ?_
    have := h g hg
    rw [if_pos hs] at this
    exact this i hi
  · intro h g hg
    rw [if_pos hs]
    exact fun i hi => (key i hi).1 (h i hi) g hg

theorem valid_iff_all_windows (c : FilterCfg) (s : List Char) (hk : 1 ≤ c.k)
    (hrun : ∀ r, c.run = some r → r < c.k)
    (hmot : ∀ ms, c.motifs = some ms → ∀ m ∈ ms, m.length ≤ c.k) (hs : c.k ≤ s.length) :
    c.valid s false = true ↔
      ∀ i, i + c.k ≤ s.length → c.valid ((s.drop i).take c.k) false = true := by
  simp only [valid_false, validObserved_iff, imp_and, forall_and]
  rw [charsOk_windows c.k s hk hs, runOk_windows c s hrun hs, motifOk_windows c s hmot hs,
    gcOk_windows c s hs]

theorem complement_complement (ch : Char) : complement (complement ch) = ch := by
  by_cases h : IsNuc ch
  · rcases h with rfl | rfl | rfl | rfl <;> rfl
  · simp only [IsNuc, not_or] at h
    have hc : complement ch = ch := by
      rw [complement, if_neg h.1, if_neg h.2.1, if_neg h.2.2.1, if_neg h.2.2.2]
    rw [hc, hc]

theorem isNuc_complement (ch : Char) : IsNuc (complement ch) ↔ IsNuc ch := by
  have key : ∀ x, IsNuc x → IsNuc (complement x) := by
    rintro x (rfl | rfl | rfl | rfl)
    · exact .inr (.inr (.inr rfl))
    · exact .inr (.inr (.inl rfl))
    · exact .inr (.inl rfl)
    · exact .inl rfl
  exact ⟨fun h => complement_complement ch ▸ key _ h, key ch⟩

theorem revComp_revComp (s : List Char) : revComp (revComp s) = s := by
  simp [revComp, List.map_reverse, Function.comp_def, complement_complement]

theorem infix_revComp_iff (p s : List Char) : p <:+: revComp s ↔ revComp p <:+: s := by
  have mono : ∀ {a b : List Char}, a <:+: b → revComp a <:+: revComp b :=
    fun h => List.reverse_infix.2 (h.map complement)
  exact ⟨fun h => revComp_revComp s ▸ mono h, fun h => revComp_revComp p ▸ mono h⟩

theorem count_revComp (a : Char) (s : List Char) :
    (revComp s).count a = s.count (complement a) := by
  rw [revComp, List.count_reverse]
  simp only [List.count, List.countP_map]
  refine List.countP_congr fun x _ => ?_
  simp only [Function.comp, beq_iff_eq]
  exact ⟨fun h => by rw [← h, complement_complement], fun h => by rw [h, complement_complement]⟩

theorem gcCount_revComp (s : List Char) : gcCount (revComp s) = gcCount s := by
  rw [gcCount, count_revComp, count_revComp]
  exact Nat.add_comm (s.count 'G') (s.count 'C')

theorem atCount_revComp (s : List Char) : atCount (revComp s) = atCount s := by
  rw [atCount, count_revComp, count_revComp]
  exact Nat.add_comm (s.count 'T') (s.count 'A')

theorem exists_window_of_infix {α} {w s : List α} (h : w <:+: s) :
    ∃ i, i + w.length ≤ s.length ∧ (s.drop i).take w.length = w := by
  obtain ⟨p, q, rfl⟩ := h
  refine ⟨p.length, ?_, ?_⟩
  · rw [List.length_append, List.length_append]
    exact Nat.le_add_right _ _
  · rw [List.append_assoc, List.drop_left, List.take_left]

theorem CharsOk.revComp {s : List Char} (h : CharsOk s) : CharsOk (revComp s) := by
  intro ch hch
  simp only [Dsw.revComp, List.mem_reverse, List.mem_map] at hch
  obtain ⟨a, ha, rfl⟩ := hch
  exact (isNuc_complement a).2 (h a ha)

theorem RunOk.revComp {c : FilterCfg} {s : List Char} (h : RunOk c s) : RunOk c (revComp s) := by
  intro r hr ch hch hin
  rw [infix_revComp_iff, Dsw.revComp, List.map_replicate, List.reverse_replicate] at hin
  exact h r hr _ ((isNuc_complement ch).2 hch) hin

theorem MotifOk.revComp {c : FilterCfg} {s : List Char} (h : MotifOk c s) :
    MotifOk c (revComp s) := by
  intro ms hms m hm
  rw [infix_revComp_iff, infix_revComp_iff, revComp_revComp]
  exact ⟨(h ms hms m hm).2, (h ms hms m hm).1⟩

theorem GcOk.revComp {c : FilterCfg} {s : List Char} (h : GcOk c s) : GcOk c (revComp s) := by
  intro g hg
  have h := h g hg
  split
  · rename_i hk
    rw [revComp_length] at hk
    rw [if_pos hk] at h
    intro i hi
    -- the reverse complement of a window of `revComp s` is a window of `s`
    obtain ⟨j, hj, hwj⟩ := exists_window_of_infix
      ((infix_revComp_iff _ s).1 (window_infix (Dsw.revComp s) i c.k))
    rw [revComp_length, window_length _ i c.k hi] at hj hwj
    have := h j hj
    rwa [hwj, gcCount_revComp] at this
  · rename_i hk
    rw [revComp_length] at hk
    rw [if_neg hk] at h
    rwa [gcCount_revComp, atCount_revComp]

theorem atCount_add_gcCount {w : List Char} (h : CharsOk w) : atCount w + gcCount w = w.length := by
  induction w with
  | nil => rfl
  | cons x w ih =>
    have ih := ih (fun ch hch => h ch (List.mem_cons_of_mem _ hch))
    -- `x` is counted by exactly one of the four counters
    have hx : (if x == 'A' then 1 else 0) + (if x == 'T' then 1 else 0) +
        ((if x == 'C' then 1 else 0) + (if x == 'G' then 1 else 0)) = 1 := by
      rcases h x List.mem_cons_self with rfl | rfl | rfl | rfl <;> rfl
    rw [atCount, gcCount] at ih ⊢
    rw [List.count_cons, List.count_cons, List.count_cons, List.count_cons, List.length_cons, ← ih,
      Nat.add_add_add_comm (w.count 'A'), Nat.add_add_add_comm (w.count 'C'),
      Nat.add_add_add_comm (w.count 'A' + w.count 'T'), hx]

/-- monotonicity: a shorter piece of a valid window passes the short-string rule. -/
theorem valid_of_infix_window (c : FilterCfg) (t w : List Char) (ht : t <:+: w)
    (hw : w.length = c.k) (htk : t.length < c.k) (hv : c.valid w false = true)
    (hg : ∀ g, c.gc = some g → (c.k : Int) - g.gcLo ≤ g.atHi) :
    c.valid t false = true := by
  rw [valid_false, validObserved_iff] at hv ⊢
  obtain ⟨h1, h2, h3, h4⟩ := hv
  refine ⟨h1.of_infix ht, h2.of_infix ht, h3.of_infix ht, ?_⟩
  intro g hgc
  rw [if_neg (Nat.not_le.2 htk)]
  -- `gc t ≤ gc w ≤ gcHi` and `at t ≤ at w = k - gc w ≤ k - gcLo ≤ atHi`
  have hb := (gcOk_of_length_eq c w hw).1 h4 g hgc
  have hgk := hg g hgc
  have hsum := atCount_add_gcCount h1
  have hgc' : gcCount t ≤ gcCount w := Nat.add_le_add (ht.count_le 'C') (ht.count_le 'G')
  have hat' : atCount t ≤ atCount w := Nat.add_le_add (ht.count_le 'A') (ht.count_le 'T')
  have hsumZ : (atCount w : Int) = c.k - gcCount w := by
    rw [← hw, ← hsum, Int.natCast_add, Int.add_sub_cancel]
  refine ⟨Int.le_trans (Int.ofNat_le.2 hgc') hb.2, Int.le_trans (Int.ofNat_le.2 hat') ?_⟩
  rw [hsumZ]
  exact Int.le_trans (Int.sub_le_sub_left hb.1 _) hgk
end Dsw
