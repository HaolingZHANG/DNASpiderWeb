import DswModel.Model.Spiderweb
import DswModel.Lemmas.Defs
import DswModel.Lemmas.DeBruijn
/-! What `WFdB` gives to every user of an accessor (entries, live entries, `obtainVertices`, extensionality
`wfdb_ext`), and on top of it the accessor / latter map / adjacency matrix converters. -/
namespace Dsw

theorem array_getD_eq_getElem {α} (r : Array α) (j : Nat) (d : α) (hj : j < r.size) :
    r.getD j d = r[j] := dif_pos hj

theorem WFdB.rowOK {k : Nat} {a : Acc} (h : WFdB k a) {v : Nat} (hv : v < 4 ^ k) :
    RowOK k v (a.getD v #[]) := ((wfdb_iff_rowOK k a).1 h).2 v hv

theorem WFdB.ent_nonneg_iff {k : Nat} {a : Acc} (h : WFdB k a) {v j : Nat} (hv : v < 4 ^ k)
    (hj : j < 4) : 0 ≤ a.ent (v : Int) j ↔ a.ent (v : Int) j = (((v * 4 + j) % 4 ^ k : Nat) : Int) := by
  rcases (h.2 v hv).2 j hj with h1 | h1 <;> rw [h1]
  · exact ⟨fun h => absurd h (by decide), fun h => h ▸ Int.natCast_nonneg _⟩
  · exact ⟨fun _ => rfl, fun _ => Int.natCast_nonneg _⟩

theorem WFdB.ent_neg {k : Nat} {a : Acc} (h : WFdB k a) {v j : Nat} (hv : v < 4 ^ k)
    (hj : j < 4) (hn : ¬ 0 ≤ a.ent (v : Int) j) : a.ent (v : Int) j = -1 := by
  rcases (h.2 v hv).2 j hj with h1 | h1
  · exact h1
  · exact absurd (h1 ▸ Int.natCast_nonneg _) hn

theorem WFdB.liveEntries_eq {k : Nat} {a : Acc} (h : WFdB k a) {v : Nat} (hv : v < 4 ^ k) :
    a.liveEntries (v : Int) = (a.live (v : Int)).map fun j => (v * 4 + j) % 4 ^ k := by
  unfold Acc.liveEntries
  apply List.map_congr_left
  intro j hj
  rw [(h.ent_nonneg_iff hv (live_lt_four a _ hj)).1 (live_ent_nonneg a _ hj)]
  rfl

theorem Acc.mem_liveEntries (a : Acc) (v : Int) (w : Nat) :
    w ∈ a.liveEntries v ↔ ∃ j, j < 4 ∧ a.ent v j = (w : Int) := by
  unfold Acc.liveEntries
  simp only [List.mem_map, Acc.mem_live]
  constructor
  · rintro ⟨j, ⟨hj, h0⟩, rfl⟩
    exact ⟨j, hj, (Int.toNat_of_nonneg h0).symm⟩
  · rintro ⟨j, hj, he⟩
    exact ⟨j, ⟨hj, he ▸ Int.natCast_nonneg w⟩, by rw [he]; rfl⟩

theorem WFdB.liveEntries_sub {k : Nat} {a : Acc} (h : WFdB k a) {v : Nat} (hv : v < 4 ^ k) (w : Nat)
    (hw : w ∈ a.liveEntries (v : Int)) : w ∈ obtainLatters k v := by
  rw [h.liveEntries_eq hv, List.mem_map] at hw
  obtain ⟨j, hj, rfl⟩ := hw
  exact (mem_obtainLatters k v _).2 ⟨j, live_lt_four a _ hj, rfl⟩

/-- for `k ≥ 1` the successors of a vertex lie in distinct columns, so the `j`-th one is listed
exactly when column `j` is live. -/
theorem WFdB.succ_mem_liveEntries {k : Nat} {a : Acc} (h : WFdB k a) (hk : 1 ≤ k) {v j : Nat}
    (hv : v < 4 ^ k) (hj : j < 4) :
    (v * 4 + j) % 4 ^ k ∈ a.liveEntries (v : Int) ↔ 0 ≤ a.ent (v : Int) j := by
  rw [h.liveEntries_eq hv, List.mem_map]
  constructor
  · rintro ⟨i, hi, he⟩
    rw [Acc.mem_live] at hi
    have : i = j := by rw [← shift_column k v i hk hi.1, he, shift_column k v j hk hj]
    exact this ▸ hi.2
  · intro h0
    exact ⟨j, (Acc.mem_live _ _ _).2 ⟨hj, h0⟩, rfl⟩

theorem RowOK.any_iff {k v : Nat} {r : Array Int} (hr : RowOK k v r) (p : Int → Bool) :
    r.any p = true ↔ ∃ j, j < 4 ∧ p (r.getD j (-1)) = true := by
  rw [Array.any_eq_true]
  constructor
  · rintro ⟨j, hj, he⟩
    rw [← array_getD_eq_getElem r j (-1) hj] at he
    exact ⟨j, hr.1 ▸ hj, he⟩
  · rintro ⟨j, hj, he⟩
    have hj' : j < r.size := hr.1.symm ▸ hj
    rw [array_getD_eq_getElem r j (-1) hj'] at he
    exact ⟨j, hj', he⟩

/-- the test `e + 1 ≠ 0` of `obtain_vertices` on a legal entry. -/
theorem succ_bne_zero_iff {e : Int} {n : Nat} (h : e = -1 ∨ e = n) :
    (e + 1 != 0) = true ↔ 0 ≤ e := by
  rcases h with rfl | rfl
  · decide
  · have h0 := Int.natCast_nonneg n
    exact ⟨fun _ => h0, fun _ => bne_iff_ne.2 (Int.ne_of_gt (Int.lt_add_one_of_le h0))⟩

theorem WFdB.hasArcs_iff {k : Nat} {a : Acc} (h : WFdB k a) {v : Nat} (hv : v < 4 ^ k) :
    (a.getD v #[]).any (fun e => e + 1 != 0) = decide (a.live (v : Int) ≠ []) := by
  rw [Bool.eq_iff_iff, (h.rowOK hv).any_iff, decide_eq_true_iff]
  simp only [← Acc.ent_natCast]
  constructor
  · rintro ⟨j, hj, he⟩
    exact List.ne_nil_of_mem
      ((Acc.mem_live _ _ _).2 ⟨hj, (succ_bne_zero_iff ((h.2 v hv).2 j hj)).1 he⟩)
  · intro hne
    obtain ⟨j, hj⟩ := List.exists_mem_of_ne_nil _ hne
    rw [Acc.mem_live] at hj
    exact ⟨j, hj.1, (succ_bne_zero_iff ((h.2 v hv).2 j hj.1)).2 hj.2⟩

theorem WFdB.obtainVertices_eq {k : Nat} {a : Acc} (h : WFdB k a) :
    obtainVertices a = (List.range (4 ^ k)).filter (fun (v : Nat) => decide (a.live (v : Int) ≠ [])) := by
  unfold obtainVertices
  rw [h.1]
  apply List.filter_congr
  intro v hv
  exact h.hasArcs_iff (List.mem_range.1 hv)

theorem WFdB.mem_obtainVertices {k : Nat} {a : Acc} (h : WFdB k a) (v : Nat) :
    v ∈ obtainVertices a ↔ v < 4 ^ k ∧ a.live (v : Int) ≠ [] := by
  rw [h.obtainVertices_eq, List.mem_filter, List.mem_range, decide_eq_true_iff]

theorem WFdB.liveEntries_eq_nil {k : Nat} {a : Acc} (h : WFdB k a) {v : Nat}
    (hv : v ∉ obtainVertices a) : a.liveEntries (v : Int) = [] := by
  have hl : a.live (v : Int) = [] := by
    by_cases hlt : v < 4 ^ k
    · exact Classical.byContradiction fun hne => hv ((h.mem_obtainVertices v).2 ⟨hlt, hne⟩)
    · exact Acc.live_oob a v (h.1 ▸ Nat.le_of_not_lt hlt)
  unfold Acc.liveEntries
  rw [hl]; rfl

theorem LMap.get?_map_graph (l : List Nat) (f : Nat → List Nat) (v : Nat) :
    LMap.get? (l.map fun u => (u, f u)) v = if v ∈ l then some (f v) else none := by
  unfold LMap.get?
  induction l with
  | nil => rfl
  | cons x xs ih =>
    rw [List.map_cons, List.find?_cons]
    by_cases hx : x = v
    · rw [hx, beq_self_eq_true, if_pos List.mem_cons_self]; rfl
    · rw [beq_false_of_ne hx, ih]
      by_cases hv : v ∈ xs
      · rw [if_pos hv, if_pos (List.mem_cons_of_mem x hv)]
      · rw [if_neg hv, if_neg fun hm => (List.mem_cons.1 hm).elim (fun e => hx e.symm) hv]

theorem WFdB.latterMap_get? {k : Nat} {a : Acc} (h : WFdB k a) (v : Nat) :
    ((accessorToLatterMap a).get? v).getD [] = a.liveEntries (v : Int) := by
  unfold accessorToLatterMap
  rw [LMap.get?_map_graph]
  by_cases hv : v ∈ obtainVertices a
  · rw [if_pos hv, Option.getD_some]
  · rw [if_neg hv, h.liveEntries_eq_nil hv, Option.getD_none]

theorem wfdb_ext {k : Nat} {a b : Acc} (ha : WFdB k a) (hb : WFdB k b)
    (h : ∀ v j : Nat, v < 4 ^ k → j < 4 → a.ent (v : Int) j = b.ent (v : Int) j) : a = b := by
  apply Array.ext (ha.1.trans hb.1.symm)
  intro v hva hvb
  have hv : v < 4 ^ k := ha.1 ▸ hva
  have ra := ha.rowOK hv
  have rb := hb.rowOK hv
  have hvj := h v
  simp only [Acc.ent_natCast] at hvj
  rw [array_getD_eq_getElem a v #[] hva] at ra hvj
  rw [array_getD_eq_getElem b v #[] hvb] at rb hvj
  apply Array.ext (ra.1.trans rb.1.symm)
  intro j hja hjb
  rw [← array_getD_eq_getElem _ j (-1) hja, ← array_getD_eq_getElem _ j (-1) hjb]
  exact hvj j hv (ra.1 ▸ hja)

/-- a live entry of an order-`k` table can only be the shift successor, so the live columns
determine the table. -/
theorem wfdb_ext_live {k : Nat} {a b : Acc} (ha : WFdB k a) (hb : WFdB k b)
    (h : ∀ v j : Nat, v < 4 ^ k → j < 4 → (0 ≤ a.ent (v : Int) j ↔ 0 ≤ b.ent (v : Int) j)) :
    a = b := by
  apply wfdb_ext ha hb
  intro v j hv hj
  by_cases h0 : 0 ≤ a.ent (v : Int) j
  · rw [(ha.ent_nonneg_iff hv hj).1 h0, (hb.ent_nonneg_iff hv hj).1 ((h v j hv hj).1 h0)]
  · rw [ha.ent_neg hv hj h0, hb.ent_neg hv hj fun h1 => h0 ((h v j hv hj).2 h1)]

def writeArcs (cells : List (Nat × Nat)) (acc : Acc) : Acc :=
  cells.foldl (fun acc c => acc.setEnt c.1 (c.2 % 4) c.2) acc

/-- writing legal arcs into an order-`k` table (`k ≥ 1`) keeps it one, and afterwards column `i`
of row `u` is live exactly when its successor was among the arcs or the column was live before:
an arc `(v, w)` is written to cell `(v, w % 4)`, and by `latter_column` that is cell `(u, i)` only
for the arc `(u, (u * 4 + i) % 4 ^ k)`. -/
theorem writeArcs_spec (k : Nat) (hk : 1 ≤ k) (cells : List (Nat × Nat))
    (hc : ∀ v w, (v, w) ∈ cells → v < 4 ^ k ∧ w ∈ obtainLatters k v)
    (acc : Acc) (hacc : WFdB k acc) :
    WFdB k (writeArcs cells acc) ∧ ∀ u i : Nat, i < 4 →
      (0 ≤ (writeArcs cells acc).ent (u : Int) i ↔
        (u, (u * 4 + i) % 4 ^ k) ∈ cells ∨ 0 ≤ acc.ent (u : Int) i) := by
  induction cells generalizing acc with
  | nil => exact ⟨hacc, fun u i _ => ⟨Or.inr, fun h => h.elim (fun hm => nomatch hm) id⟩⟩
  | cons c cs ih =>
    obtain ⟨v, w⟩ := c
    obtain ⟨hc1, hc2⟩ := hc v w List.mem_cons_self
    have hcol := latter_column k v w hc2
    obtain ⟨ihw, ihe⟩ := ih (fun v' w' hm => hc v' w' (List.mem_cons_of_mem _ hm))
      (acc.setEnt v (w % 4) w) (wfdb_setEnt k _ _ _ _ hacc (Or.inr (by rw [hcol])))
    refine ⟨ihw, fun u i hi => ?_⟩
    show 0 ≤ (writeArcs cs (acc.setEnt v (w % 4) w)).ent (u : Int) i ↔ _
    rw [ihe u i hi, List.mem_cons]
    by_cases hm : u = v ∧ i = w % 4
    · obtain ⟨rfl, rfl⟩ := hm
      rw [hcol, Acc.ent_setEnt_self _ _ _ _ ((hacc.2 u hc1).1.symm ▸ hi)]
      exact ⟨fun _ => Or.inl (Or.inl rfl), fun _ => Or.inr (Int.natCast_nonneg _)⟩
    · have hne : (u, (u * 4 + i) % 4 ^ k) ≠ (v, w) := by
        intro he
        obtain ⟨rfl, rfl⟩ := Prod.mk.inj he
        exact hm ⟨rfl, (shift_column k u i hk hi).symm⟩
      rw [Acc.ent_setEnt_ne _ _ _ _ _ _ (Decidable.not_and_iff_not_or_not.1 hm), or_iff_right hne]

theorem mem_arcs_map_graph (l : List Nat) (f : Nat → List Nat) (v w : Nat) :
    (v, w) ∈ (l.map fun u => (u, f u)).flatMap (fun p => p.2.map fun w => (p.1, w)) ↔
      v ∈ l ∧ w ∈ f v := by
  simp only [List.mem_flatMap, List.mem_map, Prod.mk.injEq]
  constructor
  · rintro ⟨_, ⟨u, hu, rfl⟩, w', hw, rfl, rfl⟩
    exact ⟨hu, hw⟩
  · rintro ⟨hv, hw⟩
    exact ⟨_, ⟨v, hv, rfl⟩, w, hw, rfl, rfl⟩

theorem latterMap_roundtrip (k : Nat) (a : Acc) (hk : 1 ≤ k) (h : WFdB k a) :
    latterMapToAccessor (accessorToLatterMap a) k none = .ok a := by
  have hany : (accessorToLatterMap a).any (fun p => decide (p.1 ≥ 4 ^ k)) = false := by
    unfold accessorToLatterMap
    rw [List.any_eq_false, List.forall_mem_map]
    intro v hv
    rw [decide_eq_true_iff]
    exact Nat.not_le_of_lt ((h.mem_obtainVertices v).1 hv).1
  obtain ⟨hw, hent⟩ := writeArcs_spec k hk
    ((accessorToLatterMap a).flatMap fun p => p.2.map fun w => (p.1, w))
    (fun v w hm => by
      unfold accessorToLatterMap at hm
      rw [mem_arcs_map_graph] at hm
      have hv := ((h.mem_obtainVertices v).1 hm.1).1
      exact ⟨hv, h.liveEntries_sub hv w hm.2⟩) _ (wfdb_replicate k)
  unfold latterMapToAccessor
  simp only [bind, Except.bind, pure, Except.pure, hany, Bool.false_eq_true, if_false]
  congr 1
  simp only [writeArcs, List.foldl_flatMap, List.foldl_map] at hw hent
  apply wfdb_ext_live hw h
  intro u i hu hi
  have hinit : Acc.ent (Array.replicate (4 ^ k) (Array.replicate 4 (-1))) (u : Int) i = -1 := by
    rw [Acc.ent_natCast, array_getD_eq_getElem _ u _ (Array.size_replicate ▸ hu),
      Array.getElem_replicate, getD_replicate_self]
  rw [hent u i hi, hinit, ← h.succ_mem_liveEntries hk hu hi]
  unfold accessorToLatterMap
  rw [mem_arcs_map_graph]
  constructor
  · rintro (hm | hm)
    · exact hm.2
    · exact absurd hm (by decide)
  · intro hm
    have hv : u ∈ obtainVertices a := Classical.byContradiction fun hv => by
      rw [h.liveEntries_eq_nil hv] at hm; cases hm
    exact Or.inl ⟨hv, hm⟩

theorem getD_foldl_setIfInBounds (ws : List Nat) (r : Array Nat) (w : Nat) :
    (ws.foldl (fun row w => row.setIfInBounds w 1) r).getD w 0 =
      if w ∈ ws ∧ w < r.size then 1 else r.getD w 0 := by
  induction ws generalizing r with
  | nil => exact (if_neg fun h => nomatch h.1).symm
  | cons x xs ih =>
    rw [List.foldl_cons, ih, Array.size_setIfInBounds]
    by_cases h1 : w ∈ xs ∧ w < r.size
    · rw [if_pos h1, if_pos ⟨List.mem_cons_of_mem x h1.1, h1.2⟩]
    · rw [if_neg h1]
      by_cases hx : x = w
      · subst hx
        by_cases hlt : x < r.size
        · rw [getD_setIfInBounds_self _ _ _ _ hlt, if_pos ⟨List.mem_cons_self, hlt⟩]
        · rw [getD_setIfInBounds_oob _ _ _ _ _ (Nat.le_of_not_lt hlt), if_neg fun h => hlt h.2]
      · rw [getD_setIfInBounds_ne _ _ _ _ _ hx, if_neg]
        rintro ⟨h2, h3⟩
        rcases List.mem_cons.1 h2 with h2 | h2
        · exact hx h2.symm
        · exact h1 ⟨h2, h3⟩

/-- the matrix computed by `accessor_to_adjacency_matrix`. -/
def adjRows (a : Acc) : Matrix :=
  (Array.range a.size).map fun (v : Nat) =>
    (a.liveEntries (v : Int)).foldl (fun row w => row.setIfInBounds w 1) (Array.replicate a.size 0)

theorem adjRows_size (a : Acc) : (adjRows a).size = a.size := by
  unfold adjRows
  rw [Array.size_map, Array.size_range]

theorem adjRows_getD (a : Acc) (v w : Nat) (hv : v < a.size) :
    ((adjRows a).getD v #[]).getD w 0 =
      if w ∈ a.liveEntries (v : Int) ∧ w < a.size then 1 else 0 := by
  unfold adjRows
  rw [getD_range_map _ _ _ _ hv, getD_foldl_setIfInBounds, Array.size_replicate, getD_replicate_self]

theorem ite_one_zero_eq_one {P : Prop} [Decidable P] : (if P then 1 else 0 : Nat) = 1 ↔ P := by
  by_cases h : P
  · rw [if_pos h]; exact ⟨fun _ => h, fun _ => rfl⟩
  · rw [if_neg h]; exact ⟨fun e => absurd e (by decide), fun hp => absurd hp h⟩

/-- an order-`k` table passes the shape and range test: its rows have four entries, each `-1`
or a successor, which is below `4 ^ k`. -/
theorem WFdB.adjMatrix_ok {k : Nat} {a : Acc} (h : WFdB k a) :
    accessorToAdjacencyMatrix a = .ok (adjRows a) := by
  unfold accessorToAdjacencyMatrix
  rw [if_neg]
  · rfl
  rw [Array.any_eq_true]
  rintro ⟨v, hv, hp⟩
  have hr : RowOK k v a[v] := array_getD_eq_getElem a v #[] hv ▸ h.rowOK (h.1 ▸ hv)
  rw [Bool.or_eq_true, hr.any_iff] at hp
  rcases hp with hp | ⟨j, hj, he⟩
  · rw [hr.1] at hp
    exact absurd hp (by decide)
  · have hs := hr.2 j hj
    have hlt := Nat.mod_lt (v * 4 + j) (four_pow_pos k)
    rw [h.1, Bool.or_eq_true, decide_eq_true_iff, decide_eq_true_iff] at he
    omega

def mxNext (mx : Matrix) (v : Nat) : List Nat :=
  (List.range (mx.getD v #[]).size).filter fun w => (mx.getD v #[]).getD w 0 == 1

def mxLegal (k : Nat) (mx : Matrix) (v : Nat) : Bool :=
  (mxNext mx v).all fun w => (obtainLatters k v).contains w

def mxRow (k : Nat) (mx : Matrix) (v : Nat) : Array Int :=
  ((obtainLatters k v).map fun w => if (mxNext mx v).contains w then Int.ofNat w else -1).toArray

theorem mem_mxNext (mx : Matrix) (v w : Nat) :
    w ∈ mxNext mx v ↔ (mx.getD v #[]).getD w 0 = 1 := by
  unfold mxNext
  rw [List.mem_filter, List.mem_range, beq_iff_eq]
  -- an entry read as 1 against the default 0 lies inside the row
  refine ⟨And.right, fun h1 => ⟨Nat.lt_of_not_le fun hle => ?_, h1⟩⟩
  rw [getD_of_size_le _ _ _ hle] at h1
  cases h1

theorem mxLegal_iff (k : Nat) (mx : Matrix) (v : Nat) :
    mxLegal k mx v = true ↔ ∀ w ∈ mxNext mx v, w ∈ obtainLatters k v := by
  unfold mxLegal
  simp only [List.all_eq_true, List.contains_iff_mem]

theorem mxRow_nonneg (k : Nat) (mx : Matrix) (v j : Nat) (hj : j < 4) :
    0 ≤ (mxRow k mx v).getD j (-1) ↔ (v * 4 + j) % 4 ^ k ∈ mxNext mx v := by
  unfold mxRow
  rw [getD_map_toArray _ _ _ _ ((obtainLatters_length k v).symm ▸ hj), obtainLatters_getElem,
    ← List.contains_iff_mem]
  split
  · rename_i hc
    exact ⟨fun _ => hc, fun _ => Int.natCast_nonneg _⟩
  · rename_i hc
    exact ⟨fun h => absurd h (by decide), fun h => absurd h hc⟩

theorem adjacencyMatrixToAccessor_eq (k : Nat) (mx : Matrix) (hs : mx.size = 4 ^ k) :
    adjacencyMatrixToAccessor mx =
      if (List.range (4 ^ k)).all (mxLegal k mx) then
        .ok ((List.range (4 ^ k)).map (mxRow k mx)).toArray
      else .error .valueError := by
  have := foldlM_push_eq (mxLegal k mx) (mxRow k mx) PyErr.valueError (List.range (4 ^ k)) #[]
  rw [Array.empty_append] at this
  rw [← this]
  unfold adjacencyMatrixToAccessor
  rw [hs, log4_four_pow]
  rfl

theorem WFdB.mem_mxNext {k : Nat} {a : Acc} (h : WFdB k a) {v : Nat} (hv : v < 4 ^ k) (w : Nat) :
    w ∈ mxNext (adjRows a) v ↔ w ∈ a.liveEntries (v : Int) := by
  rw [Dsw.mem_mxNext, adjRows_getD a v w (h.1 ▸ hv), ite_one_zero_eq_one]
  refine ⟨And.left, fun hw => ⟨hw, ?_⟩⟩
  obtain ⟨j, _, rfl⟩ := (mem_obtainLatters k v w).1 (h.liveEntries_sub hv w hw)
  rw [h.1]
  exact Nat.mod_lt _ (four_pow_pos k)

end Dsw
