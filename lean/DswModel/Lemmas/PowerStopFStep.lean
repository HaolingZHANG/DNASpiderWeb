import DswModel.Lemmas.PowerStopF
/-!
# The shape of `capStepF` and `maxDiffF` (for C17c)
-/
namespace Dsw.PowerStopF
open Dsw.FloatErr

theorem capStepF_spec (a : Acc) (x z : VecF) (ev : Dbl) (h : capStepF a x = some (z, ev)) :
    ∃ y : List Dbl, (List.range a.size).map (fun v => rowSumF a x v) = y.map some ∧
      ev = y.foldl Dbl.maxD Dbl.zero ∧
      ((Dbl.lt Dbl.zero ev = true ∧ ∃ zl : List Dbl, (y.map fun t => Dbl.div t ev) = zl.map some ∧ z = zl.toArray) ∨
       (¬ Dbl.lt Dbl.zero ev = true ∧ z = (y.map fun _ => Dbl.zero).toArray)) := by
  unfold capStepF at h
  split at h
  · cases h
  · rename_i y hy
    refine ⟨y, allSome_eq_some _ _ hy, ?_⟩
    simp only at h
    split at h
    · rename_i hlt
      obtain ⟨zl, hzl, he⟩ := Option.map_eq_some_iff.1 h
      cases he
      exact ⟨rfl, Or.inl ⟨hlt, zl, allSome_eq_some _ _ hzl, rfl⟩⟩
    · rename_i hlt
      cases h
      exact ⟨rfl, Or.inr ⟨hlt, rfl⟩⟩

theorem lt_zero_iff (e : Dbl) : Dbl.lt Dbl.zero e = true ↔ 0 < e.num := by
  unfold Dbl.lt Dbl.zero
  simp

/-- everything the certificate needs to know about one step. -/
theorem step_data (a : Acc) (x z : VecF) (ev : Dbl)
    (hx : ∀ w, w < a.size → NonnegB64 (x.getD w Dbl.zero))
    (ha : ∀ v, v < a.size → ∀ w ∈ a.liveEntries (v : Int), w < a.size)
    (h : capStepF a x = some (z, ev)) :
    z.size = a.size ∧ NonnegB64 ev ∧
    ∀ v, v < a.size → ∃ y, rowSumF a x v = some y ∧ NonnegB64 (z.getD v Dbl.zero) ∧
      (0 < ev.num → Dbl.div y ev = some (z.getD v Dbl.zero)) := by
  obtain ⟨y, hmap, hev, hcase⟩ := capStepF_spec a x z ev h
  obtain ⟨hlen, hrow⟩ := range_map_eq hmap
  have hyP : ∀ t ∈ y, NonnegB64 t := by
    intro t ht
    obtain ⟨v, hvn, hr⟩ := range_map_mem hmap t ht
    exact (rowSum_bound a x v t hx (ha v hvn) hr).2.2.1
  have hevP : NonnegB64 ev := hev ▸ foldl_maxD_prop NonnegB64 y Dbl.zero ⟨isB64_zero, le_refl _⟩ hyP
  rcases hcase with ⟨hlt, zl, hzl, hz⟩ | ⟨hlt, hz⟩
  · obtain ⟨hzlen, hent⟩ := list_map_eq hzl
    have hevpos : 0 < ev.num := (lt_zero_iff ev).1 hlt
    refine ⟨by rw [hz]; simp [hzlen, hlen], hevP, fun v hv => ?_⟩
    obtain ⟨t, ht, hr⟩ := hrow v hv
    obtain ⟨r, hzr, hdiv⟩ := hent v t ht
    have hget : z.getD v Dbl.zero = r := by rw [hz]; exact toArray_getD zl v r Dbl.zero hzr
    rw [hget]
    exact ⟨t, hr, div_nonnegB64 t ev r (hyP t (List.mem_of_getElem? ht)) hevpos hdiv, fun _ => hdiv⟩
  · have hevpos : ¬ 0 < ev.num := fun hc => hlt ((lt_zero_iff ev).2 hc)
    refine ⟨by rw [hz]; simp [hlen], hevP, fun v hv => ?_⟩
    obtain ⟨t, ht, hr⟩ := hrow v hv
    have hget : z.getD v Dbl.zero = Dbl.zero := by
      rw [hz]
      apply toArray_getD _ v Dbl.zero Dbl.zero
      rw [List.getElem?_map, ht]
      rfl
    rw [hget]
    exact ⟨t, hr, ⟨isB64_zero, le_refl _⟩, fun hc => absurd hc hevpos⟩

/-- the settled test, entry by entry: `max(abs(z − x)) < tol` in doubles gives `|z_v − x_v| < tol` exactly. -/
theorem settled_entry (n : Nat) (z x : VecF) (md tol : Dbl) (h : maxDiffF n z x = some md)
    (hden : ∀ v, v < n → 0 < (z.getD v Dbl.zero).den ∧ 0 < (x.getD v Dbl.zero).den)
    (htol : IsB64 tol.num tol.den) (hset : Dbl.lt md tol = true) :
    ∀ v, v < n → |Dbl.toRat (z.getD v Dbl.zero) - Dbl.toRat (x.getD v Dbl.zero)| < Dbl.toRat tol := by
  unfold maxDiffF at h
  rw [Option.map_eq_some_iff] at h
  obtain ⟨ds, hds, hmd⟩ := h
  have hmap := allSome_eq_some _ _ hds
  have hdsP : ∀ t ∈ ds, 0 < t.den := by
    intro t ht
    obtain ⟨v, hvn, hr⟩ := range_map_mem hmap t ht
    rw [Option.map_eq_some_iff] at hr
    obtain ⟨d, hd, habs⟩ := hr
    rw [← habs]
    exact (sub_isB64 _ _ d (hden v hvn).1 (hden v hvn).2 hd).1
  have hmdd : 0 < md.den := hmd ▸ foldl_maxD_prop (fun t => 0 < t.den) ds Dbl.zero Nat.one_pos hdsP
  have hlt := (lt_iff md tol hmdd htol.1).1 hset
  intro v hv
  obtain ⟨t, ht, hr⟩ := (range_map_eq hmap).2 v hv
  rw [Option.map_eq_some_iff] at hr
  obtain ⟨d, hd, habs⟩ := hr
  refine sub_abs_lt _ _ d tol (hden v hv).1 (hden v hv).2 hd htol (lt_of_le_of_lt ?_ hlt)
  rw [← toRat_abs, habs, ← hmd]
  exact (foldl_maxD_ge ds Dbl.zero Nat.one_pos hdsP).2 t (List.mem_of_getElem? ht)

end Dsw.PowerStopF
