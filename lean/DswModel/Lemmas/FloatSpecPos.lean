import DswModel.Lemmas.FloatSpecLog
import Mathlib.Tactic.Ring
/-!
# The positive rounding `roundPos` in a scaled normal form

Everything is multiplied by `2^1074`, so that every exponent becomes a natural number: with `roundPos n d = (m, e)`,
`k = e + 1074`, `A = n * 2^1074`, `U = d * 2^k` (the unit in the last place, times `d`, scaled), the result is `m * U`
and `PosSpec` collects what is known: half-ulp error, ties to even, position of `A` between powers of two.
-/
namespace Dsw

theorem rne_spec {num den : Nat} (hd : 0 < den) :
    2 * (rne num den * den) ≤ 2 * num + den ∧ 2 * num ≤ 2 * (rne num den * den) + den ∧
    ((2 * (rne num den * den) = 2 * num + den ∨ 2 * num = 2 * (rne num den * den) + den) →
      rne num den % 2 = 0) := by
  have h1 := Nat.div_add_mod num den
  have h2 := Nat.mod_lt num hd
  unfold rne
  simp only
  generalize num / den = q at *
  generalize num % den = r at *
  split
  · rw [Nat.add_mul, Nat.one_mul, Nat.mul_comm q den]
    generalize den * q = P at *
    omega
  · rw [Nat.mul_comm q den]
    generalize den * q = P at *
    omega

theorem rne_scaled {num den c A U : Nat} (hd : 0 < den) (hc : 0 < c) (hA : A = num * c) (hU : U = den * c) :
    2 * (rne num den * U) ≤ 2 * A + U ∧ 2 * A ≤ 2 * (rne num den * U) + U ∧
    ((2 * (rne num den * U) = 2 * A + U ∨ 2 * A = 2 * (rne num den * U) + U) → rne num den % 2 = 0) ∧
    (∀ J, J * U ≤ A → J ≤ rne num den) ∧ (∀ J, A ≤ J * U → rne num den ≤ J) := by
  obtain ⟨s1, s2, s3⟩ := rne_spec (num := num) hd
  subst hA hU
  generalize hm : rne num den = m at *
  have e1 : 2 * (m * (den * c)) = 2 * (m * den) * c := by ring
  have e2 : 2 * (num * c) + den * c = (2 * num + den) * c := by ring
  have e3 : 2 * (m * (den * c)) + den * c = (2 * (m * den) + den) * c := by ring
  have e4 : 2 * (num * c) = 2 * num * c := by ring
  refine ⟨?_, ?_, ?_, ?_, ?_⟩
  · rw [e1, e2]; exact Nat.mul_le_mul_right _ s1
  · rw [e4, e3]; exact Nat.mul_le_mul_right _ s2
  · rintro (h | h)
    · rw [e1, e2] at h
      exact s3 (Or.inl (Nat.eq_of_mul_eq_mul_right hc h))
    · rw [e4, e3] at h
      exact s3 (Or.inr (Nat.eq_of_mul_eq_mul_right hc h))
  · intro J h
    have : J * den * c ≤ num * c := by rw [Nat.mul_assoc]; exact h
    exact hm ▸ rne_ge hd (Nat.le_of_mul_le_mul_right this hc)
  · intro J h
    have : num * c ≤ J * den * c := by rw [Nat.mul_assoc]; exact h
    exact hm ▸ rne_le hd (Nat.le_of_mul_le_mul_right this hc)

/-- `roundPos n d = (m, e)` described with `k = e + O`, `A = n * 2^O`, `U = d * 2^k` (`O = 1074`, kept as a
parameter so that no tactic ever evaluates `2^1074`). -/
structure PosSpec (O n d m : Nat) (e : Int) (k : Nat) : Prop where
  hk : e = (k : Int) - (O : Int)
  m_le : m ≤ 2 ^ 53
  m_ge : 0 < k → 2 ^ 52 ≤ m
  lower : 0 < k → 2 ^ 52 * (d * 2 ^ k) ≤ n * 2 ^ O
  upper : n * 2 ^ O < 2 ^ 53 * (d * 2 ^ k)
  half_lo : 2 * (m * (d * 2 ^ k)) ≤ 2 * (n * 2 ^ O) + d * 2 ^ k
  half_hi : 2 * (n * 2 ^ O) ≤ 2 * (m * (d * 2 ^ k)) + d * 2 ^ k
  tie : (2 * (m * (d * 2 ^ k)) = 2 * (n * 2 ^ O) + d * 2 ^ k ∨
         2 * (n * 2 ^ O) = 2 * (m * (d * 2 ^ k)) + d * 2 ^ k) → m % 2 = 0

/-- numerator and denominator of the rounding step of `roundPos` are `A = n * 2^O` and `U = d * 2^k` up to a common
factor (`O` the offset, `k = e + O`). -/
theorem scaled_coeffs (O : Nat) (e : Int) (k : Nat) (hk : e = (k : Int) - (O : Int)) (n d : Nat) :
    ∃ c, 0 < c ∧ n * 2 ^ O = (if e < 0 then n * 2 ^ (-e).toNat else n) * c ∧
      d * 2 ^ k = (if e < 0 then d else d * 2 ^ e.toNat) * c := by
  by_cases hneg : e < 0
  · simp only [hneg, if_true]
    have hO : O = (-e).toNat + k := by omega
    refine ⟨2 ^ k, Nat.two_pow_pos k, ?_, rfl⟩
    rw [Nat.mul_assoc, ← Nat.pow_add, ← hO]
  · simp only [hneg, if_false]
    have hkk : k = e.toNat + O := by omega
    refine ⟨2 ^ O, Nat.two_pow_pos O, rfl, ?_⟩
    rw [hkk, Nat.pow_add, Nat.mul_assoc]

/-- where `A = n * 2^O` lies when `2^L ≤ n/d < 2^(L+1)` and the exponent is `e = k − O ≥ L − 52`, with equality
unless `k = 0`: below `2^53` units `U = d * 2^k`, and at least `2^52` units unless `k = 0`. -/
theorem scaled_position {n d O k : Nat} {L e : Int} (hk : e = (k : Int) - (O : Int)) (he : L - 52 ≤ e)
    (he' : 0 < k → e = L - 52)
    (hlo : if L ≥ 0 then d * 2 ^ L.toNat ≤ n else d ≤ n * 2 ^ (-L).toNat)
    (hhi : if L + 1 ≥ 0 then n < d * 2 ^ (L + 1).toNat else n * 2 ^ (-(L + 1)).toNat < d) :
    (0 < k → 2 ^ 52 * (d * 2 ^ k) ≤ n * 2 ^ O) ∧ n * 2 ^ O < 2 ^ 53 * (d * 2 ^ k) := by
  constructor
  · intro hkpos
    have hL := he' hkpos
    have h1 := (pow2_le_iff (a := k + 52) (b := O) (by omega)).1 hlo
    rwa [Nat.pow_add, ← Nat.mul_assoc, Nat.mul_comm (d * 2 ^ k)] at h1
  · have h1 := pow2_lt_of_le (a := k + 53) (b := O) (by omega) hhi
    rwa [Nat.pow_add, ← Nat.mul_assoc, Nat.mul_comm (d * 2 ^ k)] at h1

theorem roundPos_posSpec (n d : Nat) (hn : 0 < n) (hd : 0 < d) :
    ∃ k, PosSpec 1074 n d (roundPos n d).1 (roundPos n d).2 k := by
  obtain ⟨hlo, hhi⟩ := ratLog2_spec' n d hn hd
  rw [roundPos_eq]
  simp only
  generalize ratLog2 n d = L at *
  generalize he : max (L - 52) (-1074) = e
  obtain ⟨k, hk⟩ : ∃ k : Nat, e = (k : Int) - (1074 : Nat) := ⟨(e + 1074).toNat, by omega⟩
  obtain ⟨hlower, hupper⟩ := scaled_position hk (by omega) (by omega) hlo hhi
  obtain ⟨c, hc, hA, hU'⟩ := scaled_coeffs 1074 e k hk n d
  have hden : 0 < (if e < 0 then d else d * 2 ^ e.toNat) := by
    split
    · exact hd
    · exact Nat.mul_pos hd (Nat.two_pow_pos _)
  obtain ⟨s1, s2, s3, s4, s5⟩ := rne_scaled hden hc hA hU'
  exact ⟨k, ⟨hk, s5 _ (Nat.le_of_lt hupper), fun hkpos => s4 _ (hlower hkpos), hlower, hupper, s1, s2, s3⟩⟩

theorem half_natAbs {X Y D m : Nat} (s1 : 2 * Y ≤ 2 * X + D) (s2 : 2 * X ≤ 2 * Y + D)
    (s3 : (2 * Y = 2 * X + D ∨ 2 * X = 2 * Y + D) → m % 2 = 0) :
    2 * ((X : Int) - (Y : Int)).natAbs ≤ D ∧ (2 * ((X : Int) - (Y : Int)).natAbs = D → m % 2 = 0) := by
  omega

end Dsw
