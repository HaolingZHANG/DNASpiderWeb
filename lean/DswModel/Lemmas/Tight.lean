import DswModel.Lemmas.CoderFast
/-! Step bound and tightness of the strand (C04). -/
namespace Dsw

/-- out-degrees met along a walk, in order. -/
def radices (a : Acc) : Int → List Char → List Nat
  | _, [] => []
  | v, c :: s => a.outDeg v :: radices a (a.ent v ((nucIdx c).getD 0)) s

namespace Tight

theorem encodeNat_length (a : Acc) (tbl : Option Tbl) (f : Nat) (v : Int) (q : Nat)
    (s : List Char) (h : encodeNat a tbl f v q = .ok s) : s.length + 1 ≤ f :=
  encodeLoop_length f v q s h

theorem encodeFast_length (a : Acc) (tbl : Option Tbl) (f : Nat) (v : Int) (bits : List Nat)
    (s : List Char) (h : encodeFastLoop a tbl f v bits = .ok s) : s.length + 1 ≤ f :=
  encodeLoop_length f v bits s ((encodeFastLoop_eq a tbl f v bits).symm.trans h)

theorem tight_last (a : Acc) (tbl : Option Tbl) : ∀ (s : List Char) (v : Int), s ≠ [] →
    TightD a tbl v s → 2 ≤ a.outDeg (walkEnd a v s.dropLast) := by
  intro s
  induction s with
  | nil => intro v h; exact absurd rfl h
  | cons c s ih =>
    intro v _ ht
    obtain ⟨hne, htt⟩ := (tightD_cons_iff a tbl v c s).1 ht
    cases s with
    | nil =>
      simp only [List.dropLast, walkEnd]
      by_cases h1 : a.outDeg v > 1
      · omega
      · rw [walkValueD_cons_forced h1] at hne
        exact absurd rfl hne
    | cons c' t =>
      have := ih _ (by simp) htt
      simpa [List.dropLast, walkEnd] using this

theorem foldl_mul (l : List Nat) (x : Nat) :
    l.foldl (· * ·) x = x * l.foldl (· * ·) 1 := by
  induction l generalizing x with
  | nil => simp
  | cons y l ih =>
    simp only [List.foldl_cons]
    rw [ih (x * y), ih (1 * y)]
    simp [Nat.mul_assoc]

theorem tight_prod (a : Acc) (tbl : Option Tbl) : ∀ (s : List Char) (v : Int), s ≠ [] →
    TightD a tbl v s →
    ((radices a v s.dropLast).filter (· > 1)).foldl (· * ·) 1 ≤ walkValueD a tbl v s := by
  intro s
  induction s with
  | nil => intro v h; exact absurd rfl h
  | cons c s ih =>
    intro v _ ht
    obtain ⟨hne, htt⟩ := (tightD_cons_iff a tbl v c s).1 ht
    cases s with
    | nil =>
      simp only [List.dropLast, radices, List.filter_nil, List.foldl_nil]
      omega
    | cons c' t =>
      have hrec := ih _ (by simp) htt
      have hd : (c :: c' :: t).dropLast = c :: (c' :: t).dropLast := by simp [List.dropLast]
      rw [hd]
      simp only [radices]
      by_cases h1 : a.outDeg v > 1
      · rw [walkValueD_cons_branch h1, List.filter_cons_of_pos (by simpa using h1),
          List.foldl_cons, foldl_mul, Nat.one_mul]
        have := Nat.mul_le_mul_left (a.outDeg v) hrec
        omega
      · rw [walkValueD_cons_forced h1, List.filter_cons_of_neg (by simpa using h1)]
        exact hrec

theorem tight_pow (a : Acc) (tbl : Option Tbl) (k : Nat) (hk : 2 ≤ k) : ∀ (s : List Char) (v : Int),
    s ≠ [] → TightD a tbl v s →
    (∀ i, i < s.length → k ≤ a.outDeg (walkEnd a v (s.take i))) →
    k ^ (s.length - 1) ≤ walkValueD a tbl v s := by
  intro s
  induction s with
  | nil => intro v h; exact absurd rfl h
  | cons c s ih =>
    intro v _ ht hdeg
    obtain ⟨hne, htt⟩ := (tightD_cons_iff a tbl v c s).1 ht
    have h0 : k ≤ a.outDeg v := hdeg 0 (Nat.succ_pos _)
    cases s with
    | nil => exact Nat.one_le_iff_ne_zero.2 hne
    | cons c' t =>
      have hrec : k ^ t.length ≤ _ :=
        ih _ (List.cons_ne_nil _ _) htt fun i hi => hdeg (i + 1) (Nat.succ_lt_succ hi)
      rw [walkValueD_cons_branch (Nat.lt_of_lt_of_le hk h0)]
      show k ^ (t.length + 1) ≤ _
      rw [Nat.pow_succ]
      exact Nat.le_trans (Nat.mul_le_mul hrec h0) (by rw [Nat.mul_comm]; exact Nat.le_add_left _ _)

theorem tight_length (a : Acc) (tbl : Option Tbl) (e : Nat) (he : 1 ≤ e) (s : List Char) (v : Int)
    (hs : s ≠ []) (ht : TightD a tbl v s)
    (hdeg : ∀ i, i < s.length → 2 ^ e ≤ a.outDeg (walkEnd a v (s.take i))) {L : Nat}
    (hq : walkValueD a tbl v s < 2 ^ L) : e * (s.length - 1) < L := by
  have hp := tight_pow a tbl (2 ^ e) (Nat.le_self_pow (Nat.ne_of_gt he) 2) s v hs ht hdeg
  rw [← Nat.pow_mul] at hp
  exact (Nat.pow_lt_pow_iff_right (Nat.lt_succ_self 1)).1 (Nat.lt_of_le_of_lt hp hq)

theorem walkEnd_dropLast_cons (a : Acc) (v : Int) {j : Nat} (hj : j < 4) (c' : Char) (t : List Char) :
    walkEnd a v (nucChar j :: c' :: t).dropLast = walkEnd a (a.ent v j) (c' :: t).dropLast := by
  have hd : (nucChar j :: c' :: t).dropLast = nucChar j :: (c' :: t).dropLast := by
    simp [List.dropLast]
  rw [hd]
  simp only [walkEnd, nucIdx_nucChar j hj, Option.getD_some]

theorem fast_last (a : Acc) (tbl : Option Tbl) (f : Nat) (v : Int) (bits : List Nat)
    (s : List Char) (hb : IsBits bits) (h : encodeFastLoop a tbl f v bits = .ok s) (hs : s ≠ []) :
    (a.outDeg (walkEnd a v s.dropLast) = 2 ∨ a.outDeg (walkEnd a v s.dropLast) = 4) := by
  refine encodeFastLoop_induction (motive := fun _ v bits s => IsBits bits → s ≠ [] →
    (a.outDeg (walkEnd a v s.dropLast) = 2 ∨ a.outDeg (walkEnd a v s.dropLast) = 4))
    ?_ ?_ f v bits s h hb hs
  · intro _ _ _ h
    exact absurd rfl h
  · intro _ v b0 rest d bits' s ht hs ih hb _
    obtain ⟨hlt, hb', hcase⟩ := fastTake_cases hb ht
    cases s with
    | nil =>
      -- the last nucleotide: after a forced step the message is still there, and the empty strand
      -- carries none of it
      rcases hcase with ⟨h4, _, _⟩ | ⟨h2, _, _⟩ | ⟨_, _, rfl⟩
      · exact .inr h4
      · exact .inl h2
      · rcases (encodeFastLoop_spec a tbl _ _ _ [] hb' hs).2.2.1 with h | h <;> cases h
    | cons c' t =>
      rw [walkEnd_dropLast_cons a v (selectArc_lt_four a tbl v hlt)]
      exact ih hb' (List.cons_ne_nil _ _)

end Dsw.Tight
