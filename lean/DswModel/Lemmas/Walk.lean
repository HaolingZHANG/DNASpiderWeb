import DswModel.Lemmas.Digit
/-! Walks of an accessor, the forced path from a vertex to the next branching vertex, and the loop
that both modes of `encode` run (`encodeLoop`), with what holds of it whatever the mode: it emits
a walk, one nucleotide per unit of fuel, and `L·|V| + 1` units suffice on a `GoodFrom` graph. -/
namespace Dsw

theorem next_of_live {a : Acc} {v : Int} {c : Char} {j : Nat} (hc : nucIdx c = some j)
    (hj : j ∈ a.live v) : a.next v c = some (a.ent v j) := by
  simp [Acc.next, hc, live_ent_nonneg a v hj]

theorem next_some {a : Acc} {v : Int} {c : Char} {t : Int} (h : a.next v c = some t) :
    ∃ j, nucIdx c = some j ∧ j ∈ a.live v ∧ t = a.ent v j := by
  unfold Acc.next at h
  cases hc : nucIdx c with
  | none => simp [hc] at h
  | some j =>
    simp only [hc] at h
    by_cases hge : a.ent v j ≥ 0
    · rw [if_pos hge] at h
      exact ⟨j, rfl, (a.mem_live v j).2 ⟨nucIdx_lt hc, hge⟩, (Option.some.inj h).symm⟩
    · rw [if_neg hge] at h
      cases h

theorem livePos_of_live {a : Acc} {v : Int} {j : Nat} (hj : j ∈ a.live v) :
    livePos a v (nucChar j) = some ((a.live v).idxOf j) := by
  simp [livePos, nucIdx_nucChar j (live_lt_four a v hj), hj]

theorem livePos_of_next_none {a : Acc} {v : Int} {c : Char} (h : a.next v c = none) :
    livePos a v c = none := by
  unfold livePos
  cases hc : nucIdx c with
  | none => rfl
  | some j =>
    have hnot : j ∉ a.live v := fun hj => by
      rw [next_of_live hc hj] at h
      cases h
    simp [hnot]

theorem isWalk_cons {a : Acc} {v : Int} {c : Char} {s : List Char} (h : isWalk a v (c :: s) = true) :
    ∃ j, j ∈ a.live v ∧ c = nucChar j ∧ isWalk a (a.ent v j) s = true := by
  rw [isWalk] at h
  cases hn : a.next v c with
  | none => rw [hn] at h; cases h
  | some t =>
    obtain ⟨j, hc, hj, rfl⟩ := next_some hn
    rw [hn] at h
    exact ⟨j, hj, (nucChar_nucIdx hc).symm, h⟩

theorem isWalk_cons_live {a : Acc} {v : Int} {j : Nat} (hj : j ∈ a.live v) (s : List Char) :
    isWalk a v (nucChar j :: s) = isWalk a (a.ent v j) s := by
  rw [isWalk, next_of_live (nucIdx_nucChar j (live_lt_four a v hj)) hj]

theorem walkEnd_cons_live {a : Acc} {v : Int} {j : Nat} (hj : j ∈ a.live v) (s : List Char) :
    walkEnd a v (nucChar j :: s) = walkEnd a (a.ent v j) s := by
  rw [walkEnd, nucIdx_nucChar_getD (live_lt_four a v hj)]

theorem forall_walkEnd_take_cons {a : Acc} {v : Int} {j : Nat} (hj : j ∈ a.live v) (s : List Char)
    (P : Int → Prop) :
    (∀ i, i < (nucChar j :: s).length → P (walkEnd a v ((nucChar j :: s).take i))) ↔
      P v ∧ ∀ i, i < s.length → P (walkEnd a (a.ent v j) (s.take i)) := by
  have hstep : ∀ i, walkEnd a v ((nucChar j :: s).take (i + 1)) = walkEnd a (a.ent v j) (s.take i) :=
    fun i => by rw [List.take_succ_cons, walkEnd_cons_live hj]
  constructor
  · intro h
    exact ⟨h 0 (Nat.succ_pos _), fun i hi => hstep i ▸ h (i + 1) (Nat.succ_lt_succ hi)⟩
  · rintro ⟨h0, ht⟩ i hi
    cases i with
    | zero => exact h0
    | succ i => exact (hstep i).symm ▸ ht i (Nat.lt_of_succ_lt_succ hi)

theorem isWalk_induction {a : Acc} {motive : Int → List Char → Prop} (nil : ∀ v, motive v [])
    (cons : ∀ v j s, j ∈ a.live v → isWalk a (a.ent v j) s = true → motive (a.ent v j) s →
      motive v (nucChar j :: s)) :
    ∀ (s : List Char) (v : Int), isWalk a v s = true → motive v s := by
  intro s
  induction s with
  | nil => intro v _; exact nil v
  | cons c s ih =>
    intro v hw
    obtain ⟨j, hj, rfl, hw'⟩ := isWalk_cons hw
    exact cons v j s hj hw' (ih _ hw')

theorem isAcgt_of_isWalk {a : Acc} (s : List Char) (v : Int) (hw : isWalk a v s = true) :
    IsAcgt s := by
  refine isWalk_induction (motive := fun _ s => IsAcgt s) (fun _ c hc => by cases hc) ?_ s v hw
  intro v j s hj _ ih c hc
  rcases List.mem_cons.1 hc with rfl | hc
  · rw [nucIdx_nucChar j (live_lt_four a v hj)]; rfl
  · exact ih c hc

theorem next_some_ent {a : Acc} {v : Int} {c : Char} {t : Int} (h : a.next v c = some t) :
    t = a.ent v ((nucIdx c).getD 0) := by
  obtain ⟨j, hc, -, rfl⟩ := next_some h
  rw [hc]; rfl

theorem isWalk_append (a : Acc) : ∀ (X Y : List Char) (v : Int),
    isWalk a v (X ++ Y) = (isWalk a v X && isWalk a (walkEnd a v X) Y)
  | [], Y, v => by simp [isWalk, walkEnd]
  | c :: X, Y, v => by
    simp only [List.cons_append, isWalk, walkEnd]
    cases h : a.next v c with
    | none => simp
    | some t =>
      simp only
      rw [isWalk_append a X Y t, next_some_ent h]

theorem walkEnd_append (a : Acc) : ∀ (X Y : List Char) (v : Int),
    walkEnd a v (X ++ Y) = walkEnd a (walkEnd a v X) Y
  | [], Y, v => by simp [walkEnd]
  | c :: X, Y, v => by
    simp only [List.cons_append, walkEnd]
    exact walkEnd_append a X Y _

theorem isWalk_false_split (a : Acc) : ∀ (T : List Char) (u : Int), isWalk a u T = false →
    ∃ Ta d Tb, T = Ta ++ d :: Tb ∧ isWalk a u Ta = true ∧ a.next (walkEnd a u Ta) d = none
  | [], u, h => by simp [isWalk] at h
  | c :: T, u, h => by
    cases hn : a.next u c with
    | none => exact ⟨[], c, T, rfl, rfl, by simpa [walkEnd] using hn⟩
    | some t =>
      simp only [isWalk, hn] at h
      obtain ⟨Ta, d, Tb, e, h1, h2⟩ := isWalk_false_split a T t h
      refine ⟨c :: Ta, d, Tb, by rw [e]; rfl, ?_, ?_⟩
      · simpa [isWalk, hn] using h1
      · simpa [walkEnd, ← next_some_ent hn] using h2

theorem isWalk_prefix (a : Acc) (X Y : List Char) (v : Int) (h : isWalk a v (X ++ Y) = true) :
    isWalk a v X = true := by
  rw [isWalk_append, Bool.and_eq_true] at h; exact h.1

theorem outDeg_pos {a : Acc} {v : Int} {j : Nat} (hj : j ∈ a.live v) : 1 ≤ a.outDeg v :=
  List.length_pos_of_mem hj

theorem forced_mem {a : Acc} {v : Int} (h : 1 ≤ a.outDeg v) : (a.live v).getD 0 0 ∈ a.live v := by
  rw [list_getD_eq_getElem _ _ h]
  exact List.getElem_mem h

theorem forced_unique {a : Acc} {v : Int} (h : a.outDeg v = 1) {j : Nat} (hj : j ∈ a.live v) :
    j = (a.live v).getD 0 0 := by
  unfold Acc.outDeg at h
  match hl : a.live v, h, hj with
  | [x], _, hj => exact List.mem_singleton.1 hj

/-- at a vertex with one arc both modes select it with the digit 0. -/
theorem selectArc_forced (a : Acc) (tbl : Option Tbl) {v : Int} (h : a.outDeg v = 1) :
    selectArc a tbl v 0 = (a.live v).getD 0 0 :=
  forced_unique h (selectArc_mem a tbl v (by omega))

theorem arcDigit_forced (a : Acc) (tbl : Option Tbl) {v : Int} (h : a.outDeg v = 1) {j : Nat}
    (hj : j ∈ a.live v) : arcDigit a tbl v j = 0 := by
  have := arcDigit_lt a tbl v hj
  omega

theorem reach_trans {a : Acc} {u v w : Int} (h1 : a.Reach v u) (h2 : a.Reach u w) : a.Reach v w := by
  induction h1 with
  | refl => exact h2
  | step v j _ hj _ ih => exact .step v j _ hj (ih h2)

theorem reach_arc {a : Acc} {v u : Int} {j : Nat} (h : a.Reach v u) (hj : j ∈ a.live u) :
    a.Reach v (a.ent u j) :=
  reach_trans h (.step u j _ hj (.refl _))

theorem reach_walkEnd_take {a : Acc} (s : List Char) (v : Int) (hw : isWalk a v s = true) :
    ∀ i, a.Reach v (walkEnd a v (s.take i)) := by
  refine isWalk_induction (motive := fun v s => ∀ i, a.Reach v (walkEnd a v (s.take i)))
    (fun v i => by rw [List.take_nil]; exact .refl v) ?_ s v hw
  intro v j s hj _ ih i
  cases i with
  | zero => exact .refl v
  | succ i =>
    rw [List.take_succ_cons, walkEnd_cons_live hj]
    exact .step v j _ hj (ih i)

/-- the successor along the first live arc (the only one at a one-arc vertex). -/
def forcedNext (a : Acc) (u : Int) : Int := a.ent u ((a.live u).getD 0 0)

/-- following forced arcs from `u`, the first branching vertex is met after exactly `n` steps. -/
def BranchIn (a : Acc) : Nat → Int → Prop
  | 0, u => a.outDeg u ≥ 2
  | n + 1, u => a.outDeg u = 1 ∧ BranchIn a n (forcedNext a u)

theorem branchIn_of_reach {a : Acc} {u w : Int} (h : a.Reach u w) (hw : a.outDeg w ≥ 2) :
    ∃ n, BranchIn a n u := by
  induction h with
  | refl v => exact ⟨0, hw⟩
  | step v j w' hj _ ih =>
    by_cases hb : a.outDeg v ≥ 2
    · exact ⟨0, hb⟩
    · have h1 : a.outDeg v = 1 := by have := outDeg_pos hj; omega
      obtain ⟨n, hn⟩ := ih hw
      rw [forced_unique h1 hj] at hn
      exact ⟨n + 1, h1, hn⟩

/-- the vertices of a forced path of `n` steps, the branching vertex at its end included. -/
def forcedPath (a : Acc) : Nat → Int → List Int
  | 0, u => [u]
  | n + 1, u => u :: forcedPath a n (forcedNext a u)

theorem mem_forcedPath {a : Acc} {v : Int} : ∀ {n : Nat} {u x : Int}, BranchIn a n u → a.Reach v u →
    x ∈ forcedPath a n u → a.Reach v x ∧ ∃ m, m ≤ n ∧ BranchIn a m x
  | 0, u, x, h, hu, hx => by
    rw [List.mem_singleton.1 hx]
    exact ⟨hu, 0, Nat.le_refl 0, h⟩
  | n + 1, u, x, h, hu, hx => by
    rcases List.mem_cons.1 hx with rfl | hx
    · exact ⟨hu, n + 1, Nat.le_refl _, h⟩
    · obtain ⟨hr, m, hm, hb⟩ :=
        mem_forcedPath h.2 (reach_arc hu (forced_mem (Nat.le_of_eq h.1.symm))) hx
      exact ⟨hr, m, Nat.le_succ_of_le hm, hb⟩

theorem branchIn_unique {a : Acc} : ∀ {n m : Nat} {u : Int}, BranchIn a n u → BranchIn a m u → n = m
  | 0, 0, _, _, _ => rfl
  | 0, m + 1, u, h, h' => by have h1 : a.outDeg u ≥ 2 := h; have h2 := h'.1; omega
  | n + 1, 0, u, h, h' => by have h1 : a.outDeg u ≥ 2 := h'; have h2 := h.1; omega
  | n + 1, m + 1, _, h, h' => by rw [branchIn_unique h.2 h'.2]

/-- the distance to the branching vertex falls along a forced path, so no vertex repeats. -/
theorem forcedPath_nodup {a : Acc} : ∀ {n : Nat} {u : Int}, BranchIn a n u → (forcedPath a n u).Nodup
  | 0, _, _ => List.pairwise_singleton _ _
  | n + 1, u, h => by
    refine List.nodup_cons.2 ⟨fun hx => ?_, forcedPath_nodup h.2⟩
    obtain ⟨_, m, hm, hb⟩ := mem_forcedPath h.2 (.refl _) hx
    have := branchIn_unique h hb
    omega

theorem forcedPath_length (a : Acc) : ∀ (n : Nat) (u : Int), (forcedPath a n u).length = n + 1
  | 0, _ => rfl
  | n + 1, u => by rw [forcedPath, List.length_cons, forcedPath_length a n]

/-- pigeonhole: the vertices of a forced path are pairwise distinct row indices, so the path from a
reachable vertex meets its branching vertex within `|V| - 1` steps. -/
theorem branchIn_lt {a : Acc} {v u : Int} (hrows : ∀ w, a.Reach v w → 0 ≤ w ∧ w < (a.size : Int))
    (hu : a.Reach v u) {n : Nat} (hn : BranchIn a n u) : n < a.size := by
  have hnd : ((forcedPath a n u).map Int.toNat).Nodup := by
    rw [List.Nodup, List.pairwise_map]
    refine (forcedPath_nodup hn).imp_of_mem fun {x y} hx hy hne h => ?_
    have := hrows x (mem_forcedPath hn hu hx).1
    have := hrows y (mem_forcedPath hn hu hy).1
    omega
  have hsub : (forcedPath a n u).map Int.toNat ⊆ List.range a.size := by
    intro x hx
    obtain ⟨y, hy, rfl⟩ := List.mem_map.1 hx
    have := hrows y (mem_forcedPath hn hu hy).1
    exact List.mem_range.2 (by omega)
  have := hnd.length_le_of_subset hsub
  rw [List.length_map, forcedPath_length, List.length_range] at this
  exact this

theorem R.map_ok {α β} {x : R α} {f : α → β} {y : β} (h : x.map f = .ok y) :
    ∃ x', x = .ok x' ∧ f x' = y := by
  cases x with
  | error e => cases h
  | ok x' => exact ⟨x', rfl, by cases h; rfl⟩

/-- the loop both modes of `encode` run on what is left of the message (normal mode: the number
still to be written; fast mode: the bits): until that is `done`, `take` reads a digit off it, given
the out-degree of the vertex, and the arc of that digit is followed. `take` answers `none` for an
out-degree the mode has no rule for (`ValueError`). -/
def encodeLoop {σ : Type} (done : σ → Bool) (take : Nat → σ → Option (Nat × σ)) (a : Acc)
    (tbl : Option Tbl) : Nat → Int → σ → R (List Char)
  | 0, _, _ => .error .outOfFuel
  | f + 1, v, m =>
    if done m then .ok []
    else match take (a.outDeg v) m with
      | none => .error .valueError
      | some (d, m') =>
        (encodeLoop done take a tbl f (a.ent v (selectArc a tbl v d)) m').map
          (nucChar (selectArc a tbl v d) :: ·)

section
variable {σ : Type} {done : σ → Bool} {take : Nat → σ → Option (Nat × σ)} {a : Acc}
  {tbl : Option Tbl}

theorem encodeLoop_done (f : Nat) (v : Int) {m : σ} (h : done m = true) :
    encodeLoop done take a tbl (f + 1) v m = .ok [] := by
  rw [encodeLoop, if_pos h]

theorem encodeLoop_step (f : Nat) (v : Int) {m m' : σ} {d : Nat} (h : done m = false)
    (ht : take (a.outDeg v) m = some (d, m')) :
    encodeLoop done take a tbl (f + 1) v m =
      (encodeLoop done take a tbl f (a.ent v (selectArc a tbl v d)) m').map
        (nucChar (selectArc a tbl v d) :: ·) := by
  rw [encodeLoop, if_neg (by rw [h]; exact Bool.false_ne_true), ht]

theorem encodeLoop_dead (f : Nat) (v : Int) {m : σ} (h : done m = false)
    (ht : take (a.outDeg v) m = none) :
    encodeLoop done take a tbl (f + 1) v m = .error .valueError := by
  rw [encodeLoop, if_neg (by rw [h]; exact Bool.false_ne_true), ht]

theorem encodeLoop_induction {motive : Nat → Int → σ → List Char → Prop}
    (nil : ∀ f v m, done m = true → motive (f + 1) v m [])
    (cons : ∀ f v m d m' s, done m = false → take (a.outDeg v) m = some (d, m') →
      encodeLoop done take a tbl f (a.ent v (selectArc a tbl v d)) m' = .ok s →
      motive f (a.ent v (selectArc a tbl v d)) m' s →
      motive (f + 1) v m (nucChar (selectArc a tbl v d) :: s)) :
    ∀ (f : Nat) (v : Int) (m : σ) (s : List Char),
      encodeLoop done take a tbl f v m = .ok s → motive f v m s := by
  intro f
  induction f with
  | zero => intro v m s h; cases h
  | succ f ih =>
    intro v m s h
    cases hd : done m with
    | true =>
      rw [encodeLoop_done f v hd] at h
      cases h
      exact nil f v m hd
    | false =>
      cases ht : take (a.outDeg v) m with
      | none =>
        rw [encodeLoop_dead f v hd ht] at h
        cases h
      | some dm =>
        rw [encodeLoop_step f v hd ht] at h
        obtain ⟨s', hs', rfl⟩ := R.map_ok h
        exact cons f v m dm.1 dm.2 s' hd ht hs' (ih _ _ _ hs')

/-- every emitted nucleotide costs one unit of fuel, the final test one more. -/
theorem encodeLoop_length (f : Nat) (v : Int) (m : σ) (s : List Char)
    (h : encodeLoop done take a tbl f v m = .ok s) : s.length + 1 ≤ f := by
  refine encodeLoop_induction (motive := fun f _ _ s => s.length + 1 ≤ f) ?_ ?_ f v m s h
  · intro f _ _ _
    exact Nat.le_add_left 1 f
  · intro f _ _ _ _ s _ _ _ ih
    exact Nat.succ_le_succ ih

theorem encodeLoop_mono (f : Nat) (v : Int) (m : σ) (s : List Char)
    (h : encodeLoop done take a tbl f v m = .ok s) (k : Nat) :
    encodeLoop done take a tbl (f + k) v m = .ok s := by
  refine encodeLoop_induction
    (motive := fun f v m s => encodeLoop done take a tbl (f + k) v m = .ok s) ?_ ?_ f v m s h
  · intro f v m hd
    rw [Nat.add_right_comm, encodeLoop_done _ v hd]
  · intro f v m d m' s hd ht _ ih
    rw [Nat.add_right_comm, encodeLoop_step _ v hd ht, ih]
    rfl

/-- `n` forced steps to a branching vertex cost `n + 1` units of fuel: if the message fits in
`L + 1` branching steps (`P (L + 1) m`) and messages that fit in `L` are encoded with fuel `F`
from every vertex, the loop returns. `hstep` says what `take` does at the out-degrees in reach:
at a vertex with one arc the message is left alone, elsewhere it is shortened. -/
theorem encodeLoop_branchIn {P : Nat → σ → Prop} {v : Int} {L F : Nat}
    (hstep : ∀ u m, a.Reach v u → P (L + 1) m → done m = false →
      ∃ d m', take (a.outDeg u) m = some (d, m') ∧ d < a.outDeg u ∧
        (a.outDeg u = 1 → d = 0 ∧ m' = m) ∧ (a.outDeg u ≠ 1 → P L m'))
    (ih : ∀ u m, a.Reach v u → P L m → ∃ s, encodeLoop done take a tbl F u m = .ok s)
    {m : σ} (hm : P (L + 1) m) (hd : done m = false) :
    ∀ (n : Nat) (u : Int), BranchIn a n u → a.Reach v u →
      ∃ s, encodeLoop done take a tbl (n + 1 + F) u m = .ok s
  | 0, u, hb, hu => by
    obtain ⟨d, m', ht, hlt, _, hP⟩ := hstep u m hu hm hd
    have hb' : a.outDeg u ≥ 2 := hb
    obtain ⟨s, hs⟩ := ih _ m' (reach_arc hu (selectArc_mem a tbl u hlt)) (hP (by omega))
    rw [Nat.zero_add, Nat.add_comm, encodeLoop_step F u hd ht, hs]
    exact ⟨_, rfl⟩
  | n + 1, u, hb, hu => by
    obtain ⟨d, m', ht, hlt, h1, _⟩ := hstep u m hu hm hd
    obtain ⟨rfl, rfl⟩ := h1 hb.1
    have hsel : a.ent u (selectArc a tbl u 0) = forcedNext a u := by
      rw [selectArc_forced a tbl hb.1, forcedNext]
    obtain ⟨s, hs⟩ := encodeLoop_branchIn hstep ih hm hd n _ hb.2
      (hsel ▸ reach_arc hu (selectArc_mem a tbl u hlt))
    rw [Nat.add_right_comm, encodeLoop_step _ u hd ht, hsel, hs]
    exact ⟨_, rfl⟩

/-- on a `GoodFrom` graph the loop returns within `L·|V| + 1` steps for every message that fits in
`L` branching steps, from every reachable vertex: each branching step is preceded by fewer than
`|V|` forced ones. -/
theorem encodeLoop_total {P : Nat → σ → Prop} {v : Int} (hg : a.GoodFrom v)
    (h0 : ∀ m, P 0 m → done m = true)
    (hstep : ∀ L u m, a.Reach v u → P (L + 1) m → done m = false →
      ∃ d m', take (a.outDeg u) m = some (d, m') ∧ d < a.outDeg u ∧
        (a.outDeg u = 1 → d = 0 ∧ m' = m) ∧ (a.outDeg u ≠ 1 → P L m')) :
    ∀ (L : Nat) (u : Int) (m : σ), a.Reach v u → P L m →
      ∃ s, encodeLoop done take a tbl (L * a.size + 1) u m = .ok s
  | 0, u, m, _, hm => ⟨[], by rw [Nat.zero_mul]; exact encodeLoop_done 0 u (h0 m hm)⟩
  | L + 1, u, m, hu, hm => by
    cases hd : done m with
    | true => exact ⟨[], encodeLoop_done _ u hd⟩
    | false =>
      obtain ⟨w, hr, hb⟩ := (hg u hu).2.2
      obtain ⟨n, hn⟩ := branchIn_of_reach hr hb
      have hlt : n < a.size := branchIn_lt (fun w hw => (hg w hw).1) hu hn
      obtain ⟨s, hs⟩ := encodeLoop_branchIn (hstep L) (encodeLoop_total hg h0 hstep L) hm hd n u hn hu
      have hfuel : (L + 1) * a.size + 1 = (n + 1 + (L * a.size + 1)) + (a.size - (n + 1)) := by
        rw [Nat.succ_mul]; omega
      rw [hfuel]
      exact ⟨s, encodeLoop_mono _ _ _ _ hs _⟩

end

end Dsw
