import DswModel.Model.Float
import DswModel.Lemmas.FloatRound
import Mathlib.Tactic.Linarith
/-!
# `ratLog2` is the floor of the binary logarithm; comparisons with a power of two

The statements of `Props/FloatSpec.lean` compare a fraction `n/d` with `2^L` for an integer `L` by a case split on the
sign of `L`. `pow2_le_iff` / `pow2_lt_iff` replace the split by one comparison of naturals, for ANY way of writing `L` as
a difference `a − b` of naturals; after that `ratLog2_spec'` is the usual argument about `Nat.log2`.
-/
namespace Dsw

/-- `2^L ≤ n/d` (sign-split) is `d * 2^a ≤ n * 2^b` whenever `L = a − b`. -/
theorem pow2_le_iff {n d : Nat} {L : Int} {a b : Nat} (h : L = (a : Int) - (b : Int)) :
    (if L ≥ 0 then d * 2 ^ L.toNat ≤ n else d ≤ n * 2 ^ (-L).toNat) ↔ d * 2 ^ a ≤ n * 2 ^ b := by
  by_cases hL : L ≥ 0
  · have ha : a = L.toNat + b := by omega
    rw [if_pos hL, ha, Nat.pow_add, ← Nat.mul_assoc]
    exact (Nat.mul_le_mul_right_iff (Nat.two_pow_pos b)).symm
  · have hb : b = (-L).toNat + a := by omega
    rw [if_neg hL, hb, Nat.pow_add, ← Nat.mul_assoc]
    exact (Nat.mul_le_mul_right_iff (Nat.two_pow_pos a)).symm

theorem pow2_lt_iff {n d : Nat} {L : Int} {a b : Nat} (h : L = (a : Int) - (b : Int)) :
    (if L ≥ 0 then n < d * 2 ^ L.toNat else n * 2 ^ (-L).toNat < d) ↔ n * 2 ^ b < d * 2 ^ a := by
  rw [← Nat.not_le (a := d * 2 ^ a), ← pow2_le_iff h]
  split <;> exact Nat.not_le.symm

theorem pow2_lt_of_le {n d : Nat} {L : Int} {a b : Nat} (hab : L ≤ (a : Int) - (b : Int))
    (h : if L ≥ 0 then n < d * 2 ^ L.toNat else n * 2 ^ (-L).toNat < d) : n * 2 ^ b < d * 2 ^ a := by
  by_cases hL : L ≥ 0
  · rw [if_pos hL] at h
    calc n * 2 ^ b < d * 2 ^ L.toNat * 2 ^ b := Nat.mul_lt_mul_of_pos_right h (Nat.two_pow_pos b)
      _ = d * 2 ^ (L.toNat + b) := by rw [Nat.mul_assoc, Nat.pow_add]
      _ ≤ d * 2 ^ a := Nat.mul_le_mul_left _ (Nat.pow_le_pow_right (by omega) (by omega))
  · rw [if_neg hL] at h
    calc n * 2 ^ b ≤ n * 2 ^ ((-L).toNat + a) :=
          Nat.mul_le_mul_left _ (Nat.pow_le_pow_right (by omega) (by omega))
      _ = n * 2 ^ (-L).toNat * 2 ^ a := by rw [Nat.pow_add, Nat.mul_assoc]
      _ < d * 2 ^ a := Nat.mul_lt_mul_of_pos_right h (Nat.two_pow_pos a)

/-- `ratLog2` starts from `e0 = log2 n − log2 d` and takes `e0` or `e0 − 1` according to one comparison. -/
theorem ratLog2_cases (n d : Nat) :
    (d * 2 ^ n.log2 ≤ n * 2 ^ d.log2 ∧ ratLog2 n d = (n.log2 : Int) - (d.log2 : Int)) ∨
    (n * 2 ^ d.log2 < d * 2 ^ n.log2 ∧ ratLog2 n d = (n.log2 : Int) - (d.log2 : Int) - 1) := by
  have key := pow2_le_iff (n := n) (d := d) (L := (n.log2 : Int) - (d.log2 : Int)) rfl
  unfold ratLog2
  simp only
  by_cases h0 : (n.log2 : Int) - (d.log2 : Int) ≥ 0
  · rw [if_pos h0] at key ⊢
    by_cases c : n ≥ d * 2 ^ ((n.log2 : Int) - (d.log2 : Int)).toNat
    · rw [if_pos c]; exact Or.inl ⟨key.1 c, rfl⟩
    · rw [if_neg c]; exact Or.inr ⟨Nat.lt_of_not_le (mt key.2 c), rfl⟩
  · rw [if_neg h0] at key ⊢
    by_cases c : n * 2 ^ (-((n.log2 : Int) - (d.log2 : Int))).toNat ≥ d
    · rw [if_pos c]; exact Or.inl ⟨key.1 c, rfl⟩
    · rw [if_neg c]; exact Or.inr ⟨Nat.lt_of_not_le (mt key.2 c), rfl⟩

theorem ratLog2_spec' (n d : Nat) (hn : 0 < n) (hd : 0 < d) :
    (if ratLog2 n d ≥ 0 then d * 2 ^ (ratLog2 n d).toNat ≤ n else d ≤ n * 2 ^ (-(ratLog2 n d)).toNat) ∧
    (if ratLog2 n d + 1 ≥ 0 then n < d * 2 ^ (ratLog2 n d + 1).toNat
      else n * 2 ^ (-(ratLog2 n d + 1)).toNat < d) := by
  have hn1 : 2 ^ n.log2 ≤ n := Nat.log2_self_le (by omega)
  have hn2 : n < 2 ^ (n.log2 + 1) := Nat.lt_log2_self
  have hd1 : 2 ^ d.log2 ≤ d := Nat.log2_self_le (by omega)
  have hd2 : d < 2 ^ (d.log2 + 1) := Nat.lt_log2_self
  rcases ratLog2_cases n d with ⟨c, hL⟩ | ⟨c, hL⟩
  · -- `L = log2 n − log2 d`: the lower bound is the comparison, the upper one `n < 2^(log2 n + 1)`, `2^(log2 d) ≤ d`
    rw [pow2_le_iff (a := n.log2) (b := d.log2) hL, pow2_lt_iff (a := n.log2 + 1) (b := d.log2) (by omega)]
    refine ⟨c, ?_⟩
    calc n * 2 ^ d.log2 < 2 ^ (n.log2 + 1) * 2 ^ d.log2 := Nat.mul_lt_mul_of_pos_right hn2 (Nat.two_pow_pos _)
      _ ≤ 2 ^ (n.log2 + 1) * d := Nat.mul_le_mul_left _ hd1
      _ = d * 2 ^ (n.log2 + 1) := Nat.mul_comm _ _
  · -- `L = log2 n − (log2 d + 1)`: the upper bound is the comparison, the lower one `d < 2^(log2 d + 1)`, `2^(log2 n) ≤ n`
    rw [pow2_le_iff (a := n.log2) (b := d.log2 + 1) (by omega), pow2_lt_iff (a := n.log2) (b := d.log2) (by omega)]
    refine ⟨?_, c⟩
    calc d * 2 ^ n.log2 ≤ 2 ^ (d.log2 + 1) * n := Nat.mul_le_mul (Nat.le_of_lt hd2) hn1
      _ = n * 2 ^ (d.log2 + 1) := Nat.mul_comm _ _

end Dsw
