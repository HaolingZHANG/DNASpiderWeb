import DswModel.Model.Graphized
import DswModel.Lemmas.Defs
/-! Helper lemmas for the general specification of `remove_useless`. -/
namespace Dsw

def LMap.keys (m : LMap) : List Nat := m.map (·.1)

/-- `m'` is obtained from `m` by deleting keys and deleting successors, keeping the order. -/
def LMap.SubOf (m' m : LMap) : Prop :=
  m'.keys.Sublist m.keys ∧ ∀ v ls', (v, ls') ∈ m' → ∃ ls, (v, ls) ∈ m ∧ ls'.Sublist ls

/-- every kept key has at least `t` successors and every kept successor is a kept key. -/
def LMap.ClosedT (m : LMap) (t : Nat) : Prop :=
  ∀ v ls, (v, ls) ∈ m → t ≤ ls.length ∧ ∀ w ∈ ls, w ∈ m.keys

end Dsw

namespace Dsw.UselessSpec

/-- same body as `LMap.SubOf`. -/
def Sub (m' m : LMap) : Prop :=
  (m'.map (·.1)).Sublist (m.map (·.1)) ∧
    ∀ v ls', (v, ls') ∈ m' → ∃ ls, (v, ls) ∈ m ∧ ls'.Sublist ls

def rem (m : LMap) (t : Nat) : List Nat := (m.filter fun p => p.2.length < t).map (·.1)
def sav (m : LMap) (t : Nat) : List Nat := (m.filter fun p => ¬ p.2.length < t).map (·.1)
def keepB (m : LMap) (t : Nat) (w : Nat) : Bool := !(rem m t).contains w && (sav m t).contains w
def kept (m : LMap) (t : Nat) : LMap := m.filter fun p => !(rem m t).contains p.1

theorem round_eq (m : LMap) (t : Nat) :
    removeUselessRound m t =
      ((kept m t).map fun p => (p.1, p.2.filter (keepB m t)),
       (kept m t).any fun p => p.2.any fun w => !keepB m t w) := rfl

theorem mem_rem {m : LMap} {t w : Nat} :
    w ∈ rem m t ↔ ∃ ls, (w, ls) ∈ m ∧ ls.length < t := by
  simp only [rem, List.mem_map, List.mem_filter, decide_eq_true_eq]
  constructor
  · rintro ⟨⟨v, ls⟩, ⟨hm, hl⟩, rfl⟩; exact ⟨ls, hm, hl⟩
  · rintro ⟨ls, hm, hl⟩; exact ⟨(w, ls), ⟨hm, hl⟩, rfl⟩

theorem mem_sav {m : LMap} {t w : Nat} :
    w ∈ sav m t ↔ ∃ ls, (w, ls) ∈ m ∧ t ≤ ls.length := by
  simp only [sav, List.mem_map, List.mem_filter, decide_eq_true_eq, Nat.not_lt]
  constructor
  · rintro ⟨⟨v, ls⟩, ⟨hm, hl⟩, rfl⟩; exact ⟨ls, hm, hl⟩
  · rintro ⟨ls, hm, hl⟩; exact ⟨(w, ls), ⟨hm, hl⟩, rfl⟩

theorem keepB_iff {m : LMap} {t w : Nat} :
    keepB m t w = true ↔ w ∉ rem m t ∧ w ∈ sav m t := by
  simp [keepB]

theorem mem_kept {m : LMap} {t : Nat} {p : Nat × List Nat} :
    p ∈ kept m t ↔ p ∈ m ∧ p.1 ∉ rem m t := by
  simp [kept]

theorem keys_kept (m : LMap) (t : Nat) :
    (kept m t).map (·.1) = (m.map (·.1)).filter fun v => !(rem m t).contains v := by
  rw [List.filter_map]; rfl

theorem keys_round (m : LMap) (t : Nat) :
    (removeUselessRound m t).1.map (·.1) = (kept m t).map (·.1) := by
  rw [round_eq]; simp [List.map_map, Function.comp_def]

theorem entry_unique {m : LMap} (hn : (m.map (·.1)).Nodup) {v : Nat} {l₁ l₂ : List Nat}
    (h₁ : (v, l₁) ∈ m) (h₂ : (v, l₂) ∈ m) : l₁ = l₂ := by
  induction m with
  | nil => cases h₁
  | cons p m ih =>
    rw [List.map_cons, List.nodup_cons] at hn
    rcases List.mem_cons.1 h₁ with e₁ | h₁ <;> rcases List.mem_cons.1 h₂ with e₂ | h₂
    · rw [← e₁] at e₂; exact (Prod.mk.inj e₂).2.symm
    · exact absurd (List.mem_map.2 ⟨_, h₂, by rw [← e₁]⟩) hn.1
    · exact absurd (List.mem_map.2 ⟨_, h₁, by rw [← e₂]⟩) hn.1
    · exact ih hn.2 h₁ h₂

theorem Sub.refl (m : LMap) : Sub m m :=
  ⟨List.Sublist.refl _, fun _ ls h => ⟨ls, h, List.Sublist.refl _⟩⟩

theorem Sub.trans {a b c : LMap} (h₁ : Sub a b) (h₂ : Sub b c) : Sub a c := by
  refine ⟨h₁.1.trans h₂.1, fun v ls' h => ?_⟩
  obtain ⟨ls, hb, s₁⟩ := h₁.2 v ls' h
  obtain ⟨ls₂, hc, s₂⟩ := h₂.2 v ls hb
  exact ⟨ls₂, hc, s₁.trans s₂⟩

theorem Sub.antisymm {a b : LMap} (hb : (b.map (·.1)).Nodup) (h1 : Sub a b) (h2 : Sub b a) :
    a = b := by
  have hk : a.map (·.1) = b.map (·.1) := h1.1.eq_of_length_le h2.1.length_le
  have ha : (a.map (·.1)).Nodup := hk ▸ hb
  have hl : a.length = b.length := by simpa using congrArg List.length hk
  apply List.ext_getElem hl
  intro i hi hi'
  have hfst : a[i].1 = b[i].1 := by
    have := List.getElem_of_eq hk (by simpa using hi)
    simpa using this
  obtain ⟨ls, hm, hs⟩ := h1.2 a[i].1 a[i].2 (List.getElem_mem hi)
  obtain ⟨ls', hm', hs'⟩ := h2.2 b[i].1 b[i].2 (List.getElem_mem hi')
  rw [hfst] at hm
  rw [← hfst] at hm'
  rw [entry_unique hb hm (List.getElem_mem hi')] at hs
  rw [entry_unique ha hm' (List.getElem_mem hi)] at hs'
  exact Prod.ext hfst (hs.eq_of_length_le hs'.length_le)

theorem round_sub (m : LMap) (t : Nat) : Sub (removeUselessRound m t).1 m := by
  refine ⟨?_, fun v ls' h => ?_⟩
  · rw [keys_round]
    exact List.Sublist.map _ List.filter_sublist
  · rw [round_eq] at h
    obtain ⟨⟨v', ls⟩, hk, e⟩ := List.mem_map.1 h
    obtain ⟨rfl, rfl⟩ := Prod.mk.inj e
    exact ⟨ls, (mem_kept.1 hk).1, List.filter_sublist⟩

theorem round_nodup {m : LMap} (t : Nat) (hn : (m.map (·.1)).Nodup) :
    ((removeUselessRound m t).1.map (·.1)).Nodup :=
  List.Nodup.sublist (round_sub m t).1 hn

theorem arcs_eq_sum (m : LMap) : m.arcs = (m.map fun p => p.2.length).sum := by
  rw [LMap.arcs, List.sum_eq_foldl]

theorem sum_filter_le_lt (q : Nat × List Nat → Bool) (k : Nat → Bool) (m : LMap) :
    (((m.filter q).map fun p => (p.1, p.2.filter k)).map fun p => p.2.length).sum
        ≤ (m.map fun p => p.2.length).sum ∧
    (((m.filter q).any fun p => p.2.any fun w => !k w) = true →
      (((m.filter q).map fun p => (p.1, p.2.filter k)).map fun p => p.2.length).sum
        < (m.map fun p => p.2.length).sum) := by
  induction m with
  | nil => simp
  | cons p m ih =>
    obtain ⟨ile, ilt⟩ := ih
    rw [List.filter_cons]
    by_cases hq : q p = true
    · rw [if_pos hq]
      simp only [List.map_cons, List.sum_cons, List.any_cons, Bool.or_eq_true]
      have hl := List.length_filter_le k p.2
      refine ⟨Nat.add_le_add hl ile, fun h => ?_⟩
      rcases h with h | h
      · have : (p.2.filter k).length < p.2.length := by
          rw [List.length_filter_lt_length_iff_exists]
          obtain ⟨w, hw, hk⟩ := List.any_eq_true.1 h
          exact ⟨w, hw, by simpa using hk⟩
        exact Nat.add_lt_add_of_lt_of_le this ile
      · exact Nat.add_lt_add_of_le_of_lt hl (ilt h)
    · rw [if_neg hq]
      simp only [List.map_cons, List.sum_cons]
      exact ⟨Nat.le_trans ile (Nat.le_add_left _ _),
        fun h => Nat.lt_of_lt_of_le (ilt h) (Nat.le_add_left _ _)⟩

theorem round_arcs_lt (m : LMap) (t : Nat) (h : (removeUselessRound m t).2 = true) :
    (removeUselessRound m t).1.arcs < m.arcs := by
  rw [arcs_eq_sum, arcs_eq_sum]
  rw [round_eq] at h ⊢
  exact (sum_filter_le_lt _ _ m).2 h

theorem round_closed (m : LMap) (t : Nat) (h : (removeUselessRound m t).2 = false) :
    LMap.ClosedT (removeUselessRound m t).1 t := by
  intro v ls' hv
  rw [LMap.keys, keys_round]
  rw [round_eq] at h hv
  obtain ⟨⟨v', ls⟩, hk, e⟩ := List.mem_map.1 hv
  obtain ⟨rfl, rfl⟩ := Prod.mk.inj e
  have hall : ∀ w ∈ ls, keepB m t w = true := by
    intro w hw
    cases hkw : keepB m t w with
    | true => rfl
    | false =>
      have : ((kept m t).any fun p => p.2.any fun w => !keepB m t w) = true :=
        List.any_eq_true.2 ⟨_, hk, List.any_eq_true.2 ⟨w, hw, by simp [hkw]⟩⟩
      exact absurd (h.symm.trans this) Bool.false_ne_true
  have hf : ls.filter (keepB m t) = ls := List.filter_eq_self.2 hall
  obtain ⟨hm, hr⟩ := mem_kept.1 hk
  simp only at hr ⊢
  rw [hf]
  refine ⟨?_, fun w hw => ?_⟩
  · rcases Nat.lt_or_ge ls.length t with hl | hl
    · exact absurd (mem_rem.2 ⟨ls, hm, hl⟩) hr
    · exact hl
  · obtain ⟨hnr, hs⟩ := keepB_iff.1 (hall w hw)
    obtain ⟨lw, hmw, _⟩ := mem_sav.1 hs
    exact List.mem_map.2 ⟨(w, lw), mem_kept.2 ⟨hmw, hnr⟩, rfl⟩

theorem closed_key_not_rem {m c : LMap} {t : Nat} (hn : (m.map (·.1)).Nodup)
    (hs : Sub c m) (hc : LMap.ClosedT c t) {v : Nat} (hv : v ∈ c.map (·.1)) :
    v ∉ rem m t ∧ v ∈ sav m t := by
  obtain ⟨⟨v', ls'⟩, hmem, rfl⟩ := List.mem_map.1 hv
  obtain ⟨ls, hm, hsub⟩ := hs.2 _ _ hmem
  have hlen : t ≤ ls.length := Nat.le_trans (hc _ _ hmem).1 hsub.length_le
  refine ⟨fun hr => ?_, mem_sav.2 ⟨ls, hm, hlen⟩⟩
  obtain ⟨l₂, hm₂, hlt⟩ := mem_rem.1 hr
  rw [entry_unique hn hm₂ hm] at hlt
  exact absurd hlen (Nat.not_le.2 hlt)

theorem closed_sub_round {m c : LMap} {t : Nat} (hn : (m.map (·.1)).Nodup)
    (hs : Sub c m) (hc : LMap.ClosedT c t) : Sub c (removeUselessRound m t).1 := by
  refine ⟨?_, fun v ls' h => ?_⟩
  · rw [keys_round, keys_kept]
    have := List.Sublist.filter (fun v => !(rem m t).contains v) hs.1
    rwa [List.filter_eq_self.2] at this
    intro v hv
    simpa using (closed_key_not_rem hn hs hc hv).1
  · obtain ⟨ls, hm, hsub⟩ := hs.2 v ls' h
    have hv : v ∈ c.map (·.1) := List.mem_map.2 ⟨_, h, rfl⟩
    refine ⟨ls.filter (keepB m t), ?_, ?_⟩
    · rw [round_eq]
      exact List.mem_map.2 ⟨(v, ls), mem_kept.2 ⟨hm, (closed_key_not_rem hn hs hc hv).1⟩, rfl⟩
    · have := List.Sublist.filter (keepB m t) hsub
      rwa [List.filter_eq_self.2] at this
      intro w hw
      exact keepB_iff.2 (closed_key_not_rem hn hs hc ((hc _ _ h).2 w hw))

theorem loop_spec (t : Nat) : ∀ (fuel : Nat) (m : LMap), (m.map (·.1)).Nodup → m.arcs < fuel →
    ∃ m', removeUselessLoop t fuel m = .ok m' ∧ Sub m' m ∧ LMap.ClosedT m' t ∧
      ∀ c : LMap, Sub c m → LMap.ClosedT c t → Sub c m'
  | 0, _, _, h => absurd h (Nat.not_lt_zero _)
  | f + 1, m, hn, h => by
    rw [removeUselessLoop]
    cases hr : (removeUselessRound m t).2 with
    | true =>
      simp only [if_true]
      have hlt := round_arcs_lt m t hr
      obtain ⟨m', e, hs, hc, hmax⟩ :=
        loop_spec t f (removeUselessRound m t).1 (round_nodup t hn) (by omega)
      exact ⟨m', e, hs.trans (round_sub m t), hc,
        fun c hcs hcc => hmax c (closed_sub_round hn hcs hcc) hcc⟩
    | false =>
      simp only [Bool.false_eq_true, if_false]
      exact ⟨_, rfl, round_sub m t, round_closed m t hr,
        fun c hcs hcc => closed_sub_round hn hcs hcc⟩

theorem removeUseless_spec (m : LMap) (t : Nat) (hn : (m.map (·.1)).Nodup) :
    ∃ m', removeUseless m t = .ok m' ∧ Sub m' m ∧ LMap.ClosedT m' t ∧
      ∀ c : LMap, Sub c m → LMap.ClosedT c t → Sub c m' :=
  loop_spec t (m.arcs + 1) m hn (Nat.lt_succ_self _)

end Dsw.UselessSpec
