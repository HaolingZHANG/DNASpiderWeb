import DswModel.Props.C01
import DswModel.Props.C02
import DswModel.Props.C03
import DswModel.Props.C04
import DswModel.Props.C05
import DswModel.Props.C08
import DswModel.Props.C09
import DswModel.Props.C11
/-! Helper lemmas for the end-to-end corollaries. -/
namespace Dsw.Compose

/-- a normal-mode `encode` result with a requested check length `n ≥ 1`: the strand is a walk and
the returned check is `setVt strand n`. -/
theorem encode_check {a : Acc} {tbl : Option Tbl} {v : Int} {bits : List Nat} {n fuel : Nat}
    {w c : List Char} (hb : IsBits bits) (hn : 1 ≤ n)
    (h : encode a tbl v bits false n fuel = .ok (w, some c)) :
    isWalk a v w = true ∧ setVt w n = .ok c := by
  obtain ⟨he, _⟩ := encode_normal_ok hb h
  obtain ⟨hw, _, _⟩ := encodeNat_spec a tbl _ _ _ _ he
  refine ⟨hw, ?_⟩
  rw [encode_normal_eq a tbl v bits n fuel hb, he] at h
  have hn' : n > 0 := hn
  simp only [Except.bind, hn', if_true] at h
  cases hs : setVt w n with
  | error e => rw [hs] at h; cases h
  | ok c' =>
    rw [hs] at h
    simp only [Except.ok.injEq, Prod.mk.injEq, Option.some.injEq] at h
    rw [h.2]

theorem vtMatches_none_eq {s : List Char} {b : Bool} (h : vtMatches s none = .ok b) : b = true := by
  simp only [vtMatches, Except.ok.injEq] at h
  exact h.symm

end Dsw.Compose
