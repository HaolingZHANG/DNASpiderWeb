import DswModel.Model.Spiderweb
import DswModel.Model.Biofilter
import DswModel.Lemmas.Defs
import DswModel.Lemmas.DeBruijn
import DswModel.Lemmas.Discover
import DswModel.Lemmas.Filter
import DswModel.Lemmas.Trim
import DswModel.Lemmas.Walk
/-!
Walks of a sub-graph of a mask run in step with the k-windows of `start k-mer ++ strand` (C02): the vertex
reached after `i` symbols is the marked vertex whose k-mer is the window at `i`.
-/
namespace Dsw

/-- every arc of `a` is an arc of the graph induced on the mask `m`. -/
def SubGraphOf (k : Nat) (a : Acc) (m : Mask) : Prop :=
  ∀ v j : Nat, v < 4 ^ k → j < 4 → 0 ≤ a.ent (v : Int) j →
    a.ent (v : Int) j = (((v * 4 + j) % 4 ^ k : Nat) : Int) ∧
    m.getD v false = true ∧ m.getD ((v * 4 + j) % 4 ^ k) false = true

end Dsw

namespace Dsw.Windows

theorem kmerOf_tail (k v : Nat) (hv : v < 4 ^ (k + 1)) :
    (kmerOf (k + 1) v).tail = kmerOf k (v % 4 ^ k) := by
  have h := kmerOf_kmerIdx (kmerOf (k + 1) v).tail fun c hc =>
    kmerOf_acgt (k + 1) v hv c (List.mem_of_mem_tail hc)
  rw [kmerIdx_tail_kmerOf k v hv, List.length_tail, kmerOf_length (k + 1) v hv,
    Nat.add_sub_cancel] at h
  exact h.symm

theorem kmerOf_shift (k v j : Nat) (hk : 1 ≤ k) (hv : v < 4 ^ k) (hj : j < 4) :
    kmerOf k ((v * 4 + j) % 4 ^ k) = (kmerOf k v).tail ++ [nucChar j] := by
  obtain ⟨k', rfl⟩ := Nat.exists_eq_add_one_of_ne_zero (Nat.ne_of_gt hk)
  rw [kmerOf_tail k' v hv, four_pow_succ, shift_mod _ _ _ hj]
  rw [kmerOf_succ, shift_div _ _ hj, shift_mod_four _ _ hj]

/-- every arc of `a` is an arc of the graph induced on the mask `m`. -/
def ArcsIn (k : Nat) (a : Acc) (m : Mask) : Prop :=
  ∀ v j : Nat, v < 4 ^ k → j < 4 → 0 ≤ a.ent (v : Int) j →
    a.ent (v : Int) j = (((v * 4 + j) % 4 ^ k : Nat) : Int) ∧
    m.getD v false = true ∧ m.getD ((v * 4 + j) % 4 ^ k) false = true

theorem drop_succ_kmer (k v j : Nat) (hk : 1 ≤ k) (hv : v < 4 ^ k) (hj : j < 4) (s : List Char)
    (i : Nat) :
    (kmerOf k v ++ nucChar j :: s).drop (i + 1) = (kmerOf k ((v * 4 + j) % 4 ^ k) ++ s).drop i := by
  rw [kmerOf_shift k v j hk hv hj]
  cases hkm : kmerOf k v with
  | nil =>
    have hl := kmerOf_length k v hv
    rw [hkm] at hl
    exact absurd hl.symm (Nat.ne_of_gt hk)
  | cons x tl =>
    rw [List.tail_cons, List.append_assoc]
    rfl

/-- the vertex reached after the first `i` symbols of a walk `s` from `v` is a marked vertex below
`4^k` whose k-mer is the k-window at `i` of `kmerOf k v ++ s`: the walk and the window move on by
one symbol together (`drop_succ_kmer`). -/
theorem walk_windows {k : Nat} {a : Acc} {m : Mask} (hk : 1 ≤ k) (ha : SubGraphOf k a m) :
    ∀ (s : List Char) (v : Nat), v < 4 ^ k → m.getD v false = true →
      isWalk a (v : Int) s = true →
      ∀ i, i ≤ s.length →
        ∃ u, u < 4 ^ k ∧ m.getD u false = true ∧ walkEnd a (v : Int) (s.take i) = (u : Int) ∧
          ((kmerOf k v ++ s).drop i).take k = kmerOf k u := by
  intro s
  induction s with
  | nil =>
    intro v hv hvm _ i hi
    obtain rfl : i = 0 := Nat.le_zero.1 hi
    refine ⟨v, hv, hvm, rfl, ?_⟩
    rw [List.append_nil, List.drop_zero]
    exact List.take_of_length_le (Nat.le_of_eq (kmerOf_length k v hv))
  | cons c s ih =>
    intro v hv hvm hw i hi
    cases i with
    | zero =>
      refine ⟨v, hv, hvm, rfl, ?_⟩
      rw [List.drop_zero, List.take_left' (kmerOf_length k v hv)]
    | succ i =>
      rw [isWalk] at hw
      cases hn : a.next (v : Int) c with
      | none =>
        rw [hn] at hw
        cases hw
      | some t =>
        rw [hn] at hw
        obtain ⟨j, hc, hj, rfl⟩ := next_some hn
        obtain ⟨hj, hge⟩ := (a.mem_live _ j).1 hj
        obtain ⟨ht, _, hm2⟩ := ha v j hv hj hge
        rw [ht] at hw
        obtain ⟨u, hu, hum, hend, hwin⟩ := ih _ (shift_lt k v j) hm2 hw i (Nat.le_of_succ_le_succ hi)
        refine ⟨u, hu, hum, ?_, ?_⟩
        · rw [List.take_succ_cons, walkEnd, hc, Option.getD_some, ht]
          exact hend
        · rw [← nucChar_nucIdx hc, drop_succ_kmer k v j hk hv hj]
          exact hwin

/-- **synchronisation**: the vertex reached after a walk `s` from `v` is a marked vertex below
`4^k` whose k-mer is the last `k` symbols of `kmerOf k v ++ s`. -/
theorem walk_sync {k : Nat} {a : Acc} {m : Mask} (hk : 1 ≤ k) (ha : ArcsIn k a m) :
    ∀ (s : List Char) (v : Nat), v < 4 ^ k → m.getD v false = true →
      isWalk a (v : Int) s = true →
      ∃ u, u < 4 ^ k ∧ m.getD u false = true ∧ walkEnd a (v : Int) s = (u : Int) ∧
        kmerOf k u = (kmerOf k v ++ s).drop s.length := by
  intro s v hv hvm hw
  obtain ⟨u, hu, hum, hend, hwin⟩ := walk_windows hk ha s v hv hvm hw s.length (Nat.le_refl _)
  rw [List.take_length] at hend
  refine ⟨u, hu, hum, hend, ?_⟩
  have hl : ((kmerOf k v ++ s).drop s.length).length = k := by
    rw [List.length_drop, List.length_append, kmerOf_length k v hv, Nat.add_sub_cancel]
  rw [← hwin, List.take_of_length_le (Nat.le_of_eq hl)]

theorem findVertices_getD {k : Nat} {P : List Char → Bool} {m : Mask}
    (hm : findVertices k P = .ok m) (u : Nat) (hu : u < 4 ^ k) :
    m.getD u false = P (kmerOf k u) := by
  rw [findVertices_eq] at hm
  split at hm
  · cases hm
  · cases hm
    exact filterMask_getD k P u hu

theorem arcsIn_induced (k : Nat) (s m : Mask) (h : Mask.Sub s m) :
    SubGraphOf k (inducedAccessor k s) m := by
  intro v j hv hj hent
  rw [inducedAccessor_ent k s v j hv hj] at hent ⊢
  by_cases hc : s.getD v false = true ∧ s.getD ((v * 4 + j) % 4 ^ k) false = true
  · rw [if_pos hc]
    exact ⟨rfl, h _ hc.1, h _ hc.2⟩
  · rw [if_neg hc] at hent
    exact absurd hent (by decide)

theorem drop_append_window {α} {p : List α} {n : Nat} (hp : p.length = n) (s : List α) (i k : Nat) :
    ((p ++ s).drop (n + i)).take k = (s.drop i).take k := by
  rw [← hp, ← List.drop_drop, List.drop_left]

theorem suffix_last_window {α} {p : List α} {n : Nat} (hp : p.length = n) (s : List α)
    (hs : s.length ≤ n) : s <:+: ((p ++ s).drop s.length).take n := by
  subst hp
  rw [List.drop_append_of_le_length hs, List.take_of_length_le]
  · exact (List.suffix_append _ s).isInfix
  · rw [List.length_append, List.length_drop, Nat.sub_add_cancel hs]
    exact Nat.le_refl _

end Dsw.Windows
