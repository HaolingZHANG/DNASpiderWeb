import DswModel.Model.Spiderweb
import DswModel.Lemmas.Defs
import DswModel.Lemmas.Repair
/-!
# C09 — repair leaves clean strands alone and only returns check-consistent candidates
-/
namespace Dsw

/-- a strand that is already a walk is returned alone (or nothing when the supplied check
disagrees) with zero detected errors — for every graph, start vertex, observed length, check,
indel setting and heap limit (both the product path and the fallback path). -/
theorem C09_clean (a : Acc) (s : List Char) (v : Int) (k : Nat) (chk : Option (List Char))
    (indel : Bool) (heap : Nat) (hw : isWalk a v s = true) :
    ∃ b st, vtMatches s chk = .ok b ∧
      repairDna a s v k chk indel heap = .ok (if b then [s] else [], st) ∧ st.detected = 0 := by
  obtain ⟨sc, hsc, hd, hc, hm, hsp, hv, -, -⟩ := scan_clean a k s v hw
  obtain ⟨b, hb⟩ := vtMatches_ok (isAcgt_of_isWalk s v hw) chk
  have hf : fragFold a k s indel sc = .ok ([], sc.visited) := by
    rw [fragFold, hc, hm]; rfl
  rw [repairDna_of_scan hsc hf]
  -- without fragment sets the count is 1, the product the single empty choice and `s` the one
  -- candidate
  by_cases hh : fragCount [] = 0 ∨ fragCount [] > heap
  · refine ⟨b, ⟨0, !b, 0, sc.visited⟩, hb, ?_, rfl⟩
    rw [repairTail, if_pos hh, hb]
    cases b <;> rfl
  · refine ⟨b, ⟨0, !b, 1, sc.visited⟩, hb, ?_, rfl⟩
    have hcand : (product ([] : List (List (List Char)))).map (candOf [s].reverse) = [s] := rfl
    rw [repairTail, if_neg hh, hsp, hd, hcand, List.mapM_cons, hb]
    cases b <;> rfl

/-- whenever the repair returns, for any input, the candidate list is strictly increasing in
Python string order (sorted and duplicate-free). -/
theorem C09_sorted_nodup (a : Acc) (s : List Char) (v : Int) (k : Nat) (chk : Option (List Char))
    (indel : Bool) (heap : Nat) (cands : List (List Char)) (st : RepairStats)
    (h : repairDna a s v k chk indel heap = .ok (cands, st)) :
    cands.Pairwise strLt := by
  obtain ⟨sc, fv, -, -, ht⟩ := repairDna_ok_inv h
  rcases repairTail_ok_inv ht with ⟨okc, -, e, -⟩ | ⟨checked, -, e, -⟩
  · simp only at e; subst e; cases okc <;> simp
  · simp only at e; subst e; exact isort_eraseDups_pairwise _

theorem repairDna_vtMatches {a : Acc} {s : List Char} {v : Int} {k : Nat} {chk : Option (List Char)}
    {indel : Bool} {heap : Nat} {cands : List (List Char)} {st : RepairStats}
    (h : repairDna a s v k chk indel heap = .ok (cands, st)) :
    ∀ x ∈ cands, vtMatches x chk = .ok true := by
  obtain ⟨sc, fv, -, -, ht⟩ := repairDna_ok_inv h
  rcases repairTail_ok_inv ht with ⟨okc, hv, e, -⟩ | ⟨checked, hm, e, -⟩
  · simp only at e; subst e
    intro x hx
    cases okc with
    | false => cases hx
    | true => rw [List.mem_singleton.mp hx]; exact hv
  · simp only at e; subst e
    intro x hx
    rw [mem_isort, List.mem_eraseDups, List.mem_map] at hx
    obtain ⟨⟨x', b⟩, hxb, rfl⟩ := hx
    obtain ⟨hmem, rfl⟩ := List.mem_filter.mp hxb
    obtain ⟨y, -, hy⟩ := mapM_ok_of_mem_result _ _ _ hm _ hmem
    cases hv : vtMatches y chk with
    | error e => rw [hv] at hy; cases hy
    | ok b =>
      rw [hv] at hy
      cases hy
      exact hv

/-- whenever the repair returns and a check was supplied, every candidate reproduces it. -/
theorem C09_check (a : Acc) (s : List Char) (v : Int) (k : Nat) (c : List Char)
    (indel : Bool) (heap : Nat) (cands : List (List Char)) (st : RepairStats)
    (h : repairDna a s v k (some c) indel heap = .ok (cands, st)) :
    ∀ x ∈ cands, setVt x c.length = .ok c :=
  fun x hx => vtMatches_some_true (repairDna_vtMatches h x hx)

example : isWalk gcBalanced2 1 "TCTCTCTCTCTC".toList = true := by decide +kernel
example : repairDna gcBalanced2 "TCTCTATCTCTC".toList 1 2 none true 1000 =
    .ok (["TCTCTCTCTCTC".toList, "TCTCTGTCTCTC".toList], ⟨1, false, 2, 14⟩) := by decide +kernel

end Dsw
