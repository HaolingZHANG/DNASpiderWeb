import DswModel.Props.C01
import DswModel.Props.C02
import DswModel.Props.C03
import DswModel.Props.C04
import DswModel.Props.C05
import DswModel.Props.C08
import DswModel.Props.C09
import DswModel.Props.C11
import DswModel.Props.C13
import DswModel.Lemmas.Compose
/-!
# End-to-end corollaries: the property theorems fit together

These are compositions of the per-property theorems along the pipeline a user runs:
filter → vertex discovery → coding graph → encode → (corrupt) → repair → decode.
-/
namespace Dsw

/-- C02 sentence 1 for every threshold `1 ≤ t ≤ 4` (through `C03_holds`, so threshold 1 is included;
`C02_generated_subgraph` covers `2 ≤ t`). -/
theorem E2E_generated_subgraph (k t : Nat) (m : Mask) (vs : List Nat) (a : Acc) (hk : 1 ≤ k)
    (hm : m.size = 4 ^ k) (ht : 1 ≤ t) (ht4 : t ≤ 4) (h : connectCodingGraph k m t = .ok (vs, a)) :
    SubGraphOf k a m ∧ ∀ v ∈ vs, v < 4 ^ k ∧ m.getD v false = true := by
  obtain ⟨s, ⟨_, hsub, _, _⟩, rfl, rfl, _, _⟩ := (C03_holds k t m hm hk ht ht4).1 vs a h
  refine ⟨Windows.arcsIn_induced k s m hsub, fun v hv => ?_⟩
  have hvs := Trim.Mask.mem_indices.1 hv
  exact ⟨hm ▸ Trim.Mask.lt_size_of_getD (hsub v hvs), hsub v hvs⟩

/-- the whole write path: for any filter predicate `P`, observed length, threshold, retained start
vertex, table and message, `encode` returns a strand `s` such that (1) every window of
`start k-mer ++ s` satisfies `P`, (2) `s` is a walk of the generated graph, (3) decoding `s` gives
the message back, (4) `s` has at most `L·4^k` nucleotides. -/
theorem E2E_write_read (k t : Nat) (P : List Char → Bool) (m : Mask) (vs : List Nat) (a : Acc) (v : Nat)
    (tbl : Option Tbl) (bits : List Nat) (hk : 1 ≤ k) (ht : 1 ≤ t) (ht4 : t ≤ 4)
    (hf : findVertices k P = .ok m) (hg : connectCodingGraph k m t = .ok (vs, a)) (hv : v ∈ vs)
    (hb : IsBits bits) :
    ∃ s, encode a tbl (v : Int) bits false 0 (encodeFuel a bits) = .ok (s, none) ∧
      isWalk a (v : Int) s = true ∧
      (∀ i, i + k ≤ (kmerOf k v ++ s).length → P (((kmerOf k v ++ s).drop i).take k) = true) ∧
      decode a tbl (v : Int) s bits.length false none = .ok bits ∧
      s.length ≤ bits.length * 4 ^ k := by
  obtain ⟨hm, -, -⟩ := (C11_mask k P).1 m hf
  obtain ⟨hsub, hvs⟩ := E2E_generated_subgraph k t m vs a hk hm ht ht4 hg
  obtain ⟨hv1, hv2⟩ := hvs v hv
  obtain ⟨s, he, hw, hl⟩ := C04_terminates_normal k t m vs a v tbl bits hk hm ht hg hv hb
  have hsz : a.size = 4 ^ k := (C13_wfdb_coding_graph k m t vs a hg).1
  rw [hsz] at hl
  exact ⟨s, he, hw, C02_windows k P m a v s hk hf hsub hv1 hv2 hw,
    C01_normal a tbl (v : Int) bits 0 _ s none hb he, hl⟩

/-- C08/C09 together, for one proper interior edit of a walk on a generated (vertex-induced) graph:
the repair returns, and it reports exactly one error iff the corrupted strand is no longer a walk
(and zero errors otherwise); in the first case the original is among the candidates, in the second
the corrupted strand itself is returned. -/
theorem E2E_single_edit (k : Nat) (s : Mask) (v : Nat) (w : List Char) (e : Edit) (heap : Nat)
    (hk : 1 ≤ k) (hs : s.size = 4 ^ k) (hv : s.getD v false = true)
    (hw : isWalk (inducedAccessor k s) v w = true) (he : e.Interior k w.length) (hp : e.Proper w)
    (hheap : 9 * k ≤ heap) :
    ∃ cands st, repairDna (inducedAccessor k s) (e.apply w) v k none true heap = .ok (cands, st) ∧
      (isWalk (inducedAccessor k s) v (e.apply w) = false → st.detected = 1 ∧ w ∈ cands) ∧
      (isWalk (inducedAccessor k s) v (e.apply w) = true → st.detected = 0 ∧ cands = [e.apply w]) := by
  cases hc : isWalk (inducedAccessor k s) v (e.apply w) with
  | true =>
    obtain ⟨b, st, hb, hr, hd⟩ := C09_clean (inducedAccessor k s) (e.apply w) v k none true heap hc
    have hbt : b = true := Compose.vtMatches_none_eq hb
    subst hbt
    exact ⟨[e.apply w], st, hr, fun h => (by cases h), fun _ => ⟨hd, rfl⟩⟩
  | false =>
    obtain ⟨cands, st, hr, hd, hmem⟩ :=
      C08_single k s v w e none heap hk hs hv hw he hp (Or.inl rfl) hheap hc
    exact ⟨cands, st, hr, fun _ => ⟨hd, hmem⟩, fun h => (by cases h)⟩

/-- write, corrupt once, repair with the check, decode: the original message is recovered from
some returned candidate — and every returned candidate reproduces the check (C09_check). -/
theorem E2E_repair_then_decode (k : Nat) (s : Mask) (v : Nat) (tbl : Option Tbl) (bits : List Nat)
    (w c : List Char) (e : Edit) (n heap fuel : Nat)
    (hk : 1 ≤ k) (hs : s.size = 4 ^ k) (hv : s.getD v false = true) (hn : 1 ≤ n) (hb : IsBits bits)
    (henc : encode (inducedAccessor k s) tbl v bits false n fuel = .ok (w, some c))
    (he : e.Interior k w.length) (hp : e.Proper w) (hheap : 9 * k ≤ heap)
    (hbad : isWalk (inducedAccessor k s) v (e.apply w) = false) :
    ∃ cands st, repairDna (inducedAccessor k s) (e.apply w) v k (some c) true heap = .ok (cands, st) ∧
      w ∈ cands ∧ (∀ x ∈ cands, setVt x c.length = .ok c) ∧
      decode (inducedAccessor k s) tbl v w bits.length false (some c) = .ok bits := by
  obtain ⟨hw, hset⟩ := Compose.encode_check hb hn henc
  obtain ⟨cands, st, hr, _, hmem⟩ := C08_single k s v w e (some c) heap hk hs hv hw he hp
    (Or.inr ⟨n, c, hn, hset, rfl⟩) hheap hbad
  exact ⟨cands, st, hr, hmem, C09_check _ _ _ _ c true heap cands st hr,
    C01_normal _ tbl _ bits n fuel w (some c) hb henc⟩

end Dsw
