import DswModel.Model.CapacityF
import DswModel.Props.C17b
import DswModel.Props.FloatSpec
import DswModel.Lemmas.FloatErr
import DswModel.Lemmas.PowerStopF
import DswModel.Lemmas.PowerStopFStep
import DswModel.Lemmas.PowerStopFCert
/-!
# C17 (continued) — what the stopping rule certifies IN DOUBLE PRECISION

`Model/CapacityF.lean` is the power iteration exactly as the code computes it (every `+`, `-`, `/` rounded to the
nearest double; the harness compares it with the real NumPy run bit for bit, every iteration). `C17_stop_accuracy`
(Props/C17b.lean) is about the exact-rational iteration. These theorems close the gap: when the DOUBLE-PRECISION
iteration stops by its own rule — the rounded difference of two consecutive rounded, normalised vectors is below `tol`
in every entry — the vector it stopped with is a Collatz–Wielandt certificate for the rounded eigenvalue estimate `ev`:

    ev·(1 − (tol + 2^-500)/δ)·(1 − 2^-50) · x_v  ≤  (A x)_v  ≤  ev·(1 + (tol + 2^-500)/δ)·(1 + 2^-50) · x_v     on S,

where `A x` is the EXACT product with the exact values of the doubles in `x`, `δ` is the smallest entry of `x` on the
successor-closed set `S`, `2^-50 ≥ (1 + 2^-53)^4 − 1` pays for the three additions and the division per entry, and
`2^-500` for gradual underflow (absolute errors `≤ 2^-1075`, with `ev, δ ≥ 2^-500`). Hence (by `C17_certificate_rat`)
the number of `n`-step walks grows like `ev^n` up to those factors: the value whose `log2` the code reports is within a
relative `(tol + 2^-500)/δ + 2^-50` (to first order) of the true growth rate — for the floating-point computation
itself, not for an idealisation of it. Not modelled: `log2` (libm) and the final `median`.
-/
namespace Dsw

/-- the vector holds non-negative binary64 values on the table. -/
def VecF.Ok (n : Nat) (x : VecF) : Prop :=
  x.size = n ∧ ∀ v, v < n → IsB64 (x.getD v Dbl.zero).num (x.getD v Dbl.zero).den ∧ 0 ≤ (x.getD v Dbl.zero).num

def Acc.Closed (a : Acc) : Prop := ∀ v, v < a.size → ∀ w ∈ a.liveEntries (v : Int), w < a.size

/-- the floating-point row sum is the exact row sum up to three roundings (additions of non-negative doubles). -/
theorem C17F_rowSum (a : Acc) (x : VecF) (v : Nat) (y : Dbl) (hx : x.Ok a.size) (ha : a.Closed) (hv : v < a.size)
    (hy : rowSumF a x v = some y) :
    applyRow a x.toRat v * (1 - (2 : Rat)⁻¹ ^ 51) - (2 : Rat)⁻¹ ^ 1070 ≤ y.toRat ∧
    y.toRat ≤ applyRow a x.toRat v * (1 + (2 : Rat)⁻¹ ^ 51) + (2 : Rat)⁻¹ ^ 1070 ∧
    IsB64 y.num y.den ∧ 0 ≤ y.num := by
  have h := PowerStopF.rowSum_bound a x v y hx.2 (ha v hv) hy
  exact ⟨h.1, h.2.1, h.2.2.1⟩

/-- THE CERTIFICATE: if one more double-precision step `capStepF a x = (z, ev)` changes no entry by `tol` or more (the
code's "settled" test, itself evaluated in double precision: `max(abs(z - x)) < tol`), then `x` is an approximate
eigenvector for `ev` on every set `S` where it is at least `δ`. -/
theorem C17F_stop_certificate (a : Acc) (x z : VecF) (ev tol md : Dbl) (δ : Rat) (S : Nat → Prop)
    (hx : x.Ok a.size) (ha : a.Closed)
    (hstep : capStepF a x = some (z, ev)) (hev : (2 : Rat)⁻¹ ^ 500 ≤ ev.toRat)
    (htol : IsB64 tol.num tol.den ∧ 0 ≤ tol.num)
    (hmd : maxDiffF a.size z x = some md) (hset : Dbl.lt md tol = true)
    (hδ : (2 : Rat)⁻¹ ^ 500 ≤ δ) (hS : ∀ v, S v → v < a.size ∧ δ ≤ (x.getD v Dbl.zero).toRat) :
    ∀ v, S v →
      ev.toRat * (1 - (tol.toRat + (2 : Rat)⁻¹ ^ 500) / δ) * (1 - (2 : Rat)⁻¹ ^ 50) * (x.toRat).getD v 0 ≤ applyRow a x.toRat v ∧
      applyRow a x.toRat v ≤ ev.toRat * (1 + (tol.toRat + (2 : Rat)⁻¹ ^ 500) / δ) * (1 + (2 : Rat)⁻¹ ^ 50) * (x.toRat).getD v 0 := by
  exact PowerStopF.stop_certificate a x z ev tol md δ S hx.2 ha hstep hev htol.1 hmd hset hδ hS

/-- THE ACCURACY of the double-precision stopping rule: with the certificate above on a successor-closed `S`, the
`x`-weighted number of `n`-step walks from every vertex of `S` lies between `(ev·(1 − ε₁)(1 − 2^-50))^n` and
`(ev·(1 + ε₁)(1 + 2^-50))^n` times `x_v`, `ε₁ = (tol + 2^-500)/δ ≤ 1`: the walk growth rate (whose `log2` is the
capacity) is `ev` up to those factors. -/
theorem C17F_stop_accuracy (a : Acc) (x z : VecF) (ev tol md : Dbl) (δ : Rat) (S : Nat → Prop)
    (hx : x.Ok a.size) (ha : a.Closed)
    (hstep : capStepF a x = some (z, ev)) (hev : (2 : Rat)⁻¹ ^ 500 ≤ ev.toRat)
    (htol : IsB64 tol.num tol.den ∧ 0 ≤ tol.num) (hsmall : tol.toRat + (2 : Rat)⁻¹ ^ 500 ≤ δ)
    (hmd : maxDiffF a.size z x = some md) (hset : Dbl.lt md tol = true)
    (hδ : (2 : Rat)⁻¹ ^ 500 ≤ δ) (hS : ∀ v, S v → v < a.size ∧ δ ≤ (x.getD v Dbl.zero).toRat)
    (hclosed : ∀ v, S v → ∀ w ∈ a.liveEntries (v : Int), S w) :
    ∀ n v, S v →
      (ev.toRat * (1 - (tol.toRat + (2 : Rat)⁻¹ ^ 500) / δ) * (1 - (2 : Rat)⁻¹ ^ 50)) ^ n * (x.toRat).getD v 0
        ≤ weightedWalksQ a x.toRat n v ∧
      weightedWalksQ a x.toRat n v
        ≤ (ev.toRat * (1 + (tol.toRat + (2 : Rat)⁻¹ ^ 500) / δ) * (1 + (2 : Rat)⁻¹ ^ 50)) ^ n * (x.toRat).getD v 0 := by
  have hθ : (0 : Rat) < (2 : Rat)⁻¹ ^ 500 := by positivity
  have hδ0 : 0 < δ := lt_of_lt_of_le hθ hδ
  have hev0 : 0 ≤ ev.toRat := le_trans (le_of_lt hθ) hev
  have ht0 : 0 ≤ tol.toRat := FloatErr.toRat_nonneg htol.2
  have hq0 : 0 ≤ (tol.toRat + (2 : Rat)⁻¹ ^ 500) / δ := div_nonneg (add_nonneg ht0 (le_of_lt hθ)) (le_of_lt hδ0)
  have hq1 : (tol.toRat + (2 : Rat)⁻¹ ^ 500) / δ ≤ 1 := (div_le_one hδ0).2 hsmall
  have hν : 0 ≤ ev.toRat * (1 - (tol.toRat + (2 : Rat)⁻¹ ^ 500) / δ) * (1 - (2 : Rat)⁻¹ ^ 50) :=
    mul_nonneg (mul_nonneg hev0 (sub_nonneg.2 hq1)) (by norm_num)
  have hμ : 0 ≤ ev.toRat * (1 + (tol.toRat + (2 : Rat)⁻¹ ^ 500) / δ) * (1 + (2 : Rat)⁻¹ ^ 50) :=
    mul_nonneg (mul_nonneg hev0 (add_nonneg zero_le_one hq0)) (by norm_num)
  refine C17_certificate_rat a x.toRat S _ _ hν hμ (fun v hv => ?_) hclosed
    (C17F_stop_certificate a x z ev tol md δ S hx ha hstep hev htol hmd hset hδ hS)
  have h1 : (x.toRat).getD v 0 = (x.getD v Dbl.zero).toRat := PowerStopF.map_toRat_getD x v
  rw [h1]
  exact le_trans (le_of_lt hδ0) (hS v hv).2

/-- the step keeps the invariant: the new vector again holds non-negative binary64 values (so the hypotheses of the
certificate are met at every iteration of a run that starts from such a vector). -/
theorem C17F_step_ok (a : Acc) (x z : VecF) (ev : Dbl) (hx : x.Ok a.size) (ha : a.Closed)
    (hstep : capStepF a x = some (z, ev)) : z.Ok a.size ∧ IsB64 ev.num ev.den ∧ 0 ≤ ev.num := by
  obtain ⟨h1, h2, h3⟩ := PowerStopF.step_data a x z ev hx.2 ha hstep
  refine ⟨⟨h1, fun v hv => ?_⟩, h2⟩
  obtain ⟨_, _, g, _⟩ := h3 v hv
  exact g

end Dsw
