import DswModel.Model.Spiderweb
import DswModel.Lemmas.Defs
import DswModel.Lemmas.DeBruijn
import DswModel.Lemmas.Discover
/-!
# C11 — vertex discovery and the valid graph mirror the filter exactly

The filter is an arbitrary predicate on strings (`P`); how the real code *calls* the filter object
(positional argument, documented interface) is a run-time fact checked by the harness.
-/
namespace Dsw

/-- vertex discovery marks index `i` exactly when the filter accepts the `i`-th k-mer, and raises
`ValueError` (and nothing else) exactly when it accepts none. -/
theorem C11_mask (k : Nat) (P : List Char → Bool) :
    (∀ m, findVertices k P = .ok m →
        m.size = 4 ^ k ∧ (∀ i, i < 4 ^ k → m.getD i false = P (kmerOf k i)) ∧ ∃ i, i < 4 ^ k ∧ P (kmerOf k i) = true) ∧
    (∀ e, findVertices k P = .error e → e = .valueError ∧ ∀ i, i < 4 ^ k → P (kmerOf k i) = false) := by
  rw [findVertices_eq]
  by_cases h : (filterMask k P).count = 0
  · rw [if_pos h]
    refine ⟨fun m hm => (by cases hm), fun e he => ?_⟩
    cases he
    refine ⟨rfl, fun i hi => ?_⟩
    rw [← filterMask_getD k P i hi]
    exact (Mask.count_eq_zero_iff _).1 h i (by rw [filterMask_size]; exact hi)
  · rw [if_neg h]
    refine ⟨fun m hm => ?_, fun e he => (by cases he)⟩
    cases hm
    refine ⟨filterMask_size k P, fun i hi => filterMask_getD k P i hi, ?_⟩
    obtain ⟨i, hi, hb⟩ := (Mask.count_pos_iff _).1 (Nat.pos_of_ne_zero h)
    rw [filterMask_size] at hi
    exact ⟨i, hi, by rw [← filterMask_getD k P i hi]; exact hb⟩

/-- the valid graph has an arc from `u` to `w` exactly when both are marked and `w` is a
shift-successor of `u`, stored in the column of `w`'s last nucleotide; `ValueError` exactly for the
empty mask (and for `None`). -/
theorem C11_valid_graph (k : Nat) (m : Mask) (hk : 1 ≤ k) (hm : m.size = 4 ^ k) :
    (∀ a, connectValidGraph k (some m) = .ok a →
        a.size = 4 ^ k ∧
        (∀ u j : Nat, u < 4 ^ k → j < 4 →
          a.ent (u : Int) j = if m.getD u false = true ∧ m.getD ((u * 4 + j) % 4 ^ k) false = true
                      then (((u * 4 + j) % 4 ^ k : Nat) : Int) else -1) ∧
        (∀ u j, u < 4 ^ k → j < 4 → ((u * 4 + j) % 4 ^ k) % 4 = j) ∧
        ∃ i, i < 4 ^ k ∧ m.getD i false = true) ∧
    (∀ e, connectValidGraph k (some m) = .error e → e = .valueError ∧ ∀ i, i < 4 ^ k → m.getD i false = false) ∧
    connectValidGraph k none = .error .valueError := by
  rw [connectValidGraph_some]
  by_cases hc : m.count > 0
  · rw [if_pos hc]
    refine ⟨fun a ha => ?_, fun e he => (by cases he), rfl⟩
    cases ha
    refine ⟨inducedAccessor_size k m, fun u j hu hj => inducedAccessor_ent k m u j hu hj,
      fun u j _ hj => shift_column k u j hk hj, ?_⟩
    obtain ⟨i, hi, hb⟩ := (Mask.count_pos_iff m).1 hc
    exact ⟨i, hm ▸ hi, hb⟩
  · rw [if_neg hc]
    refine ⟨fun a ha => (by cases ha), fun e he => ?_, rfl⟩
    cases he
    exact ⟨rfl, fun i hi => (Mask.count_eq_zero_iff m).1 (Nat.eq_zero_of_not_pos hc) i (hm ▸ hi)⟩

example : findVertices 1 (fun s => s == ['C']) = .ok #[false, true, false, false] := by decide +kernel
example : findVertices 2 (fun _ => false) = .error .valueError := by decide +kernel

end Dsw
