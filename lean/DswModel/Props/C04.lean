import DswModel.Props.C03
import DswModel.Lemmas.Tight
/-!
# C04 — encoding is total, dead-end free and tight on generated graphs

`(vs, a)` is what graph generation returned for some mask and threshold `1 ≤ t`; `v ∈ vs`.
-/
namespace Dsw

/-- normal mode: encoding any message from any retained vertex returns within `L·|V| + 1` loop
iterations (the fuel handed to the model), never reports a missing out-degree, and the strand is a
walk with at most `L·|V|` nucleotides. -/
theorem C04_terminates_normal (k t : Nat) (m : Mask) (vs : List Nat) (a : Acc) (v : Nat)
    (tbl : Option Tbl) (bits : List Nat) (hk : 1 ≤ k) (hm : m.size = 4 ^ k) (ht : 1 ≤ t)
    (h : connectCodingGraph k m t = .ok (vs, a)) (hv : v ∈ vs) (hb : IsBits bits) :
    ∃ s, encode a tbl (v : Int) bits false 0 (encodeFuel a bits) = .ok (s, none) ∧
      isWalk a (v : Int) s = true ∧ s.length ≤ bits.length * a.size := by
  have hg := C03_goodFrom k t m hm hk ht vs a h v hv
  obtain ⟨s, hs⟩ := encodeNat_total a tbl (v : Int) hg bits.length (v : Int) _ (.refl _)
    (bitToNumberInt_lt bits hb)
  obtain ⟨hw, _, _⟩ := encodeNat_spec a tbl _ _ _ _ hs
  have hl := Tight.encodeNat_length a tbl _ _ _ _ hs
  refine ⟨s, ?_, hw, by omega⟩
  rw [encode_normal_eq a tbl (v : Int) bits 0 _ hb]
  unfold encodeFuel
  rw [hs]
  rfl

/-- fast mode, on generated graphs without out-degree 3 in reach. -/
theorem C04_terminates_fast (k t : Nat) (m : Mask) (vs : List Nat) (a : Acc) (v : Nat)
    (tbl : Option Tbl) (bits : List Nat) (hk : 1 ≤ k) (hm : m.size = 4 ^ k) (ht : 1 ≤ t)
    (h : connectCodingGraph k m t = .ok (vs, a)) (hv : v ∈ vs) (hb : IsBits bits)
    (h3 : a.NoDeg3From (v : Int)) :
    ∃ s, encode a tbl (v : Int) bits true 0 (encodeFuel a bits) = .ok (s, none) ∧
      isWalk a (v : Int) s = true ∧ s.length ≤ bits.length * a.size := by
  have hg := C03_goodFrom k t m hm hk ht vs a h v hv
  obtain ⟨s, hs⟩ := encodeFastLoop_total a tbl bits.length bits (v : Int) (encodeFuel a bits)
    (Nat.le_refl _) hb hg h3 (Nat.le_refl _)
  have hw := (encodeFastLoop_spec a tbl _ (v : Int) bits s hb hs).1
  have hl := Tight.encodeFast_length a tbl _ _ _ _ hs
  unfold encodeFuel at hl
  refine ⟨s, ?_, hw, by omega⟩
  unfold encode
  simp only [if_true, hs, bind, Except.bind, pure, Except.pure]
  rfl

/-- tightness in normal mode, for ANY graph and table: the last nucleotide is emitted at a
branching vertex, and the product of the out-degrees met before the last step does not exceed
the message value. -/
theorem C04_tight_normal (a : Acc) (tbl : Option Tbl) (v : Int) (bits : List Nat) (vtLen fuel : Nat)
    (s : List Char) (c : Option (List Char)) (hb : IsBits bits) (hs : s ≠ [])
    (h : encode a tbl v bits false vtLen fuel = .ok (s, c)) :
    2 ≤ a.outDeg (walkEnd a v s.dropLast) ∧
    ((radices a v s.dropLast).filter (· > 1)).foldl (· * ·) 1 ≤ bitToNumberInt bits := by
  obtain ⟨he, _⟩ := encode_normal_ok hb h
  obtain ⟨_, hv, ht⟩ := encodeNat_spec a tbl _ _ _ _ he
  refine ⟨Tight.tight_last a tbl s v hs ht, ?_⟩
  rw [← hv]
  exact Tight.tight_prod a tbl s v hs ht

/-- consequently an `L`-bit message needs at most `L` nucleotides when every vertex met has at
least two arcs (every threshold-2 graph) … -/
theorem C04_length_branching (a : Acc) (tbl : Option Tbl) (v : Int) (bits : List Nat) (vtLen fuel : Nat)
    (s : List Char) (c : Option (List Char)) (hb : IsBits bits)
    (h : encode a tbl v bits false vtLen fuel = .ok (s, c))
    (h2 : ∀ i, i < s.length → 2 ≤ a.outDeg (walkEnd a v (s.take i))) :
    s.length ≤ bits.length := by
  obtain ⟨he, _⟩ := encode_normal_ok hb h
  obtain ⟨_, hv, ht⟩ := encodeNat_spec a tbl _ _ _ _ he
  by_cases hs : s = []
  · simp [hs]
  · have := Tight.tight_length a tbl 1 (Nat.le_refl 1) s v hs ht h2 (hv ▸ bitToNumberInt_lt bits hb)
    omega

/-- … and at most `⌈L/2⌉` when every vertex met has four arcs (the complete graph). -/
theorem C04_length_complete (a : Acc) (tbl : Option Tbl) (v : Int) (bits : List Nat) (vtLen fuel : Nat)
    (s : List Char) (c : Option (List Char)) (hb : IsBits bits)
    (h : encode a tbl v bits false vtLen fuel = .ok (s, c))
    (h4 : ∀ i, i < s.length → a.outDeg (walkEnd a v (s.take i)) = 4) :
    s.length ≤ (bits.length + 1) / 2 := by
  obtain ⟨he, _⟩ := encode_normal_ok hb h
  obtain ⟨_, hv, ht⟩ := encodeNat_spec a tbl _ _ _ _ he
  by_cases hs : s = []
  · simp [hs]
  · have := Tight.tight_length a tbl 2 (Nat.le_succ 1) s v hs ht
      (fun i hi => Nat.le_of_eq (h4 i hi).symm) (hv ▸ bitToNumberInt_lt bits hb)
    omega

/-- tightness in fast mode, for ANY graph and table: the bits carried by the steps total `L` or
`L + 1`, and the last nucleotide is emitted at an information-carrying (2- or 4-way) vertex. -/
theorem C04_tight_fast (a : Acc) (tbl : Option Tbl) (v : Int) (bits : List Nat) (vtLen fuel : Nat)
    (s : List Char) (c : Option (List Char)) (hb : IsBits bits) (hs : s ≠ [])
    (h : encode a tbl v bits true vtLen fuel = .ok (s, c)) :
    ((walkBits a tbl v s).length = bits.length ∨ (walkBits a tbl v s).length = bits.length + 1) ∧
    (a.outDeg (walkEnd a v s.dropLast) = 2 ∨ a.outDeg (walkEnd a v s.dropLast) = 4) := by
  obtain ⟨he, _⟩ := encode_fast_ok h
  obtain ⟨_, _, hbits, _⟩ := encodeFastLoop_spec a tbl fuel v bits s hb he
  refine ⟨?_, Tight.fast_last a tbl fuel v bits s hb he hs⟩
  rw [← walkBitsD_length]
  rcases hbits with hbits | hbits
  · left; rw [hbits]
  · right; rw [hbits]; simp

example : (connectCodingGraph 2 #[false, true, true, false, true, false, false, true,
    true, false, false, true, false, true, true, false] 2).toBool = true := by decide +kernel

end Dsw
