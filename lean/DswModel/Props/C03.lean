import DswModel.Model.Spiderweb
import DswModel.Lemmas.Defs
import DswModel.Lemmas.Trim
import DswModel.Lemmas.TrimOne
import DswModel.Lemmas.CoderDefs
/-!
# C03 — the coding graph is the largest closed sub-graph, or a ValueError

Vertex sets are masks (`Array Bool` of size `4^k`); `m.has v` is membership.
-/
namespace Dsw

/-- the property's notion of "closed" for threshold `t`. -/
def ClosedFor (k t : Nat) (s : Mask) : Prop := if t = 1 then Closed1 k s else Closed k t s

/-- `s` is the largest subset of `m` closed for threshold `t` (size `4^k`; every closed subset of `m` of that size
lies below it). -/
def IsLargestClosed (k t : Nat) (m s : Mask) : Prop :=
  s.size = 4 ^ k ∧ s.Sub m ∧ ClosedFor k t s ∧
  ∀ s' : Mask, s'.size = 4 ^ k → s'.Sub m → ClosedFor k t s' → s'.Sub s

/-- full statement on the model: for every mask and every threshold `1 ≤ t ≤ 4`. -/
def C03_statement : Prop :=
  ∀ (k t : Nat) (m : Mask), m.size = 4 ^ k → 1 ≤ k → 1 ≤ t → t ≤ 4 →
    (∀ vs a, connectCodingGraph k m t = .ok (vs, a) →
        ∃ s : Mask, IsLargestClosed k t m s ∧ a = inducedAccessor k s ∧ vs = s.indices ∧
          vs = obtainVertices a ∧ vs ≠ []) ∧
    (∀ e, connectCodingGraph k m t = .error e →
        e = .valueError ∧ ∀ s : Mask, s.size = 4 ^ k → s.Sub m → ClosedFor k t s → s.indices = [])

/-- thresholds 2, 3, 4 (the trimming loop with the code's own stopping rule computes the greatest
fixed point; `4^k + 1` rounds of fuel always suffice). -/
theorem C03_gfp (k t : Nat) (m : Mask) (hm : m.size = 4 ^ k) (hk : 1 ≤ k) (ht : 2 ≤ t) :
    (∀ vs a, connectCodingGraph k m t = .ok (vs, a) →
        ∃ s : Mask, IsLargestClosed k t m s ∧ a = inducedAccessor k s ∧ vs = s.indices ∧
          vs = obtainVertices a ∧ vs ≠ []) ∧
    (∀ e, connectCodingGraph k m t = .error e →
        e = .valueError ∧ ∀ s : Mask, s.size = 4 ^ k → s.Sub m → ClosedFor k t s → s.indices = []) := by
  have ht1 : t ≠ 1 := by omega
  have hCF : ∀ s : Mask, ClosedFor k t s ↔ Closed k t s := by
    intro s; simp [ClosedFor, ht1]
  have hfuel : m.count < 4 ^ k + 1 := by
    have := Trim.Mask.count_le_size m; omega
  refine ⟨fun vs a h => ?_, fun e h => ?_⟩
  · obtain ⟨s, hl, rfl, rfl⟩ := Trim.connectCodingGraph_ok ht1 h
    obtain ⟨h1, h2, h3, h4, h5⟩ := Trim.trimLoop_ok k t _ m s hm hl
    exact ⟨s, ⟨h1, h2, (hCF s).2 h3, fun s' _ hs' hc' => h4 s' hs' ((hCF s').1 hc')⟩, rfl, rfl,
      (Trim.obtainVertices_inducedAccessor h1 (by omega) h3).symm,
      Trim.Mask.indices_ne_nil_of_count_pos h5⟩
  · obtain ⟨h1, h2⟩ := Trim.trimLoop_error k t _ m e hm hfuel (Trim.connectCodingGraph_error ht1 h)
    exact ⟨h1, fun s _ hsub hc => Trim.Mask.indices_eq_nil (h2 s hsub ((hCF s).1 hc))⟩

/-- the first phase alone, for every threshold including 1: `trimLoop` returns the greatest
`Closed k t` subset, or `ValueError` iff that subset is empty; it never runs out of fuel. -/
theorem C03_trimLoop (k t : Nat) (m : Mask) (hm : m.size = 4 ^ k) (hk : 1 ≤ k) :
    (∀ s, trimLoop k t (4 ^ k + 1) m = .ok s →
        s.size = 4 ^ k ∧ s.Sub m ∧ Closed k t s ∧
        (∀ s' : Mask, s'.Sub m → Closed k t s' → s'.Sub s) ∧ s.indices ≠ []) ∧
    (∀ e, trimLoop k t (4 ^ k + 1) m = .error e →
        e = .valueError ∧ ∀ s' : Mask, s'.Sub m → Closed k t s' → ∀ v, v < 4 ^ k → ¬ s'.has v) := by
  have hfuel : m.count < 4 ^ k + 1 := by
    have := Trim.Mask.count_le_size m; omega
  refine ⟨fun s h => ?_, fun e h => ?_⟩
  · obtain ⟨h1, h2, h3, h4, h5⟩ := Trim.trimLoop_ok k t _ m s hm h
    exact ⟨h1, h2, h3, h4, Trim.Mask.indices_ne_nil_of_count_pos h5⟩
  · obtain ⟨h1, h2⟩ := Trim.trimLoop_error k t _ m e hm hfuel h
    exact ⟨h1, fun s' hs hc v _ => h2 s' hs hc v⟩

/-- a smaller mask never yields a larger graph (t ≥ 2). -/
theorem C03_mono (k t : Nat) (m m' : Mask) (hm : m.size = 4 ^ k) (hm' : m'.size = 4 ^ k) (hk : 1 ≤ k)
    (ht : 2 ≤ t) (hsub : m.Sub m') (vs : List Nat) (a : Acc)
    (h : connectCodingGraph k m t = .ok (vs, a)) :
    ∃ vs' a', connectCodingGraph k m' t = .ok (vs', a') ∧ (∀ v ∈ vs, v ∈ vs') ∧
      ∀ v j, v < 4 ^ k → j < 4 → 0 ≤ a.ent v j → a'.ent v j = a.ent v j := by
  have ht1 : t ≠ 1 := by omega
  have hfuel : m'.count < 4 ^ k + 1 := by
    have := Trim.Mask.count_le_size m'; omega
  obtain ⟨s, hl, rfl, rfl⟩ := Trim.connectCodingGraph_ok ht1 h
  obtain ⟨_, h2, h3, _, h5⟩ := Trim.trimLoop_ok k t _ m s hm hl
  have hsm' : Mask.Sub s m' := Mask.Sub.trans h2 hsub
  rw [Trim.connectCodingGraph_eq k m' t ht1]
  cases hl' : trimLoop k t (4 ^ k + 1) m' with
  | error e =>
    exfalso
    obtain ⟨v, _, hv⟩ := Trim.Mask.exists_of_count_pos h5
    exact (Trim.trimLoop_error k t _ m' e hm' hfuel hl').2 s hsm' h3 v hv
  | ok s' =>
    have hss' : Mask.Sub s s' := Trim.trimLoop_ok_max hm' hl' hsm' h3
    refine ⟨s'.indices, inducedAccessor k s', rfl, fun v hv => ?_, fun v j _ hj hent => ?_⟩
    · exact Trim.Mask.mem_indices.2 (hss' v (Trim.Mask.mem_indices.1 hv))
    · exact Trim.inducedAccessor_ent_mono hss' v j hj hent

/-- threshold 1: after the trimming loop the code repeatedly removes every vertex that cannot
reach a vertex with two or more arcs (backward closure from the branching vertices) and cascades
the removal to predecessors left without arcs; the result is the largest `Closed1` sub-graph, or
`ValueError`. `trimLoop` and `thresholdOneLoop` never return `outOfFuel` (every error is
`ValueError`); `usefulLoop` and `cascade` hand back their state when fuel ends, and the proof shows
that each reaches its fixed point within its fuel (`TrimOne.usefulLoop_spec`, `TrimOne.cascade_inv`). -/
theorem C03_t1 (k : Nat) (m : Mask) (hm : m.size = 4 ^ k) (hk : 1 ≤ k) :
    (∀ vs a, connectCodingGraph k m 1 = .ok (vs, a) →
        ∃ s : Mask, IsLargestClosed k 1 m s ∧ a = inducedAccessor k s ∧ vs = s.indices ∧
          vs = obtainVertices a ∧ vs ≠ []) ∧
    (∀ e, connectCodingGraph k m 1 = .error e →
        e = .valueError ∧ ∀ s : Mask, s.size = 4 ^ k → s.Sub m → ClosedFor k 1 s → s.indices = []) := by
  have hCF : ∀ s : Mask, ClosedFor k 1 s ↔ Closed1 k s := by
    intro s; simp only [ClosedFor, if_true]
  have hfuel : m.count < 4 ^ k + 1 := by
    have := Trim.Mask.count_le_size m; omega
  rw [TrimOne.connectCodingGraph_one]
  cases hl : trimLoop k 1 (4 ^ k + 1) m with
  | error e' =>
    refine ⟨fun vs a h => (by cases h), fun e h => ?_⟩
    cases h
    obtain ⟨h1, h2⟩ := Trim.trimLoop_error k 1 _ m e' hm hfuel hl
    exact ⟨h1, fun s _ hsub hc => Trim.Mask.indices_eq_nil (h2 s hsub ((hCF s).1 hc).closed)⟩
  | ok s0 =>
    obtain ⟨h1, h2, h3, h4, _⟩ := Trim.trimLoop_ok k 1 _ m s0 hm hl
    obtain ⟨m1, m2⟩ := TrimOne.thresholdOne_main hk h3
    refine ⟨fun vs a h => ?_, fun e h => ?_⟩
    · obtain ⟨s, g1, g2, g3, g4, g5, g6, g7, g8⟩ := m1 vs a h
      refine ⟨s, ⟨g1, Mask.Sub.trans g2 h2, (hCF s).2 g3, fun s' hs' hsub hc' => ?_⟩,
        g5, g6, g7, g8⟩
      have hc := (hCF s').1 hc'
      exact g4 s' hs' (h4 s' hsub hc.closed) hc
    · obtain ⟨g1, g2⟩ := m2 e h
      refine ⟨g1, fun s hs hsub hc' => ?_⟩
      have hc := (hCF s).1 hc'
      exact Trim.Mask.indices_eq_nil (g2 s hs (h4 s hsub hc.closed) hc)

theorem C03_holds : C03_statement := by
  intro k t m hm hk ht _
  by_cases h1 : t = 1
  · subst h1; exact C03_t1 k m hm hk
  · exact C03_gfp k t m hm hk (by omega)

/-- what the encoder needs from a generated graph (used by C04), for every threshold `t ≥ 1`:
from every listed vertex, every vertex reachable along arcs is a row index, has an arc, and
reaches a vertex with two or more arcs. -/
theorem C03_goodFrom (k t : Nat) (m : Mask) (hm : m.size = 4 ^ k) (hk : 1 ≤ k) (ht : 1 ≤ t)
    (vs : List Nat) (a : Acc) (h : connectCodingGraph k m t = .ok (vs, a)) :
    ∀ v ∈ vs, a.GoodFrom (v : Int) := by
  have key : ∃ s : Mask, IsLargestClosed k t m s ∧ a = inducedAccessor k s ∧ vs = s.indices ∧
      vs = obtainVertices a ∧ vs ≠ [] := by
    by_cases h1 : t = 1
    · subst h1; exact (C03_t1 k m hm hk).1 vs a h
    · exact (C03_gfp k t m hm hk (by omega)).1 vs a h
  obtain ⟨s, ⟨hs1, _, hs3, _⟩, rfl, rfl, _, _⟩ := key
  have hc : Closed1 k s := by
    by_cases h1 : t = 1
    · subst h1
      simp only [ClosedFor, if_true] at hs3
      exact hs3
    · simp only [ClosedFor, h1, if_false] at hs3
      exact TrimOne.closed_closed1 (by omega) hs3
  intro v hv
  exact TrimOne.induced_goodFrom hs1 hc (Trim.Mask.mem_indices.1 hv)

/-- trimming a latter map to the same threshold gives the same graph for t ≥ 2. -/
theorem C03_latter_map (k t : Nat) (m : Mask) (hm : m.size = 4 ^ k) (hk : 1 ≤ k) (ht : 2 ≤ t)
    (vs : List Nat) (a : Acc) (h : connectCodingGraph k m t = .ok (vs, a)) :
    latterMapToAccessor (accessorToLatterMap (inducedAccessor k m)) k (some t) = .ok a := by
  have ht1 : t ≠ 1 := by omega
  obtain ⟨s, hl, rfl, rfl⟩ := Trim.connectCodingGraph_ok ht1 h
  exact TrimOne.latterMap_trim hk (by omega) hm hl

/-- the input mask is an immutable value in the model; the function is a pure function of it
(the implementation side of "the input mask is not modified" is observed by the harness). -/
theorem C03_pure (k t : Nat) (m : Mask) : connectCodingGraph k m t = connectCodingGraph k (Array.mk m.toList) t := by
  rfl

/-- the docstrings' GC-balanced graph of order 2 is what threshold 2 leaves of its own vertex set. -/
theorem connectCodingGraph_gcBalanced2 :
    connectCodingGraph 2 #[false, true, true, false, true, false, false, true,
      true, false, false, true, false, true, true, false] 2 = .ok ([1, 2, 4, 7, 8, 11, 13, 14], gcBalanced2) := by
  decide +kernel

example : connectCodingGraph 2 #[false, true, true, false, true, false, false, true,
    true, false, false, true, false, true, true, false] 2 = .ok ([1, 2, 4, 7, 8, 11, 13, 14], gcBalanced2) :=
  connectCodingGraph_gcBalanced2
example : connectCodingGraph 1 #[true, false, false, false] 2 = .error .valueError := by decide +kernel
/-- threshold 1 on a mask with an information-free cycle (vertex AA alone) next to a branching part. -/
example : (connectCodingGraph 2 #[true, true, true, false, true, false, false, false,
    true, false, false, false, false, false, false, false] 1).toBool = true := by decide +kernel

end Dsw
