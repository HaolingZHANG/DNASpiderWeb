import DswModel.Model.Biofilter
import DswModel.Lemmas.Filter
/-!
# C12 — the local filter implements its documented window predicate

Strings are `List Char`; `p <:+: s` is "p occurs in s" (`List.IsInfix`).
The GC rule carries the integer thresholds the float comparisons of the code reduce to
(see `DswModel/Model/Biofilter.lean`).
-/
namespace Dsw

/-- the documented whole-sequence predicate, stated declaratively. -/
def DocumentedValid (c : FilterCfg) (s : List Char) : Prop :=
  (∀ ch ∈ s, ch = 'A' ∨ ch = 'C' ∨ ch = 'G' ∨ ch = 'T') ∧
  (∀ r, c.run = some r → ∀ ch, ch = 'A' ∨ ch = 'C' ∨ ch = 'G' ∨ ch = 'T' →
      ¬ List.replicate (r + 1) ch <:+: s) ∧
  (∀ ms, c.motifs = some ms → ∀ m ∈ ms, ¬ m <:+: s ∧ ¬ revComp m <:+: s) ∧
  (∀ g, c.gc = some g →
      if c.k ≤ s.length then
        ∀ i, i + c.k ≤ s.length →
          g.gcLo ≤ (gcCount ((s.drop i).take c.k) : Int) ∧ (gcCount ((s.drop i).take c.k) : Int) ≤ g.gcHi
      else (gcCount s : Int) ≤ g.gcHi ∧ (atCount s : Int) ≤ g.atHi)

/-- the whole-sequence verdict is exactly the documented predicate. -/
theorem C12_valid_all (c : FilterCfg) (s : List Char) :
    c.valid s false = true ↔ DocumentedValid c s := by
  rw [valid_false]
  exact validObserved_iff c s

/-- the last-window verdict equals the whole-sequence verdict of the final window. -/
theorem C12_last (c : FilterCfg) (s : List Char) (hk : 1 ≤ c.k) :
    c.valid s true = c.valid (s.drop (s.length - c.k)) false := by
  simp only [FilterCfg.valid, if_true, pySlice_last s c.k hk]
  simp

/-- rules decidable inside one window: run limit shorter than the window, motifs no longer than
the window. -/
def FilterCfg.WindowDecidable (c : FilterCfg) : Prop :=
  1 ≤ c.k ∧ (∀ r, c.run = some r → r < c.k) ∧ (∀ ms, c.motifs = some ms → ∀ m ∈ ms, m.length ≤ c.k)

/-- for strings at least one window long and window-decidable configurations the whole-sequence
verdict is the conjunction of the verdicts of all windows. -/
theorem C12_window_conj (c : FilterCfg) (s : List Char) (hc : c.WindowDecidable)
    (hs : c.k ≤ s.length) :
    c.valid s false = (windows c.k s).all fun w => c.valid w false := by
  rw [Bool.eq_iff_iff, all_windows]
  exact valid_iff_all_windows c s hc.1 hc.2.1 hc.2.2 hs

-- (`hs`, `hm` are not used: `complement` is an involution on all characters)
set_option linter.unusedVariables false in
/-- an A/C/G/T string and its reverse complement get the same verdict (motifs are ACGT strings). -/
theorem C12_revcomp (c : FilterCfg) (s : List Char)
    (hs : ∀ ch ∈ s, (nucIdx ch).isSome = true)
    (hm : ∀ ms, c.motifs = some ms → ∀ m ∈ ms, ∀ ch ∈ m, (nucIdx ch).isSome = true) :
    c.valid (revComp s) false = c.valid s false := by
  have key : ∀ t, validObserved c t = true → validObserved c (revComp t) = true := by
    intro t
    simp only [validObserved_iff]
    exact fun h => ⟨h.1.revComp, h.2.1.revComp, h.2.2.1.revComp, h.2.2.2.revComp⟩
  rw [valid_false, valid_false, Bool.eq_iff_iff]
  exact ⟨fun h => revComp_revComp s ▸ key _ h, key s⟩

/-- a foreign character is always rejected. -/
theorem C12_foreign (c : FilterCfg) (s : List Char) (ch : Char) (h : ch ∈ s) (hf : nucIdx ch = none) :
    c.valid s false = false := by
  rw [← Bool.not_eq_true, valid_false, validObserved_iff]
  intro hv
  have := (nucIdx_isSome_iff ch).2 (hv.1 ch h)
  simp [hf] at this

/-- the model's `isInfix` is Python's substring test. -/
theorem C12_isInfix (p s : List Char) : isInfix p s = true ↔ p <:+: s :=
  isInfix_iff p s

/-- the constructor accepts a configuration iff run ≤ k and all motifs ≤ k. -/
theorem C12_accepted (c : FilterCfg) :
    c.accepted = true ↔ (∀ r, c.run = some r → r ≤ c.k) ∧ (∀ ms, c.motifs = some ms → ∀ m ∈ ms, m.length ≤ c.k) := by
  unfold FilterCfg.accepted
  rw [Bool.and_eq_true]
  refine and_congr ?_ ?_
  · cases c.run with
    | none => exact iff_of_true rfl nofun
    | some r =>
      simp only [Option.some.injEq, forall_eq', Bool.not_eq_true', decide_eq_false_iff_not,
        Nat.not_lt]
  · cases c.motifs with
    | none => exact iff_of_true rfl nofun
    | some ms =>
      simp only [Option.some.injEq, forall_eq', List.all_eq_true, Bool.not_eq_true',
        decide_eq_false_iff_not, gt_iff_lt, Nat.not_lt]

def exampleCfg : FilterCfg :=
  { k := 8, run := some 2, motifs := some ["GC".toList], gc := some ⟨4, 4, 4⟩ }

example : exampleCfg.valid "ACGTACGT".toList false = true ∧ exampleCfg.valid "GCATGCAT".toList false = false ∧
    exampleCfg.valid "AAACCGGA".toList false = false := by decide +kernel

end Dsw
