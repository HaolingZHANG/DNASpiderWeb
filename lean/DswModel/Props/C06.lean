import DswModel.Lemmas.CoderFast
/-!
# C06 — decoding accepts exactly the strands that are walks of the graph

Strings are over any alphabet (`List Char`).
-/
namespace Dsw

/-- the supplied check (if any) matches; with no check this holds of every string, with a check a strand containing a
foreign character never matches (`setVt` raises). -/
def CheckOk (s : List Char) (chk : Option (List Char)) : Prop := vtMatches s chk = .ok true

/-- normal mode, any graph/table/start, any string: a bit list of exactly the requested length
iff the string is a walk and the check matches; otherwise `ValueError` and nothing else. -/
theorem C06_normal (a : Acc) (tbl : Option Tbl) (v : Int) (s : List Char) (L : Nat)
    (chk : Option (List Char)) :
    (isWalk a v s = true ∧ CheckOk s chk →
        ∃ bits, decode a tbl v s L false chk = .ok bits ∧ bits.length = L) ∧
    (¬ (isWalk a v s = true ∧ CheckOk s chk) → decode a tbl v s L false chk = .error .valueError) := by
  exact ⟨fun h => ⟨_, decode_normal_ok a tbl v s L chk h.1 h.2, fitBits_length _ _⟩,
    decode_normal_err a tbl v s L chk⟩

/-- fast mode (no out-degree-3 vertex reachable): the same equivalence for every string whose
walkable prefix carries no more bits than requested. -/
theorem C06_fast (a : Acc) (tbl : Option Tbl) (v : Int) (s : List Char) (L : Nat)
    (chk : Option (List Char)) (h3 : a.NoDeg3From v)
    (hL : (walkBits a tbl v (walkablePrefix a v s)).length ≤ L) :
    (isWalk a v s = true ∧ CheckOk s chk →
        ∃ bits, decode a tbl v s L true chk = .ok bits ∧ bits.length = L) ∧
    (¬ (isWalk a v s = true ∧ CheckOk s chk) → decode a tbl v s L true chk = .error .valueError) := by
  rw [← walkBitsD_length] at hL
  have hgen := decodeFastLoop_spec a tbl L s v 0
    (fun i _ => h3 _ (reach_walkEnd_take _ v (isWalk_walkablePrefix a v s) i)) (by omega)
  constructor
  · rintro ⟨hw, hc⟩
    rw [walkablePrefix_of_isWalk a v s hw] at hL
    rw [decode_fast_eq hc, hgen, if_pos hw]
    refine ⟨_, rfl, ?_⟩
    rw [List.length_append, List.length_replicate]
    omega
  · intro hn
    by_cases hc : vtMatches s chk = .ok true
    · have hw : ¬ isWalk a v s = true := fun hw => hn ⟨hw, hc⟩
      rw [decode_fast_eq hc, hgen, if_neg hw]
      rfl
    · exact decode_check_fail a tbl v s L true chk hc

/-- corollary (C18): which strands are accepted does not depend on the shuffle table. -/
theorem C06_table_independent (a : Acc) (tbl tbl' : Option Tbl) (v : Int) (s : List Char) (L : Nat)
    (chk : Option (List Char)) :
    (decode a tbl v s L false chk).toBool = (decode a tbl' v s L false chk).toBool := by
  by_cases h : isWalk a v s = true ∧ vtMatches s chk = .ok true
  · rw [decode_normal_ok a tbl v s L chk h.1 h.2, decode_normal_ok a tbl' v s L chk h.1 h.2]
    rfl
  · rw [decode_normal_err a tbl v s L chk h, decode_normal_err a tbl' v s L chk h]

example : isWalk gcBalanced2 1 "TCTCTCT".toList = true ∧ CheckOk "TCTCTCT".toList (some "TAAGC".toList) := by
  refine ⟨by decide +kernel, ?_⟩
  unfold CheckOk
  decide +kernel
example : decode gcBalanced2 none 1 "TCTCTAT".toList 8 false none = .error .valueError := by decide +kernel

end Dsw
