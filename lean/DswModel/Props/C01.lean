import DswModel.Lemmas.CoderFast
/-!
# C01 — encode then decode returns the original message

The round trip needs NO hypothesis on the graph, the start vertex or the table: whenever `encode`
returns a strand (whatever fuel it was given), `decode` returns the message. Well-formedness of the
graph is only needed for `encode` to return at all — that is `C01_total_normal` / `C01_total_fast` (and C04).
-/
namespace Dsw

/-- arbitrary-precision mode, any mixture of out-degrees, any table, with or without check. -/
theorem C01_normal (a : Acc) (tbl : Option Tbl) (v : Int) (bits : List Nat) (vtLen fuel : Nat)
    (s : List Char) (c : Option (List Char)) (hb : IsBits bits)
    (h : encode a tbl v bits false vtLen fuel = .ok (s, c)) :
    decode a tbl v s bits.length false c = .ok bits := by
  obtain ⟨he, hc⟩ := encode_normal_ok hb h
  obtain ⟨hw, hv, _⟩ := encodeNat_spec a tbl _ _ _ _ he
  rw [decode_normal_ok a tbl v s _ c hw hc, hv, (C16_bits_roundtrip bits hb).2]

/-- fast mode (an `.ok` result of `encode` already implies that no out-degree-3 vertex was met),
including odd message lengths. -/
theorem C01_fast (a : Acc) (tbl : Option Tbl) (v : Int) (bits : List Nat) (vtLen fuel : Nat)
    (s : List Char) (c : Option (List Char)) (hb : IsBits bits)
    (h : encode a tbl v bits true vtLen fuel = .ok (s, c)) :
    decode a tbl v s bits.length true c = .ok bits := by
  obtain ⟨hs, hc⟩ := encode_fast_ok h
  rw [decode_fast_eq hc, (encodeFastLoop_spec a tbl fuel v bits s hb hs).2.2.2 _ 0 (Nat.zero_add _)]
  simp [Except.map]

/-- on a graph in which every vertex reachable from the start has an arc and can reach a branching
vertex, `encode` returns (normal mode: any out-degrees; the fuel `L·|V| + 1` suffices). -/
theorem C01_total_normal (a : Acc) (tbl : Option Tbl) (v : Int) (bits : List Nat) (vtLen : Nat)
    (hb : IsBits bits) (hg : a.GoodFrom v) :
    ∃ s c, encode a tbl v bits false vtLen (encodeFuel a bits) = .ok (s, c) := by
  obtain ⟨s, hs⟩ := encodeNat_total a tbl v hg bits.length v _ (.refl v)
    (bitToNumberInt_lt bits hb)
  obtain ⟨hc, hv⟩ := C16_bits_paths_agree bits hb
  refine ⟨s, encode_ok_of_loop vtLen ?_ (encodeNat_spec a tbl _ _ _ _ hs).1⟩
  rw [if_neg Bool.false_ne_true, encodeNormalLoop_eq_encodeNat a tbl _ v _ hc, hv]
  exact hs

/-- same in fast mode on graphs without out-degree 3. -/
theorem C01_total_fast (a : Acc) (tbl : Option Tbl) (v : Int) (bits : List Nat) (vtLen : Nat)
    (hb : IsBits bits) (hg : a.GoodFrom v) (h3 : a.NoDeg3From v) :
    ∃ s c, encode a tbl v bits true vtLen (encodeFuel a bits) = .ok (s, c) := by
  obtain ⟨s, hs⟩ := encodeFastLoop_total a tbl bits.length bits v (encodeFuel a bits) (Nat.le_refl _) hb hg h3
    (Nat.le_refl _)
  exact ⟨s, encode_ok_of_loop vtLen hs (encodeFastLoop_spec a tbl _ v bits s hb hs).1⟩

/-- the empty and the all-zero message are encoded as the empty strand in normal mode and decoded
back. -/
theorem C01_zero (a : Acc) (tbl : Option Tbl) (v : Int) (n : Nat) :
    encode a tbl v (List.replicate n 0) false 0 1 = .ok ([], none) ∧
    decode a tbl v [] n false none = .ok (List.replicate n 0) := by
  have hb : IsBits (List.replicate n 0) := by
    intro b hb; rw [List.eq_of_mem_replicate hb]; omega
  have hz : bitToNumberInt (List.replicate n 0) = 0 := by
    unfold bitToNumberInt
    induction n with
    | zero => rfl
    | succ n ih =>
      rw [List.replicate_succ, List.foldl_cons]
      exact ih (by intro b hb; rw [List.eq_of_mem_replicate hb]; omega)
  constructor
  · rw [encode_normal_eq a tbl v _ 0 1 hb, hz]
    rfl
  · rw [decode_normal_ok a tbl v [] n none rfl rfl]
    show Except.ok (numberToBitInt 0 n) = _
    unfold numberToBitInt
    rw [digitsNat_zero, fitBits_of_le _ _ (Nat.zero_le _)]
    simp

example : a = gcBalanced2 → decode gcBalanced2 none 1 "TCTCTCT".toList 8 false (some "TAAGC".toList)
    = .ok [0, 1, 0, 1, 0, 1, 0, 1] := by
  intro _; decide +kernel

end Dsw
