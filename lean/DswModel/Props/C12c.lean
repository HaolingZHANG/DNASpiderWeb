import DswModel.Props.C12b
import DswModel.Props.C02b
import DswModel.Props.FloatSpec
import DswModel.Lemmas.FloatGc
/-!
# C12 (continued) — the thresholds the code's float expressions produce versus the exact ones

`exactGcRule lo hi k` (Props/C12b.lean) holds the thresholds `⌈lo·k⌉`, `⌊hi·k⌋`, `⌊k − lo·k⌋` of EXACT fractions;
`floatGcRule lo hi k` (Model/Biofilter.lean) the ones the code's double-precision expressions produce for the doubles `lo`,
`hi`. These theorems say how far apart they can be: never by more than one count, and not at all whenever the products are
themselves binary64 values (every bound such as 0.5, 0.25, 0.75, and every bound at all when the window is a power of two)
— which is the precise sense in which "the configured fraction" of C12 is honoured.
-/
namespace Dsw

/-- when `lo·k` and `hi·k` are binary64 values, the full-window thresholds the code uses are exactly the documented ones
for the two doubles; the short-strand bound is the documented one or one count more (never less, `C02_float_consistent`). -/
theorem C12_float_exact (lo hi : Dbl) (k : Nat) (g : GcRule) (hlo : 0 < lo.den) (hhi : 0 < hi.den)
    (l01 : 0 ≤ lo.num ∧ lo.num ≤ lo.den) (h01 : 0 ≤ hi.num ∧ hi.num ≤ hi.den) (hk : k ≤ 2 ^ 53)
    (el : IsB64 (lo.num * k) lo.den) (eh : IsB64 (hi.num * k) hi.den)
    (hg : floatGcRule lo hi k = some g) :
    g.gcLo = (exactGcRule (dblQ lo) (dblQ hi) k).gcLo ∧ g.gcHi = (exactGcRule (dblQ lo) (dblQ hi) k).gcHi ∧
    ((exactGcRule (dblQ lo) (dblQ hi) k).atHi ≤ g.atHi ∧ g.atHi ≤ (exactGcRule (dblQ lo) (dblQ hi) k).atHi + 1) := by
  have _ := h01
  obtain ⟨a, b, c, ra, rb, rc, hlo', hhi', hat⟩ := FloatGc.rule_rounds hlo hhi hk hg
  obtain ⟨q0, q1⟩ := FloatGc.dblQ_range hlo l01.1 l01.2
  have hL0 : 0 ≤ dblQ lo * k := mul_nonneg q0 (Nat.cast_nonneg k)
  have hL1 : dblQ lo * k ≤ k := mul_le_of_le_one_left (Nat.cast_nonneg k) q1
  have ea : dblQ a = dblQ lo * k := ra.exact el (by rw [FloatGc.dblQ_def]; push_cast; ring)
  have eb : dblQ b = dblQ hi * k := rb.exact eh (by rw [FloatGc.dblQ_def]; push_cast; ring)
  show g.gcLo = (dblQ lo * k).ceil ∧ g.gcHi = (dblQ hi * k).floor ∧
    (((k : Rat) - dblQ lo * k).floor ≤ g.atHi ∧ g.atHi ≤ ((k : Rat) - dblQ lo * k).floor + 1)
  rw [hlo', hhi', hat, Thresholds.floor_natCast_sub, ← Thresholds.ceil_eq, ← Thresholds.floor_eq, ea, eb]
  rw [ea] at rc
  exact ⟨rfl, rfl, rc.sub_near hk hL0 hL1 (Int.floor_le _) (Int.le_ceil _)⟩

/-- in general (bounds in `[0, 1]`, windows up to `2^52`) each float threshold is within one count of the exact one. -/
theorem C12_float_near (lo hi : Dbl) (k : Nat) (g : GcRule) (hlo : 0 < lo.den) (hhi : 0 < hi.den)
    (l01 : 0 ≤ lo.num ∧ lo.num ≤ lo.den) (h01 : 0 ≤ hi.num ∧ hi.num ≤ hi.den) (hk : k ≤ 2 ^ 52)
    (hg : floatGcRule lo hi k = some g) :
    (g.gcLo - (exactGcRule (dblQ lo) (dblQ hi) k).gcLo).natAbs ≤ 1 ∧
    (g.gcHi - (exactGcRule (dblQ lo) (dblQ hi) k).gcHi).natAbs ≤ 1 ∧
    (g.atHi - (exactGcRule (dblQ lo) (dblQ hi) k).atHi).natAbs ≤ 1 := by
  have hk53 : k ≤ 2 ^ 53 := by omega
  obtain ⟨a, b, c, ra, rb, rc, hlo', hhi', hat⟩ := FloatGc.rule_rounds hlo hhi hk53 hg
  obtain ⟨q0, q1⟩ := FloatGc.dblQ_range hlo l01.1 l01.2
  obtain ⟨r0, r1⟩ := FloatGc.dblQ_range hhi h01.1 h01.2
  have hL0 : 0 ≤ dblQ lo * k := mul_nonneg q0 (Nat.cast_nonneg k)
  have hL1 : dblQ lo * k ≤ k := mul_le_of_le_one_left (Nat.cast_nonneg k) q1
  have hH0 : 0 ≤ dblQ hi * k := mul_nonneg r0 (Nat.cast_nonneg k)
  have hH1 : dblQ hi * k ≤ k := mul_le_of_le_one_left (Nat.cast_nonneg k) r1
  show (g.gcLo - (dblQ lo * k).ceil).natAbs ≤ 1 ∧ (g.gcHi - (dblQ hi * k).floor).natAbs ≤ 1 ∧
    (g.atHi - ((k : Rat) - dblQ lo * k).floor).natAbs ≤ 1
  rw [hlo', hhi', hat, Thresholds.floor_natCast_sub, ← Thresholds.ceil_eq, ← Thresholds.floor_eq]
  obtain ⟨a1, a2⟩ := ra.floor_ceil hk53 hL0 hL1
  have hc := rc.sub_near hk53 hL0 hL1 a1 a2
  exact ⟨(ra.floor_ceil_near hk53 hL0 hL1).2, (rb.floor_ceil_near hk53 hH0 hH1).1, by omega⟩

/-- non-vacuity: `lo = 0.5`, `k = 5`: `2.5` is a binary64 value (`5·2^-1`); for `lo = 0.8` (the double nearest to 0.8)
the exact product `0.8·5` is NOT one — it needs 55 bits — and `C12_float_near` applies instead. -/
example : IsB64 ((⟨1, 2⟩ : Dbl).num * 5) 2 := by
  refine ⟨by decide, 5, -1, by decide, by decide, by decide, ?_⟩
  simp only [EqPow2]
  decide

end Dsw
