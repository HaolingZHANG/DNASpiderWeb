import DswModel.Model.Capacity
import DswModel.Lemmas.Defs
import DswModel.Lemmas.Power
import DswModel.Props.C17
import DswModel.Lemmas.PowerStop
/-!
# C17 (continued) — what the stopping rule certifies, in exact arithmetic

`C17_certificate_upper/lower` say that a positive vector `x` on a successor-closed set `S` with
`ν·x ≤ A x ≤ μ·x` on `S` bounds the growth rate of the number of walks from `S` between `ν` and `μ`
(that growth rate is `ρ`, and `log2 ρ` is the capacity). Here: when the exact-arithmetic power
iteration stops by its own rule — two consecutive normalised vectors differ by less than `tol` in
every entry — the vector it stopped with is such a certificate, with `μ, ν = ev·(1 ± tol/δ)`, where
`δ` is the smallest entry of the vector on `S`. So the reported eigenvalue is within a relative
`tol/δ` of the true growth rate. (`Props/C17c.lean` carries this over to the double-precision iteration.)
-/
namespace Dsw

theorem C17_capStep_entry (a : Acc) (x : Vec) (v : Nat) :
    (capStep a x).1.getD v 0 = applyRow a x v / (capStep a x).2 := by
  rw [Power.capStep_getD, Power.capY_getD a x v]
  rfl

/-- if one more step changes no entry by `tol` or more (the code's "settled" test) then on every
vertex `v` of the table: `| (A x)_v − ev·x_v | < ev·tol`, i.e. `x` is an approximate eigenvector for
the estimate `ev`. -/
theorem C17_settled_residual (a : Acc) (x : Vec) (tol : Rat) (hpos : 0 < (capStep a x).2)
    (hset : ∀ v, v < a.size → ratAbs ((capStep a x).1.getD v 0 - x.getD v 0) < tol) :
    ∀ v, v < a.size → ratAbs (applyRow a x v - (capStep a x).2 * x.getD v 0) < (capStep a x).2 * tol := by
  intro v hv
  have h := hset v hv
  rw [C17_capStep_entry a x v] at h
  exact PowerStop.residual _ _ _ _ hpos h

/-- consequently, on any set `S` of vertices where `x ≥ δ > 0`, the vector certifies
`ev·(1 − tol/δ)·x_v ≤ (A x)_v ≤ ev·(1 + tol/δ)·x_v` — the hypotheses of the Collatz–Wielandt
certificate with `ν = ev(1 − tol/δ)` and `μ = ev(1 + tol/δ)`. -/
theorem C17_stop_certificate (a : Acc) (x : Vec) (tol δ : Rat) (S : Nat → Prop)
    (hpos : 0 < (capStep a x).2) (hδ : 0 < δ)
    (hS : ∀ v, S v → v < a.size ∧ δ ≤ x.getD v 0)
    (hset : ∀ v, v < a.size → ratAbs ((capStep a x).1.getD v 0 - x.getD v 0) < tol) :
    ∀ v, S v →
      (capStep a x).2 * (1 - tol / δ) * x.getD v 0 ≤ applyRow a x v ∧
      applyRow a x v ≤ (capStep a x).2 * (1 + tol / δ) * x.getD v 0 := by
  intro v hv
  obtain ⟨hvs, hx⟩ := hS v hv
  exact PowerStop.relative _ _ _ _ _ hδ hx (C17_settled_residual a x tol hpos hset v hvs)

/-- rational version of the certificate: weighted walk sums with rational weights. -/
def weightedWalksQ (a : Acc) (x : Vec) : Nat → Nat → Rat
  | 0, v => x.getD v 0
  | n + 1, v => ((a.liveEntries (v : Int)).map fun w => weightedWalksQ a x n w).sum

/-- Collatz–Wielandt with rational data: `ν x ≤ A x ≤ μ x` on a successor-closed `S` (with
`0 ≤ ν`) gives `ν^n x_v ≤ W_n(v) ≤ μ^n x_v` for the `x`-weighted number of `n`-step walks. -/
theorem C17_certificate_rat (a : Acc) (x : Vec) (S : Nat → Prop) (ν μ : Rat) (hν : 0 ≤ ν) (hμ : 0 ≤ μ)
    (hx : ∀ v, S v → 0 ≤ x.getD v 0)
    (hclosed : ∀ v, S v → ∀ w ∈ a.liveEntries (v : Int), S w)
    (hineq : ∀ v, S v → ν * x.getD v 0 ≤ applyRow a x v ∧ applyRow a x v ≤ μ * x.getD v 0) :
    ∀ n v, S v → ν ^ n * x.getD v 0 ≤ weightedWalksQ a x n v ∧ weightedWalksQ a x n v ≤ μ ^ n * x.getD v 0 := by
  intro n
  induction n with
  | zero =>
    intro v _
    rw [weightedWalksQ, pow_zero, pow_zero, one_mul]
    exact ⟨le_refl _, le_refl _⟩
  | succ n ih =>
    intro v hv
    rw [weightedWalksQ]
    have hrow := hineq v hv
    unfold applyRow at hrow
    rw [PowerStop.foldl_add_eq_sum0] at hrow
    constructor
    · rw [pow_succ]
      exact PowerStop.cert_step_lower _ _ _ _ _ _ (pow_nonneg hν n)
        (fun w hw => (ih w (hclosed v hv w hw)).1) hrow.1
    · rw [pow_succ]
      exact PowerStop.cert_step_upper _ _ _ _ _ _ (pow_nonneg hμ n)
        (fun w hw => (ih w (hclosed v hv w hw)).2) hrow.2

/-- the two together: when the exact iteration has settled at `x` with estimate `ev`, the
`x`-weighted number of `n`-step walks from any vertex of a successor-closed set on which
`x ≥ δ` (and `tol ≤ δ`) grows like `ev^n` up to the factor `(1 ± tol/δ)^n`. -/
theorem C17_stop_accuracy (a : Acc) (x : Vec) (tol δ : Rat) (S : Nat → Prop)
    (hpos : 0 < (capStep a x).2) (hδ : 0 < δ) (htol : 0 ≤ tol ∧ tol ≤ δ)
    (hS : ∀ v, S v → v < a.size ∧ δ ≤ x.getD v 0)
    (hclosed : ∀ v, S v → ∀ w ∈ a.liveEntries (v : Int), S w)
    (hset : ∀ v, v < a.size → ratAbs ((capStep a x).1.getD v 0 - x.getD v 0) < tol) :
    ∀ n v, S v →
      ((capStep a x).2 * (1 - tol / δ)) ^ n * x.getD v 0 ≤ weightedWalksQ a x n v ∧
      weightedWalksQ a x n v ≤ ((capStep a x).2 * (1 + tol / δ)) ^ n * x.getD v 0 := by
  have hq0 : 0 ≤ tol / δ := div_nonneg htol.1 (le_of_lt hδ)
  have hq1 : tol / δ ≤ 1 := (div_le_one hδ).2 htol.2
  have hν : 0 ≤ (capStep a x).2 * (1 - tol / δ) := mul_nonneg (le_of_lt hpos) (sub_nonneg.2 hq1)
  have hμ : 0 ≤ (capStep a x).2 * (1 + tol / δ) := mul_nonneg (le_of_lt hpos) (add_nonneg zero_le_one hq0)
  exact C17_certificate_rat a x S _ _ hν hμ
    (fun v hv => le_trans (le_of_lt hδ) (hS v hv).2) hclosed
    (C17_stop_certificate a x tol δ S hpos hδ hS hset)

end Dsw
