import DswModel.Model.Spiderweb
import DswModel.Model.Biofilter
import DswModel.Lemmas.Defs
import DswModel.Lemmas.DeBruijn
import DswModel.Lemmas.Filter
import DswModel.Lemmas.Trim
import DswModel.Props.C12
import DswModel.Lemmas.Windows
/-!
# C02 — every emitted strand obeys the biochemical constraints it was generated for

The filter is an arbitrary predicate `P` on strings (user-defined filters included); vertex
discovery marks `v` iff `P (kmerOf k v)`. A graph "generated for the filter" is any accessor all of
whose arcs are arcs of the valid graph of that mask — in particular every result of
`connectCodingGraph k mask t` — and the theorems hold for EVERY walk of it, hence for every strand
`encode` emits (a walk by `C05_encode_meets_spec` / `C05_fast_meets_spec`), whatever the message, table and mode.
-/
namespace Dsw

/-- sentence 1: every window of the observed length of `start k-mer ++ strand` satisfies the
filter — including the windows that overlap the virtual start vertex. -/
theorem C02_windows (k : Nat) (P : List Char → Bool) (m : Mask) (a : Acc) (v : Nat) (s : List Char)
    (hk : 1 ≤ k) (hm : findVertices k P = .ok m) (ha : SubGraphOf k a m) (hv : v < 4 ^ k)
    (hvm : m.getD v false = true) (hw : isWalk a (v : Int) s = true) :
    ∀ i, i + k ≤ (kmerOf k v ++ s).length → P (((kmerOf k v ++ s).drop i).take k) = true := by
  intro i hi
  rw [List.length_append, kmerOf_length k v hv, Nat.add_comm] at hi
  obtain ⟨u, hu, hum, _, hwin⟩ :=
    Windows.walk_windows hk ha s v hv hvm hw i (Nat.le_of_add_le_add_left hi)
  rw [hwin, ← Windows.findVertices_getD hm u hu]
  exact hum

-- (`hk` is not needed: for `k = 0` the statement holds as well)
set_option linter.unusedVariables false in
/-- generated graphs are sub-graphs of the valid graph of the mask (thresholds ≥ 2; the
threshold-1 case follows in the same way from `C03_t1`). -/
theorem C02_generated_subgraph (k t : Nat) (m : Mask) (vs : List Nat) (a : Acc) (hk : 1 ≤ k)
    (hm : m.size = 4 ^ k) (ht : 2 ≤ t) (h : connectCodingGraph k m t = .ok (vs, a)) :
    SubGraphOf k a m ∧ ∀ v ∈ vs, v < 4 ^ k ∧ m.getD v false = true := by
  rw [Trim.connectCodingGraph_eq k m t (Nat.ne_of_gt ht)] at h
  cases hl : trimLoop k t (4 ^ k + 1) m with
  | error e =>
    rw [hl] at h
    cases h
  | ok s' =>
    rw [hl] at h
    obtain ⟨rfl, rfl⟩ := Prod.mk.inj (Except.ok.inj h)
    obtain ⟨hs, hle, _⟩ := Trim.trimLoop_ok k t _ m s' hm hl
    refine ⟨Windows.arcsIn_induced k s' m hle, fun v hv => ?_⟩
    have hvs := Trim.Mask.mem_indices.1 hv
    exact ⟨hs ▸ Trim.Mask.lt_size_of_getD hvs, hle v hvs⟩

/-- the GC thresholds are mutually consistent: a window with `gcLo ≤ gc` has at most `atHi` A/T
(this is what defect D8 violated for `lo = 0.8, k = 5` in floating point; for the thresholds the
code's float expressions produce it is `C02_float_consistent`, Props/C02b). -/
def FilterCfg.GcConsistent (c : FilterCfg) : Prop := ∀ g, c.gc = some g → (c.k : Int) - g.gcLo ≤ g.atHi

/-- sentence 2: for a window-decidable built-in filter, the whole strand — alone and prefixed with
the start k-mer — passes the whole-sequence check. -/
theorem C02_whole (c : FilterCfg) (m : Mask) (a : Acc) (v : Nat) (s : List Char)
    (hc : c.WindowDecidable) (hg : c.GcConsistent)
    (hm : findVertices c.k (fun x => c.valid x true) = .ok m) (ha : SubGraphOf c.k a m)
    (hv : v < 4 ^ c.k) (hvm : m.getD v false = true) (hw : isWalk a (v : Int) s = true) :
    c.valid s false = true ∧ c.valid (kmerOf c.k v ++ s) false = true := by
  have hk := hc.1
  have hl := kmerOf_length c.k v hv
  have hlen : (kmerOf c.k v ++ s).length = c.k + s.length := by rw [List.length_append, hl]
  have hwin : ∀ i, i + c.k ≤ (kmerOf c.k v ++ s).length →
      c.valid (((kmerOf c.k v ++ s).drop i).take c.k) false = true := by
    intro i hi
    have h : c.valid (((kmerOf c.k v ++ s).drop i).take c.k) true = true :=
      C02_windows c.k (fun x => c.valid x true) m a v s hk hm ha hv hvm hw i hi
    rwa [C12_last c _ hk, window_length _ i c.k hi, Nat.sub_self, List.drop_zero] at h
  have hlong : c.valid (kmerOf c.k v ++ s) false = true := by
    rw [C12_window_conj c _ hc (hlen ▸ Nat.le_add_right ..), all_windows]
    exact hwin
  refine ⟨?_, hlong⟩
  by_cases hs : c.k ≤ s.length
  · -- the windows of `s` are windows of `kmer ++ s`
    rw [C12_window_conj c s hc hs, all_windows]
    intro i hi
    have h := hwin (c.k + i) (by rw [hlen, Nat.add_assoc]; exact Nat.add_le_add_left hi _)
    rwa [Windows.drop_append_window hl] at h
  · -- `s` is a piece of the last window
    have hs := Nat.lt_of_not_le hs
    have hi : s.length + c.k ≤ (kmerOf c.k v ++ s).length := by
      rw [hlen, Nat.add_comm]; exact Nat.le_refl _
    exact valid_of_infix_window c s _ (Windows.suffix_last_window hl s (Nat.le_of_lt hs))
      (window_length _ _ _ hi) hs (hwin s.length hi) hg

/-- sentence 3 (partial): every accepted configuration whose run limit is not equal to the window
length is window-decidable. -/
theorem C02_ctor_partial (c : FilterCfg) (hk : 1 ≤ c.k) (ha : c.accepted = true)
    (hr : c.run ≠ some c.k) : c.WindowDecidable := by
  obtain ⟨h1, h2⟩ := (C12_accepted c).1 ha
  refine ⟨hk, fun r hrun => ?_, h2⟩
  exact Nat.lt_of_le_of_ne (h1 r hrun) fun h => hr (by rw [hrun, h])

/-- sentence 3 fails as stated (known finding K1): the constructor accepts run limit = window
length, which is not window-decidable; e.g. k = 2, run = 2: every window of "AAA" is valid, the
whole strand is not. -/
theorem C02_ctor_counterexample :
    let c : FilterCfg := { k := 2, run := some 2 }
    c.accepted = true ∧ ¬ c.WindowDecidable ∧
    (windows 2 "AAA".toList).all (fun w => c.valid w false) = true ∧ c.valid "AAA".toList false = false := by
  intro c
  refine ⟨by decide, ?_, by decide +kernel, by decide +kernel⟩
  intro h
  have := h.2.1 2 rfl
  exact absurd this (by decide)

example : findVertices 2 (fun x => ({ k := 2, run := some 1, gc := some ⟨1, 1, 1⟩ } : FilterCfg).valid x true)
    = .ok #[false, true, true, false, true, false, false, true, true, false, false, true, false, true, true, false] := by
  decide +kernel

end Dsw
