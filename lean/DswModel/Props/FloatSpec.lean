import DswModel.Model.Float
import DswModel.Lemmas.FloatRound
import DswModel.Lemmas.FloatSpecLog
import DswModel.Lemmas.FloatSpecPos
import DswModel.Lemmas.FloatSpecDouble
/-!
# The rounding model against the IEEE-754 binary64 specification (round to nearest, ties to even)

`Model/Float.lean` is executable and is validated against CPython on every run (driver operation `fop`). These
theorems say what it computes, independently of CPython: the result is a binary64 value (at most 53 significant bits,
exponent of the last place ≥ −1074, magnitude below 2^1024), no binary64 value is nearer to the exact input, a tie is
resolved to the even significand, and `none` is returned exactly beyond the overflow threshold `(2^53 − 1/2)·2^971`.
All statements are about integers (cross-multiplied), no real numbers.

`IsB64 num den`: the fraction `num/den` is a finite binary64 value: `|num|/den = m·2^e` with `m < 2^53`,
`−1074 ≤ e ≤ 971`.
-/
namespace Dsw

/-- `a / b = m * 2^e` for naturals, `e` an integer exponent (cross-multiplied). -/
def EqPow2 (a b m : Nat) (e : Int) : Prop :=
  if e ≥ 0 then a = m * 2 ^ e.toNat * b else a * 2 ^ (-e).toNat = m * b

def IsB64 (num : Int) (den : Nat) : Prop :=
  0 < den ∧ ∃ (m : Nat) (e : Int), m < 2 ^ 53 ∧ -1074 ≤ e ∧ e ≤ 971 ∧ EqPow2 num.natAbs den m e

/-- `ratLog2` is the floor of the binary logarithm of a positive fraction: `2^L ≤ n/d < 2^(L+1)`. -/
theorem ratLog2_spec (n d : Nat) (hn : 0 < n) (hd : 0 < d) :
    (if ratLog2 n d ≥ 0 then d * 2 ^ (ratLog2 n d).toNat ≤ n else d ≤ n * 2 ^ (-(ratLog2 n d)).toNat) ∧
    (if ratLog2 n d + 1 ≥ 0 then n < d * 2 ^ (ratLog2 n d + 1).toNat else n * 2 ^ (-(ratLog2 n d + 1)).toNat < d) := by
  exact ratLog2_spec' n d hn hd

/-- the positive core: `roundPos n d = (m, e)` with `e` the exponent of the last place (`≥ −1074`), a significand of at
most 53 bits (`m ≤ 2^53`, where `2^53` only arises by rounding up and is `2^52·2^(e+1)`), a normalised significand
unless subnormal, an error of at most half a unit in the last place, and an even significand on a tie.
(`2·|n/d − m·2^e| ≤ 2^e`, cross-multiplied, with `S = 2^e` split into numerator/denominator by the sign of `e`.) -/
theorem roundPos_spec (n d : Nat) (hn : 0 < n) (hd : 0 < d) :
    let m := (roundPos n d).1
    let e := (roundPos n d).2
    ((-1074 : Int) ≤ e) ∧ m ≤ 2 ^ 53 ∧ (-1074 < e → 2 ^ 52 ≤ m) ∧
    (if e ≥ 0 then
        (2 * (n - m * 2 ^ e.toNat * d : Int).natAbs ≤ 2 ^ e.toNat * d) ∧
        (2 * (n - m * 2 ^ e.toNat * d : Int).natAbs = 2 ^ e.toNat * d → m % 2 = 0)
     else
        (2 * (n * 2 ^ (-e).toNat - m * d : Int).natAbs ≤ d) ∧
        (2 * (n * 2 ^ (-e).toNat - m * d : Int).natAbs = d → m % 2 = 0)) := by
  obtain ⟨k, S⟩ := roundPos_posSpec n d hn hd
  have hk := S.hk
  refine ⟨by omega, S.m_le, fun h => S.m_ge (by omega), ?_⟩
  rw [roundPos_eq]
  simp only
  generalize max (ratLog2 n d - 52) (-1074) = e
  by_cases hneg : e < 0
  · have h1 : ¬ e ≥ 0 := by omega
    rw [if_pos hneg, if_pos hneg, if_neg h1]
    obtain ⟨s1, s2, s3⟩ := rne_spec (num := n * 2 ^ (-e).toNat) (den := d) hd
    exact_mod_cast half_natAbs s1 s2 s3
  · have h1 : e ≥ 0 := by omega
    rw [if_neg hneg, if_neg hneg, if_pos h1]
    obtain ⟨s1, s2, s3⟩ := rne_spec (num := n) (den := d * 2 ^ e.toNat) (Nat.mul_pos hd (Nat.two_pow_pos _))
    generalize rne n (d * 2 ^ e.toNat) = m at s1 s2 s3 ⊢
    rw [Nat.mul_comm d, ← Nat.mul_assoc m] at s1 s2 s3
    exact_mod_cast half_natAbs s1 s2 s3

/-- every result is a finite binary64 value. -/
theorem roundDouble_isB64 (num : Int) (den : Nat) (r : Dbl) (hden : 0 < den) (h : roundDouble num den = some r) :
    IsB64 r.num r.den := by
  unfold IsB64 EqPow2
  by_cases hnum : num = 0
  · subst hnum
    rw [roundDouble_zero] at h
    cases h
    exact ⟨Nat.one_pos, 0, 0, by omega, by omega, by omega, by simp⟩
  · obtain ⟨m, e, k, S, hcase⟩ := roundDouble_shape hnum hden
    rcases hcase with ⟨_, h2⟩ | ⟨hov, h2⟩
    · rw [h2] at h; cases h
    · rw [h2] at h
      cases h
      simp only [sign_natAbs]
      refine ⟨magDen_pos _, ?_⟩
      unfold Ovf at hov
      have hk := S.hk
      have hmle := S.m_le
      by_cases hm : m < 2 ^ 53
      · exact ⟨m, e, hm, by omega, by omega, mag_eqPow2 m e⟩
      · have hm53 : m = 2 ^ 53 := by omega
        subst hm53
        exact ⟨2 ^ 52, e + 1, by omega, by omega, by omega, eqPow2_renorm (mag_eqPow2 _ e)⟩

/-- the sign is kept: the result of a non-negative input is non-negative, of a non-positive input non-positive. -/
theorem roundDouble_sign (num : Int) (den : Nat) (r : Dbl) (h : roundDouble num den = some r) :
    (0 ≤ num → 0 ≤ r.num) ∧ (num ≤ 0 → r.num ≤ 0) := by
  by_cases h0 : num = 0 ∨ den = 0
  · rw [roundDouble_of_zero h0] at h
    cases h
    exact ⟨fun _ => Int.le_refl 0, fun _ => Int.le_refl 0⟩
  · obtain ⟨h1, _⟩ := roundDouble_some (by omega) (by omega) h
    rw [h1]
    have hm : (0 : Int) ≤ (magNum (roundPos num.natAbs den) : Int) := Int.natCast_nonneg _
    constructor
    · intro hn
      have : ¬ num < 0 := by omega
      simp only [this, if_false]
      omega
    · intro hn
      have : num < 0 := by omega
      simp only [this, if_true]
      omega

/-- ROUND TO NEAREST: no finite binary64 value `y = yn/yd` is strictly nearer to `num/den` than the result `r`:
`|num/den − r| ≤ |num/den − y|`, cross-multiplied. -/
theorem roundDouble_nearest (num : Int) (den : Nat) (r : Dbl) (hden : 0 < den) (h : roundDouble num den = some r)
    (yn : Int) (yd : Nat) (hy : IsB64 yn yd) :
    (num * r.den - r.num * den).natAbs * yd ≤ (num * yd - yn * den).natAbs * r.den := by
  obtain ⟨_, m', e', hm', he1, _, hy⟩ := hy
  rcases Int.lt_trichotomy num 0 with hneg | hz | hpos
  · have h' := roundDouble_neg h
    have := roundDouble_nearest_pos (-num) den ⟨-r.num, r.den⟩ hden (by omega) h' (-yn) yd m' e' hm' he1
      (by rw [Int.natAbs_neg]; exact hy)
    simp only at this
    have e1 : -num * (r.den : Int) - -r.num * (den : Int) = -(num * r.den - r.num * den) := by ring
    have e2 : -num * (yd : Int) - -yn * (den : Int) = -(num * yd - yn * den) := by ring
    rw [e1, e2, Int.natAbs_neg, Int.natAbs_neg] at this
    exact this
  · subst hz
    rw [roundDouble_zero] at h
    cases h
    simp
  · exact roundDouble_nearest_pos num den r hden hpos h yn yd m' e' hm' he1 hy

/-- OVERFLOW: `none` exactly when the magnitude reaches the threshold `(2^54 − 1)·2^970 = (2^53 − 1/2)·2^971`, where
IEEE round-to-nearest gives infinity. -/
theorem roundDouble_none_iff (num : Int) (den : Nat) (hden : 0 < den) :
    roundDouble num den = none ↔ (2 ^ 54 - 1) * 2 ^ 970 * den ≤ num.natAbs := by
  by_cases hnum : num = 0
  · subst hnum
    rw [roundDouble_zero]
    have h1 : 0 < (2 ^ 54 - 1) * 2 ^ 970 * den :=
      Nat.mul_pos (Nat.mul_pos (by omega) (Nat.two_pow_pos 970)) hden
    constructor
    · intro h; cases h
    · intro h; exact absurd (Nat.lt_of_lt_of_le h1 h) (Nat.lt_irrefl 0)
  · obtain ⟨m, e, k, S, hcase⟩ := roundDouble_shape hnum hden
    rw [← ovf_iff_thr (a := 970) (by omega) hden S]
    rcases hcase with ⟨h1, h2⟩ | ⟨h1, h2⟩
    · rw [h2]; exact ⟨fun _ => h1, fun _ => rfl⟩
    · rw [h2]
      constructor
      · intro hh; cases hh
      · intro hh; exact absurd hh h1

/-- `y ≤ num/den → y ≤ fl(num/den)` for a binary64 value `y`: were the result below `y`, `y` would be nearer. -/
theorem roundDouble_ge_of_isB64 {num : Int} {den : Nat} {r : Dbl} (hden : 0 < den) (hr : roundDouble num den = some r)
    {yn : Int} {yd : Nat} (hy : IsB64 yn yd) (h : yn * den ≤ num * yd) : yn * r.den ≤ r.num * yd := by
  have hn := roundDouble_nearest num den r hden hr yn yd hy
  have hyd := hy.1
  by_contra hc
  have hpos : 0 < (den : Int) * (yn * r.den - r.num * yd) := Int.mul_pos (by omega) (by omega)
  have key : (num * r.den - r.num * den) * yd =
      (num * yd - yn * den) * r.den + den * (yn * r.den - r.num * yd) := by ring
  have h1 : (num * r.den - r.num * den) * yd ≤ ((num * r.den - r.num * den).natAbs : Int) * yd :=
    Int.mul_le_mul_of_nonneg_right Int.le_natAbs (by omega)
  have h2 : ((num * yd - yn * den).natAbs : Int) = num * yd - yn * den := Int.natAbs_of_nonneg (by omega)
  have hn' : ((num * r.den - r.num * den).natAbs : Int) * yd ≤ ((num * yd - yn * den).natAbs : Int) * r.den := by
    exact_mod_cast hn
  rw [h2] at hn'
  omega

theorem roundDouble_le_of_isB64 {num : Int} {den : Nat} {r : Dbl} (hden : 0 < den) (hr : roundDouble num den = some r)
    {yn : Int} {yd : Nat} (hy : IsB64 yn yd) (h : num * yd ≤ yn * den) : r.num * yd ≤ yn * r.den := by
  have hy' : IsB64 (-yn) yd := by rwa [IsB64, Int.natAbs_neg]
  have := roundDouble_ge_of_isB64 hden (roundDouble_neg hr) hy' (by rw [Int.neg_mul, Int.neg_mul]; omega)
  dsimp only at this
  rw [Int.neg_mul, Int.neg_mul] at this
  omega

/-- a value that already is a binary64 value is returned unchanged (as a fraction). -/
theorem roundDouble_of_isB64 (num : Int) (den : Nat) (h : IsB64 num den) :
    ∃ r, roundDouble num den = some r ∧ r.num * den = num * r.den := by
  have hB := h
  obtain ⟨hden, m', e', hm', he1, he2, hy⟩ := h
  have hsome : roundDouble num den ≠ none := by
    intro hnone
    have hthr := (roundDouble_none_iff num den hden).1 hnone
    obtain ⟨k', hk'⟩ : ∃ k' : Nat, e' = (k' : Int) - ((1074 : Nat) : Int) := ⟨(e' + 1074).toNat, by omega⟩
    have F2 := eqPow2_scaled 1074 k' hk' hy
    exact below_thr (a := 970) hden hm' (by omega) F2 hthr
  cases hr : roundDouble num den with
  | none => exact absurd hr hsome
  | some r =>
    exact ⟨r, rfl, Int.le_antisymm (roundDouble_le_of_isB64 hden hr hB (Int.le_refl _))
      (roundDouble_ge_of_isB64 hden hr hB (Int.le_refl _))⟩

/-- integers of magnitude at most `2^53` are binary64 values (`2^53` itself is `2^52 · 2^1`). -/
theorem isB64_int (n : Int) (hn : n.natAbs ≤ 2 ^ 53) : IsB64 n 1 := by
  by_cases h : n.natAbs < 2 ^ 53
  · exact ⟨Nat.one_pos, n.natAbs, 0, h, by omega, by omega, by simp [EqPow2]⟩
  · refine ⟨Nat.one_pos, 2 ^ 52, 1, by omega, by omega, by omega, ?_⟩
    unfold EqPow2
    rw [if_pos (by omega)]
    show n.natAbs = 2 ^ 52 * 2 ^ 1 * 1
    omega

theorem roundDouble_ge_int (n num : Int) (den : Nat) (r : Dbl) (hden : 0 < den) (hn : n.natAbs ≤ 2 ^ 53)
    (h : n * den ≤ num) (hr : roundDouble num den = some r) : n * r.den ≤ r.num := by
  have := roundDouble_ge_of_isB64 hden hr (isB64_int n hn) (by rwa [Nat.cast_one, Int.mul_one])
  rwa [Nat.cast_one, Int.mul_one] at this

theorem roundDouble_le_int (n num : Int) (den : Nat) (r : Dbl) (hden : 0 < den) (hn : n.natAbs ≤ 2 ^ 53)
    (h : num ≤ n * den) (hr : roundDouble num den = some r) : r.num ≤ n * r.den := by
  have := roundDouble_le_of_isB64 hden hr (isB64_int n hn) (by rwa [Nat.cast_one, Int.mul_one])
  rwa [Nat.cast_one, Int.mul_one] at this

theorem roundDouble_defined {num : Int} {den : Nat} (hden : 0 < den) (h : num.natAbs ≤ 2 ^ 53 * den) :
    ∃ r, roundDouble num den = some r := by
  cases hr : roundDouble num den with
  | some r => exact ⟨r, rfl⟩
  | none =>
    have h1 := (roundDouble_none_iff num den hden).1 hr
    have h2 : (2 ^ 54 - 1) * den ≤ (2 ^ 54 - 1) * 2 ^ 970 * den :=
      Nat.mul_le_mul_right _ (Nat.le_mul_of_pos_right _ (Nat.two_pow_pos 970))
    have h3 : (2 ^ 54 - 1) * den ≤ 2 ^ 53 * den := Nat.le_trans (Nat.le_trans h2 h1) h
    omega

theorem roundDouble_range {num : Int} {den : Nat} {j : Int} (hden : 0 < den) (hj : j ≤ 2 ^ 53) (h0 : 0 ≤ num)
    (h1 : num ≤ j * den) :
    ∃ r, roundDouble num den = some r ∧ 0 < r.den ∧ 0 ≤ r.num ∧ r.num ≤ j * r.den := by
  have hj0 : 0 ≤ j := by
    by_contra hc
    have := Int.mul_neg_of_neg_of_pos (Int.not_le.1 hc) (Int.natCast_pos.2 hden)
    omega
  have hna : num.natAbs ≤ 2 ^ 53 * den := by
    have := Int.le_trans h1 (Int.mul_le_mul_of_nonneg_right hj (Int.natCast_nonneg den))
    omega
  obtain ⟨r, hr⟩ := roundDouble_defined hden hna
  have g0 := roundDouble_ge_int 0 num den r hden (by decide) (by rwa [Int.zero_mul]) hr
  rw [Int.zero_mul] at g0
  exact ⟨r, hr, roundDouble_den_pos hr, g0, roundDouble_le_int j num den r hden (by omega) h1 hr⟩

theorem roundDouble_int_exact (n : Int) (hn : n.natAbs ≤ 2 ^ 53) :
    ∃ r, roundDouble n 1 = some r ∧ r.num = n * r.den ∧ 0 < r.den := by
  obtain ⟨r, hr, h⟩ := roundDouble_of_isB64 n 1 (isB64_int n hn)
  rw [Nat.cast_one, Int.mul_one] at h
  exact ⟨r, hr, h, roundDouble_den_pos hr⟩

end Dsw
