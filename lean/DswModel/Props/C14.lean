import DswModel.Model.Spiderweb
import DswModel.Lemmas.Defs
import DswModel.Lemmas.DeBruijn
import DswModel.Lemmas.Convert3
/-!
# C14 — the three graph representations are interchangeable

`WFdB k a` = `a` is an arc subset of the order-`k` de Bruijn graph (any arc subset, not only
complete or vertex-induced ones). The lemmas about the converters are in
`DswModel/Lemmas/Convert3.lean`.
-/
namespace Dsw

/-- accessor → latter map → accessor is the identity. -/
theorem C14_latter_map_roundtrip (k : Nat) (a : Acc) (hk : 1 ≤ k) (h : WFdB k a) :
    latterMapToAccessor (accessorToLatterMap a) k none = .ok a :=
  latterMap_roundtrip k a hk h

/-- accessor → adjacency matrix → accessor is the identity. -/
theorem C14_matrix_roundtrip (k : Nat) (a : Acc) (hk : 1 ≤ k) (h : WFdB k a) :
    ∃ mx, accessorToAdjacencyMatrix a = .ok mx ∧ adjacencyMatrixToAccessor mx = .ok a := by
  refine ⟨adjRows a, h.adjMatrix_ok, ?_⟩
  have hs : (adjRows a).size = 4 ^ k := by rw [adjRows_size, h.1]
  have hok := adjacencyMatrixToAccessor_eq k _ hs
  rw [if_pos] at hok
  · rw [hok]
    congr 1
    apply wfdb_ext_live (wfdb_adjacencyMatrixToAccessor k _ _ hs hok) h
    intro v j hv hj
    have hv' : v < (List.range (4 ^ k)).length := List.length_range ▸ hv
    rw [Acc.ent_natCast, getD_map_toArray _ _ _ _ hv', List.getElem_range, mxRow_nonneg k _ v j hj,
      h.mem_mxNext hv, h.succ_mem_liveEntries hk hv hj]
  · rw [List.all_eq_true]
    intro v hv
    rw [List.mem_range] at hv
    exact (mxLegal_iff k _ v).2 fun w hw => h.liveEntries_sub hv w ((h.mem_mxNext hv w).1 hw)

/-- the latter map lists exactly the live successors (in column order) of exactly the vertices
that have any, in increasing vertex order. -/
theorem C14_latter_map_content (k : Nat) (a : Acc) (h : WFdB k a) :
    (accessorToLatterMap a).map (·.1) = (List.range (4 ^ k)).filter (fun (v : Nat) => decide (a.live (v : Int) ≠ [])) ∧
    ∀ (v : Nat) ls, (v, ls) ∈ accessorToLatterMap a → ls = (a.live (v : Int)).map fun j => (v * 4 + j) % 4 ^ k := by
  unfold accessorToLatterMap
  constructor
  · rw [← h.obtainVertices_eq, List.map_map]
    exact List.map_id _
  · intro v ls hmem
    obtain ⟨u, hu, he⟩ := List.mem_map.1 hmem
    obtain ⟨rfl, rfl⟩ := Prod.mk.inj he
    exact h.liveEntries_eq ((h.mem_obtainVertices u).1 hu).1

/-- the matrix has a 1 exactly at the arcs. -/
theorem C14_matrix_content (k : Nat) (a : Acc) (mx : Matrix) (h : WFdB k a)
    (hm : accessorToAdjacencyMatrix a = .ok mx) :
    mx.size = 4 ^ k ∧ ∀ u w, u < 4 ^ k → w < 4 ^ k →
      ((mx.getD u #[]).getD w 0 = 1 ↔ ∃ j, j < 4 ∧ a.ent u j = (w : Int)) ∧
      ((mx.getD u #[]).getD w 0 = 0 ∨ (mx.getD u #[]).getD w 0 = 1) := by
  obtain rfl : adjRows a = mx := Except.ok.inj (h.adjMatrix_ok.symm.trans hm)
  rw [← h.1]
  refine ⟨adjRows_size a, fun u w hu hw => ?_⟩
  rw [adjRows_getD a u w hu, ← Acc.mem_liveEntries, ite_one_zero_eq_one]
  refine ⟨⟨And.left, fun hm => ⟨hm, hw⟩⟩, ?_⟩
  by_cases hp : w ∈ a.liveEntries (u : Int) ∧ w < a.size
  · exact Or.inr hp
  · exact Or.inl (if_neg hp)

/-- vertex listing returns exactly the vertices with arcs. -/
theorem C14_vertices (k : Nat) (a : Acc) (h : WFdB k a) :
    obtainVertices a = (List.range (4 ^ k)).filter (fun (v : Nat) => decide (a.live (v : Int) ≠ [])) :=
  h.obtainVertices_eq

/-- end points of all `d`-step walks from `v`, as a list (multiset semantics via `List.Perm`). -/
def walkEnds (a : Acc) : Nat → Nat → List Nat
  | 0, v => [v]
  | d + 1, v => (a.liveEntries v).flatMap fun w => walkEnds a d w

/-- depth-d leaf queries give the same list from either representation, equal (as a multiset) to
the end points of all d-step walks. -/
theorem C14_leaves (k : Nat) (a : Acc) (v d : Nat) (h : WFdB k a) (hv : v < 4 ^ k) :
    obtainLeafVertices v d (some a) none = .ok (leafAcc a d [v]) ∧
    obtainLeafVertices v d none (some (accessorToLatterMap a)) = .ok (leafAcc a d [v]) ∧
    (leafAcc a d [v]).Perm (walkEnds a d v) := by
  have _ := hv
  refine ⟨rfl, ?_, ?_⟩
  · have hm : ∀ d branch, leafMap (accessorToLatterMap a) d branch = leafAcc a d branch := by
      intro d
      induction d with
      | zero => exact fun _ => rfl
      | succ d ih =>
        intro branch
        unfold leafMap leafAcc
        rw [funext h.latterMap_get?, ih]
    exact congrArg Except.ok (hm d [v])
  · have hw : ∀ d branch, leafAcc a d branch = branch.flatMap (walkEnds a d) := by
      intro d
      induction d with
      | zero => exact fun branch => (List.flatMap_singleton' branch).symm
      | succ d ih =>
        intro branch
        unfold leafAcc
        rw [ih, List.flatMap_assoc]
        rfl
    rw [hw d [v], List.flatMap_singleton]

/-- a matrix containing any arc that is not a de Bruijn shift is rejected with `ValueError`. -/
theorem C14_illegal_matrix (k : Nat) (mx : Matrix) (u w : Nat) (hs : mx.size = 4 ^ k)
    (hu : u < 4 ^ k) (hw : w < (mx.getD u #[]).size) (h1 : (mx.getD u #[]).getD w 0 = 1)
    (hnot : w ∉ obtainLatters k u) :
    adjacencyMatrixToAccessor mx = .error .valueError := by
  have _ := hw
  rw [adjacencyMatrixToAccessor_eq k mx hs, if_neg]
  intro hall
  have := List.all_eq_true.1 hall u (List.mem_range.2 hu)
  exact hnot ((mxLegal_iff k mx u).1 this w ((mem_mxNext mx u w).2 h1))

example : latterMapToAccessor (accessorToLatterMap gcBalanced2) 2 none = .ok gcBalanced2 := by decide +kernel
example : wfdbB 2 gcBalanced2 = true := wfdbB_gcBalanced2

end Dsw
