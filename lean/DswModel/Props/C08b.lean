import DswModel.Model.Spiderweb
import DswModel.Lemmas.Defs
import DswModel.Lemmas.Repair
/-!
# C08 (continued) — `path_matching` as a public function: exactly the single-edit repairs that
walk the rest of the chunk

The closed form `pathMatching_eq` and membership in its two candidate lists are in
`DswModel/Lemmas/Repair.lean`.
-/
namespace Dsw

/-- what a record claims: the fragment is the chunk with that edit applied at `occ`, the edit uses
a live arc of the previous vertex (substitution: different from the original symbol), and the rest
of the chunk is a walk from the vertex the repaired symbol leads to. -/
def RecordValid (a : Acc) (chunk : List Char) (prev : Int) (occ : Nat) (r : RepairInfo) : Prop :=
  r.loc = occ ∧
  match r.kind with
  | .S => (∃ j, j ∈ a.live prev ∧ r.nuc = nucChar j) ∧ chunk[occ]? ≠ some r.nuc ∧
          r.fragment = chunk.set occ r.nuc ∧
          isWalk a (a.ent prev ((nucIdx r.nuc).getD 0)) (chunk.drop (occ + 1)) = true
  | .I => (∃ j, j ∈ a.live prev ∧ r.nuc = nucChar j) ∧
          r.fragment = chunk.take occ ++ [r.nuc] ++ chunk.drop occ ∧
          isWalk a (a.ent prev ((nucIdx r.nuc).getD 0)) (chunk.drop occ) = true
  | .D => chunk[occ]? = some r.nuc ∧
          r.fragment = chunk.take occ ++ chunk.drop (occ + 1) ∧
          isWalk a prev (chunk.drop (occ + 1)) = true

/-- the records returned by a successful `pathMatching` are exactly the valid ones (indel records
only with `indel = true`, Python's `has_indel`). -/
theorem mem_pathMatching_iff {a : Acc} {chunk : List Char} {prev : Int} {occ : Nat} {indel : Bool}
    {recs : List RepairInfo} {n : Nat} (h : pathMatching a chunk prev occ indel = .ok (recs, n))
    (r : RepairInfo) :
    r ∈ recs ↔ RecordValid a chunk prev occ r ∧ (r.kind ≠ .S → indel = true) := by
  obtain ⟨o, ho⟩ : ∃ o, chunk[occ]? = some o :=
    ⟨_, List.getElem?_eq_getElem (pathMatching_ok_lt h)⟩
  rw [show recs = _ from congrArg Prod.fst (Except.ok.inj (h.symm.trans
    (pathMatching_eq a chunk prev occ indel o ho)))]
  clear h
  constructor
  · intro hr
    rcases List.mem_append.mp hr with hr | hr
    · obtain ⟨x, hx, rfl⟩ := List.mem_map.mp hr
      obtain ⟨hj, hxo, hw⟩ := (mem_pmSubs ..).mp hx
      exact ⟨⟨rfl, hj, fun e => hxo (Option.some.inj (ho.symm.trans e)).symm, rfl, hw⟩,
        fun hk => absurd rfl hk⟩
    · split at hr
      · rename_i hi
        refine ⟨?_, fun _ => hi⟩
        rcases List.mem_append.mp hr with hr | hr
        · obtain ⟨x, hx, rfl⟩ := List.mem_map.mp hr
          obtain ⟨hj, hw⟩ := (mem_pmIns ..).mp hx
          exact ⟨rfl, hj, rfl, hw⟩
        · split at hr
          · rename_i hw
            rw [List.mem_singleton.mp hr]
            exact ⟨rfl, ho, rfl, hw⟩
          · cases hr
      · cases hr
  · obtain ⟨kind, loc, nuc, frag⟩ := r
    dsimp only [RecordValid]
    rintro ⟨⟨rfl, hv⟩, hi⟩
    cases kind with
    | S =>
      obtain ⟨hj, hxo, rfl, hw⟩ := hv
      exact List.mem_append_left _ (List.mem_map.mpr
        ⟨nuc, (mem_pmSubs ..).mpr ⟨hj, fun e => hxo (e ▸ ho), hw⟩, rfl⟩)
    | I =>
      obtain ⟨hj, rfl, hw⟩ := hv
      rw [hi nofun, if_pos rfl]
      exact List.mem_append_right _ (List.mem_append_left _ (List.mem_map.mpr
        ⟨nuc, (mem_pmIns ..).mpr ⟨hj, hw⟩, rfl⟩))
    | D =>
      obtain ⟨hx, rfl, hw⟩ := hv
      cases Option.some.inj (ho.symm.trans hx)
      rw [hi nofun, if_pos rfl, if_pos hw]
      exact List.mem_append_right _ (List.mem_append_right _ (List.mem_singleton.mpr rfl))

/-- soundness: every returned record is a valid single-edit repair; indel records only with
`has_indel`. -/
theorem C08_path_matching_sound (a : Acc) (chunk : List Char) (prev : Int) (occ : Nat) (indel : Bool)
    (recs : List RepairInfo) (n : Nat) (h : pathMatching a chunk prev occ indel = .ok (recs, n)) :
    ∀ r ∈ recs, RecordValid a chunk prev occ r ∧ (r.kind ≠ .S → indel = true) :=
  fun r hr => (mem_pathMatching_iff h r).mp hr

/-- completeness: every valid single-edit repair at `occ` is returned (substitutions always,
insertions and the deletion when `has_indel`). -/
theorem C08_path_matching_complete (a : Acc) (chunk : List Char) (prev : Int) (occ : Nat) (indel : Bool)
    (recs : List RepairInfo) (n : Nat) (h : pathMatching a chunk prev occ indel = .ok (recs, n))
    (r : RepairInfo) (hr : RecordValid a chunk prev occ r) (hk : r.kind = .S ∨ indel = true) :
    r ∈ recs := by
  refine (mem_pathMatching_iff h r).mpr ⟨hr, fun hne => ?_⟩
  rcases hk with hk | hk
  · exact absurd hk hne
  · exact hk

/-- the call raises (`IndexError`) exactly when the position is outside the chunk, and nothing
else. -/
theorem C08_path_matching_error (a : Acc) (chunk : List Char) (prev : Int) (occ : Nat) (indel : Bool) :
    (chunk.length ≤ occ → pathMatching a chunk prev occ indel = .error .indexError) ∧
    (occ < chunk.length → ∃ r, pathMatching a chunk prev occ indel = .ok r) := by
  refine ⟨fun hge => ?_, pathMatching_total a chunk prev occ indel⟩
  simp [pathMatching, List.getElem?_eq_none hge]

example : (pathMatching gcBalanced2 "TCTCTATCTCT".toList 7 5 true).toOption.map (fun r => r.1.map (·.fragment)) =
    some ["TCTCTCTCTCT".toList, "TCTCTGTCTCT".toList] := by decide +kernel

end Dsw
