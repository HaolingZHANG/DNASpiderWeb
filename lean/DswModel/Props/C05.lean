import DswModel.Lemmas.CoderFast
/-!
# C05 — the strand is the documented mixed-radix walk, independent of implementation

`IsEncoding a tbl v val s` (in `CoderDefs`) is the published scheme stated declaratively with the
*documented* digit of an arc, `arcRank` (number of live arcs with a smaller key). The theorems
need the table rows to have distinct entries on the live columns at the vertices visited
(`DistinctKeys`, true for every permutation table and without a table).
-/
namespace Dsw

/-- distinct keys at every vertex (what "rows are permutations" gives). -/
def AllDistinct (a : Acc) (tbl : Option Tbl) : Prop := ∀ v, DistinctKeys a tbl v

/-- normal mode: whatever `encode` returns is the walk of the published scheme for the message
value. -/
theorem C05_encode_meets_spec (a : Acc) (tbl : Option Tbl) (v : Int) (bits : List Nat) (vtLen fuel : Nat)
    (s : List Char) (c : Option (List Char)) (hb : IsBits bits) (hd : AllDistinct a tbl)
    (h : encode a tbl v bits false vtLen fuel = .ok (s, c)) :
    IsEncoding a tbl v (bitToNumberInt bits) s := by
  exact (isEncoding_iff a tbl hd v _ s).2
    (encodeNat_spec a tbl _ _ _ _ (encode_normal_ok hb h).1)

/-- the scheme determines the strand: two strands meeting the specification for the same value
from the same vertex are equal — so the strand is *the* walk of the scheme, whatever the
implementation. -/
theorem C05_spec_unique (a : Acc) (tbl : Option Tbl) (v : Int) (val : Nat) (s s' : List Char)
    (hd : AllDistinct a tbl) (h : IsEncoding a tbl v val s) (h' : IsEncoding a tbl v val s') : s = s' := by
  obtain ⟨w, e, t⟩ := (isEncoding_iff a tbl hd v val s).1 h
  obtain ⟨w', e', t'⟩ := (isEncoding_iff a tbl hd v val s').1 h'
  exact tight_unique a tbl s v s' w t w' t' (e.trans e'.symm)

/-- decoding any walk whose digit sequence has a value that fits in `L` bits returns that value
big-endian at width `L` (and, in general, the `L`-symbol rendering of the value). -/
theorem C05_decode_value (a : Acc) (tbl : Option Tbl) (v : Int) (s : List Char) (L : Nat)
    (hd : AllDistinct a tbl) (hw : isWalk a v s = true) :
    decode a tbl v s L false none = .ok (numberToBitInt (walkValue a tbl v s) L) := by
  rw [decode_normal_ok a tbl v s L none hw rfl, walkValueD_eq_walkValue a tbl hd s v hw]

/-- fast mode: the bits carried by the emitted strand are the message followed by at most one
padding zero, and the strand is a walk. -/
theorem C05_fast_meets_spec (a : Acc) (tbl : Option Tbl) (v : Int) (bits : List Nat) (vtLen fuel : Nat)
    (s : List Char) (c : Option (List Char)) (hb : IsBits bits) (hd : AllDistinct a tbl)
    (h : encode a tbl v bits true vtLen fuel = .ok (s, c)) :
    isWalk a v s = true ∧ (walkBits a tbl v s = bits ∨ walkBits a tbl v s = bits ++ [0]) := by
  obtain ⟨hw, _, hbits, _⟩ := encodeFastLoop_spec a tbl fuel v bits s hb (encode_fast_ok h).1
  rw [walkBitsD_eq_walkBits a tbl hd v s hw] at hbits
  exact ⟨hw, hbits⟩

/-- fast mode decoding of a walk without out-degree-3 vertices whose bits fit: the carried bits,
zero-padded to `L`. -/
theorem C05_fast_decode_value (a : Acc) (tbl : Option Tbl) (v : Int) (s : List Char) (L : Nat)
    (hd : AllDistinct a tbl) (hw : isWalk a v s = true)
    (h3 : ∀ i, i < s.length → a.outDeg (walkEnd a v (s.take i)) ≠ 3)
    (hL : (walkBits a tbl v s).length ≤ L) :
    decode a tbl v s L true none =
      .ok (walkBits a tbl v s ++ List.replicate (L - (walkBits a tbl v s).length) 0) := by
  have hp := walkablePrefix_of_isWalk a v s hw
  rw [← walkBitsD_eq_walkBits a tbl hd v s hw] at hL ⊢
  rw [decode_fast_eq rfl, decodeFastLoop_spec a tbl L s v 0 (by rw [hp]; exact h3)
    (by rw [hp]; omega), if_pos hw]
  rfl

example : IsEncoding gcBalanced2 none 1 85 "TCTCTCT".toList := by
  exact C05_encode_meets_spec gcBalanced2 none 1 [0, 1, 0, 1, 0, 1, 0, 1] 0 200 _ none
    (by unfold IsBits; decide) (fun v => distinctKeys_none _ v) (by decide +kernel)
example : encode gcBalanced2 none 1 [0, 1, 0, 1, 0, 1, 0, 1] false 0 200 = .ok ("TCTCTCT".toList, none) := by
  decide +kernel

end Dsw
