import DswModel.Model.Spiderweb
import DswModel.Model.Biofilter
import DswModel.Model.Capacity
/-!
# C20 — library calls are stateless and never modify their arguments  (translation validation)

The Lean model IS the stateless specification: every public call of `dsw` is a pure function of
its arguments, there is no hidden state to thread and `verbose` is not an argument of any model
function. The theorems below make that refinement claim explicit; they carry no difficulty.
What DECIDES the property for the implementation is the history correspondence of the harness
(random interleavings on shared argument objects, bit-for-bit argument snapshots, verbose on/off,
every in-history result compared with the isolated call and with the model) — object mutation and
module state are CPython facts no Lean model exhibits.
-/
namespace Dsw

/-- the public calls a history may contain (arguments are immutable values). -/
inductive Op where
  | encode (a : Acc) (tbl : Option Tbl) (v : Int) (bits : List Nat) (fast : Bool) (vtLen : Nat)
  | decode (a : Acc) (tbl : Option Tbl) (v : Int) (s : List Char) (L : Nat) (fast : Bool) (chk : Option (List Char))
  | setVt (s : List Char) (n : Nat)
  | repair (a : Acc) (s : List Char) (v : Int) (k : Nat) (chk : Option (List Char)) (indel : Bool) (heap : Nat)
  | toLatterMap (a : Acc)
  | toAccessor (m : LMap) (k : Nat) (t : Option Nat)
  | toMatrix (a : Acc)
  | vertices (a : Acc)
  | leaves (a : Acc) (v d : Nat)
  | scores (m : LMap) (k : Nat) (ins del : Bool)
  | validGraph (k : Nat) (m : Mask)
  | codingGraph (k : Nat) (m : Mask) (t : Nat)
  | removeUseless (m : LMap) (t : Nat)
  | bitsToNumber (bits : List Nat)
  | filterValid (c : FilterCfg) (s : List Char) (onlyLast : Bool)

/-- canonical rendering of a result (what the harness compares). -/
inductive Out where
  | strand (r : R (List Char × Option (List Char)))
  | bits (r : R (List Nat))
  | dna (r : R (List Char))
  | repaired (r : R (List (List Char) × RepairStats))
  | lmap (m : LMap)
  | acc (r : R Acc)
  | matrix (r : R Matrix)
  | nats (l : List Nat)
  | table (t : Array (Array Nat))
  | graph (r : R (List Nat × Acc))
  | rlmap (r : R LMap)
  | dec (d : Dec)
  | bool (b : Bool)

/-- the stateless specification: one call, no state in, no state out. -/
def evalOp : Op → Out
  | .encode a tbl v bits fast vtLen => .strand (encode a tbl v bits fast vtLen (encodeFuel a bits))
  | .decode a tbl v s L fast chk => .bits (decode a tbl v s L fast chk)
  | .setVt s n => .dna (setVt s n)
  | .repair a s v k chk indel heap => .repaired (repairDna a s v k chk indel heap)
  | .toLatterMap a => .lmap (accessorToLatterMap a)
  | .toAccessor m k t => .acc (latterMapToAccessor m k t)
  | .toMatrix a => .matrix (accessorToAdjacencyMatrix a)
  | .vertices a => .nats (obtainVertices a)
  | .leaves a v d => .nats (leafAcc a d [v])
  | .scores m k ins del => .table (calculateIntersectionScore m k ins del)
  | .validGraph k m => .acc (connectValidGraph k (some m))
  | .codingGraph k m t => .graph (connectCodingGraph k m t)
  | .removeUseless m t => .rlmap (removeUseless m t)
  | .bitsToNumber bits => .dec (bitToNumberStr bits)
  | .filterValid c s onlyLast => .bool (c.valid s onlyLast)

def runHistory (ops : List Op) : List Out := ops.map evalOp

/-- every call in any history returns what the same call returns in isolation, whatever precedes
and follows it. -/
theorem C20_stateless (xs ys : List Op) (op : Op) :
    (runHistory (xs ++ [op] ++ ys))[xs.length]? = some (evalOp op) := by
  rw [runHistory, List.getElem?_map, List.append_assoc,
    List.getElem?_append_right (Nat.le_refl _), Nat.sub_self]
  rfl

/-- the result of a history does not depend on how it is split into sessions. -/
theorem C20_compositional (xs ys : List Op) : runHistory (xs ++ ys) = runHistory xs ++ runHistory ys :=
  List.map_append

/-- repeating a call gives the same answer. -/
theorem C20_idempotent_observation (op : Op) (n : Nat) :
    runHistory (List.replicate n op) = List.replicate n (evalOp op) :=
  List.map_replicate

example : (runHistory [.setVt "TCTCTCT".toList 5, .vertices #[#[0,-1,-1,-1]], .setVt "TCTCTCT".toList 5]).length = 3 := rfl

end Dsw
