import DswModel.Lemmas.Digit
/-!
# C18 — shuffle tables are per-vertex permutations; the induced digit map is a bijection

The seeded NumPy generator is an external call: `createRandomShuffles k shuffle` takes the in-place
row shuffle as a parameter. What is proved is what holds for *every* table.
-/
namespace Dsw

/-- one row per vertex, each row a permutation of 0..3 — provided the external shuffle returns a
permutation of its argument. -/
theorem C18_shape (k : Nat) (shuffle : Nat → List Int → List Int)
    (hs : ∀ i l, (shuffle i l).Perm l) :
    (createRandomShuffles k shuffle).size = 4 ^ k ∧ Tbl.PermRows (createRandomShuffles k shuffle) :=
  ⟨createRandomShuffles_size k shuffle, createRandomShuffles_permRows k shuffle hs⟩

/-- `argsort` always returns a permutation of the positions (stable sort of indices), so
digit → position and position → digit are mutually inverse for ANY table row. -/
theorem C18_argsort_perm (keys : List Int) : (argsort keys).Perm (List.range keys.length) :=
  argsort_perm keys

/-- for any table (or none), at every vertex the map digit ↦ live arc is a bijection from
`{0 … deg-1}` onto the live arcs, with the decoder's `arcDigit` as inverse. -/
theorem C18_bijection (a : Acc) (tbl : Option Tbl) (v : Int) :
    (∀ d, d < a.outDeg v → selectArc a tbl v d ∈ a.live v ∧ arcDigit a tbl v (selectArc a tbl v d) = d) ∧
    (∀ j, j ∈ a.live v → arcDigit a tbl v j < a.outDeg v ∧ selectArc a tbl v (arcDigit a tbl v j) = j) :=
  ⟨fun _ hd => ⟨selectArc_mem a tbl v hd, arcDigit_selectArc a tbl v hd⟩,
   fun _ hj => ⟨arcDigit_lt a tbl v hj, selectArc_arcDigit a tbl v hj⟩⟩

/-- with distinct table entries on the live columns (every permutation row) the decoder's digit is
the documented rank: the number of live arcs with a smaller table entry (smaller column without a
table). -/
theorem C18_digit_is_rank (a : Acc) (tbl : Option Tbl) (v : Int) (j : Nat) (hj : j ∈ a.live v)
    (hd : DistinctKeys a tbl v) : arcDigit a tbl v j = arcRank a tbl v j :=
  arcDigit_eq_arcRank a tbl v hj hd

/-- without a table the keys are always distinct; with a permutation table as well. -/
theorem C18_distinct_none (a : Acc) (v : Int) : DistinctKeys a none v :=
  distinctKeys_none a v

theorem C18_distinct_perm (a : Acc) (t : Tbl) (v : Nat) (hv : v < t.size) (ht : t.PermRows) :
    DistinctKeys a (some t) v :=
  distinctKeys_of_permRows a t v hv ht

def allPerms4 : List (List Int) :=
  [[0,1,2,3],[0,1,3,2],[0,2,1,3],[0,2,3,1],[0,3,1,2],[0,3,2,1],[1,0,2,3],[1,0,3,2],[1,2,0,3],[1,2,3,0],
   [1,3,0,2],[1,3,2,0],[2,0,1,3],[2,0,3,1],[2,1,0,3],[2,1,3,0],[2,3,0,1],[2,3,1,0],[3,0,1,2],[3,0,2,1],
   [3,1,0,2],[3,1,2,0],[3,2,0,1],[3,2,1,0]]

/-- a one-vertex accessor whose live columns are the set bits of `pattern`. -/
def rowAcc (pattern : Nat) : Acc :=
  #[((List.range 4).map fun j => if (pattern / 2 ^ j) % 2 = 1 then (0 : Int) else -1).toArray]

/-- `C18_bijection` at each of the 24 permutation rows and 15 non-empty live patterns (the table
of the observation): digit ↦ arc has `arcDigit` as left inverse there. -/
theorem C18_finite_table :
    allPerms4.all (fun row => (List.range 15).all fun p =>
      let a := rowAcc (p + 1)
      let t : Option Tbl := some #[row.toArray]
      (List.range (a.outDeg 0)).all fun d =>
        (a.live 0).contains (selectArc a t 0 d) && arcDigit a t 0 (selectArc a t 0 d) == d) = true := by
  simp only [List.all_eq_true, List.mem_range, Bool.and_eq_true, List.contains_iff_mem, beq_iff_eq]
  intro row _ p _ d hd
  exact ⟨selectArc_mem _ _ 0 hd, arcDigit_selectArc _ _ 0 hd⟩

end Dsw
