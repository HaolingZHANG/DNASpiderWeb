import DswModel.Model.Spiderweb
import DswModel.Lemmas.Defs
import DswModel.Lemmas.Repair
/-!
# C10 — repair always returns

`repairDna` gives its scan loop `|s| + 1` units of fuel; an `.error .outOfFuel` result would mean
the `while` loop of the code does not advance (defect D4), an
`.error .indexError` that a look-back indexes outside its chunk.
-/
namespace Dsw

/-- for every table, start vertex, ACGT strand at least one window long and every option the
repair returns a value — it neither runs out of fuel nor raises. -/
theorem C10_total (a : Acc) (s : List Char) (v : Int) (k : Nat) (chk : Option (List Char))
    (indel : Bool) (heap : Nat) (hs : IsAcgt s) (hk : 1 ≤ k) (hlen : k ≤ s.length) :
    ∃ cands st, repairDna a s v k chk indel heap = .ok (cands, st) := by
  obtain ⟨sc, hsc, hc, hd, ha⟩ := scan_init_spec a k s v hk
  obtain ⟨fv, hfv, hacgt⟩ := fragFold_total a k s indel sc hk hlen hd hc (ha hs)
  obtain ⟨⟨cands, st⟩, hres⟩ := repairTail_total s chk heap sc fv hs (ha hs).splits hacgt
  exact ⟨cands, st, by rw [repairDna_of_scan hsc hfv, hres]⟩

/-- the scan loop itself: `|s| + 1` steps always suffice, wherever the errors are. -/
theorem C10_scan_terminates (a : Acc) (s : List Char) (v : Int) (k : Nat) :
    ∃ st, scan a k s (s.length + 1) { v := v, queue := List.replicate s.length (-1) } = some st ∧
      s.length ≤ st.loc ∧ st.detected * (k + 1) ≤ s.length + k := by
  obtain ⟨st, hs, hP, hl⟩ := scan_init_inv a k s v (ScanCount k s) (ScanCount.init k s v)
    (ScanCount.step a k s)
  exact ⟨st, hs, hl, Nat.le_trans hP.det_le hP.loc_le⟩

/-- the number of successful graph look-ups is polynomial in the strand length:
at most `|s|` in the scan plus `18·k²` per detection, and there are at most `(|s| + k)/(k + 1)`
detections. -/
theorem C10_lookups (a : Acc) (s : List Char) (v : Int) (k : Nat) (chk : Option (List Char))
    (indel : Bool) (heap : Nat) (cands : List (List Char)) (st : RepairStats)
    (hk : 1 ≤ k) (h : repairDna a s v k chk indel heap = .ok (cands, st)) :
    st.visited ≤ s.length + 18 * k * (s.length + k) := by
  obtain ⟨sc, fv, hsc, hfv, ht⟩ := repairDna_ok_inv h
  obtain ⟨sc', hsc', hc, hd, -⟩ := scan_init_spec a k s v hk
  cases hsc.symm.trans hsc'
  have hcost := fragFold_cost_le hd hc hfv
  have hvis : st.visited = fv.2 := by
    rcases repairTail_ok_inv ht with ⟨_, -, -, e⟩ | ⟨_, -, -, e, -⟩ <;> exact e
  have h1 : sc.detected * k ≤ s.length + k :=
    Nat.le_trans (Nat.mul_le_mul_left _ (Nat.le_succ k)) (Nat.le_trans hc.det_le hc.loc_le)
  have h3 := Nat.mul_le_mul_left (18 * k) h1
  have h4 := hc.vis_le.2
  omega

/-- non-vacuity: a first nucleotide that is not an arc of the start vertex. -/
example : (repairDna gcBalanced2 "GTCTCTCTC".toList 1 2 none true 1000).toBool = true := by
  decide +kernel

end Dsw
