import DswModel.Model.Spiderweb
import DswModel.Lemmas.Defs
import DswModel.Lemmas.DeBruijn
import DswModel.Lemmas.Vt
import DswModel.Lemmas.Repair
import DswModel.Lemmas.RepairEdit
import DswModel.Props.C10
/-!
# C08 — repair recovers the original strand for separated interior edits

The property theorems and `Edit.blocks`, which reads an edit as a block of the two strands; the
lemmas about the scan are in `DswModel/Lemmas/RepairEdit.lean` (the scan / path-matching library of
C09 and C10 is `DswModel/Lemmas/Repair.lean`).

Setting: a graph produced by graph generation is vertex-induced on its vertex set
(`a = inducedAccessor k s`, see C03); `v` is a retained vertex, `w` a walk from `v`.
-/
namespace Dsw

/-- a single edit at a 0-based position of the original strand. -/
inductive Edit where
  | subst (p : Nat) (x : Char)
  | ins (p : Nat) (x : Char)      -- insert `x` before position `p`
  | del (p : Nat)
deriving DecidableEq, Repr

def Edit.pos : Edit → Nat
  | .subst p _ => p | .ins p _ => p | .del p => p

def Edit.apply : Edit → List Char → List Char
  | .subst p x, w => w.set p x
  | .ins p x, w => w.take p ++ [x] ++ w.drop p
  | .del p, w => w.eraseIdx p

/-- the edit uses a nucleotide, and a substitution really changes the symbol. -/
def Edit.Proper (e : Edit) (w : List Char) : Prop :=
  match e with
  | .subst p x => (nucIdx x).isSome = true ∧ w[p]? ≠ some x
  | .ins _ x => (nucIdx x).isSome = true
  | .del _ => True

/-- the edit position lies in `[k, n − 2k)`. -/
def Edit.Interior (e : Edit) (k n : Nat) : Prop := k ≤ e.pos ∧ e.pos + 2 * k < n

/-- the check supplied to the repair is either absent or the check of the original strand. -/
def CheckOf (w : List Char) (chk : Option (List Char)) : Prop :=
  chk = none ∨ ∃ m c, 1 ≤ m ∧ setVt w m = .ok c ∧ chk = some c

open RepairEdit in
/-- an edit inside the stretch `G` of a strand `G ++ R`, seen from the strands: behind the first
`e.pos` symbols `A` of `G` the original has `mid` where the corrupted strand has the symbol `y`; both
go on with `B`, which is `G` without `A` and at most two more symbols. -/
theorem Edit.blocks (e : Edit) (G R' : List Char) (indel : Bool) (hG : IsAcgt G)
    (hp : e.Proper (G ++ R')) (hlt : e.pos + 1 < G.length)
    (hind : indel = true ∨ ∃ p x, e = .subst p x) :
    ∃ (A mid : List Char) (y : Char) (B : List Char), A.length = e.pos ∧
      G.length ≤ e.pos + 2 + B.length ∧ MidKind indel y mid ∧ (nucIdx y).isSome = true ∧
      ∀ R, G ++ R = A ++ (mid ++ B ++ R) ∧ e.apply (G ++ R) = A ++ y :: (B ++ R) := by
  obtain ⟨A, T, rfl, hA⟩ := split_prefix G e.pos (by omega)
  obtain ⟨g0, g1, B, rfl⟩ : ∃ g0 g1 B, T = g0 :: g1 :: B := by
    match T, hlt with
    | g0 :: g1 :: B, _ => exact ⟨g0, g1, B, rfl⟩
    | [_], h | [], h => simp at h; omega
  have hi : (∃ p x, e = .subst p x) ∨ indel = true := hind.symm
  cases e with
  | subst p x =>
    subst hA
    exact ⟨A, [g0], x, g1 :: B, rfl, by simp [Edit.pos]; omega,
      Or.inl ⟨g0, rfl, fun h => hp.2 (by simp [h])⟩, hp.1,
      fun R => ⟨by simp, by simp [Edit.apply]⟩⟩
  | ins p x =>
    subst hA
    obtain ⟨_, _, h⟩ | hi := hi
    · cases h
    · exact ⟨A, [], x, g0 :: g1 :: B, rfl, by simp [Edit.pos], Or.inr (Or.inl ⟨hi, rfl⟩), hp,
        fun R => ⟨by simp, by simp [Edit.apply]⟩⟩
  | del p =>
    subst hA
    obtain ⟨_, _, h⟩ | hi := hi
    · cases h
    · exact ⟨A, [g0, g1], g1, B, rfl, by simp [Edit.pos]; omega, Or.inr (Or.inr ⟨hi, g0, rfl⟩),
        hG g1 (by simp), fun R => ⟨by simp,
          by simp [Edit.apply, List.eraseIdx_append_of_length_le]⟩⟩

/-- `C08_single` for either setting of indel handling; it may be off when the edit is a
substitution. -/
theorem C08_single_indel (k : Nat) (s : Mask) (v : Nat) (w : List Char) (e : Edit)
    (chk : Option (List Char)) (heap : Nat) (indel : Bool) (hk : 1 ≤ k) (hs : s.size = 4 ^ k)
    (hv : s.getD v false = true) (hw : isWalk (inducedAccessor k s) v w = true)
    (he : e.Interior k w.length) (hp : e.Proper w) (hc : CheckOf w chk) (hheap : 9 * k ≤ heap)
    (hind : indel = true ∨ ∃ p x, e = .subst p x)
    (hbad : isWalk (inducedAccessor k s) v (e.apply w) = false) :
    ∃ cands st, repairDna (inducedAccessor k s) (e.apply w) v k chk indel heap = .ok (cands, st) ∧
      st.detected = 1 ∧ w ∈ cands := by
  obtain ⟨hke, hen⟩ := he
  obtain ⟨A, mid, y, B, hA, hB, hkind, hy, hbl⟩ := Edit.blocks e w [] indel (isAcgt_of_isWalk w _ hw)
    (by rwa [List.append_nil]) (by omega) hind
  obtain ⟨ew, ec⟩ := hbl []
  rw [List.append_nil, List.append_nil, ← List.append_assoc] at ew
  rw [List.append_nil, List.append_nil] at ec
  rw [ec] at hbad ⊢
  rw [ew] at hw ⊢
  have hacgt := isAcgt_of_isWalk _ _ hw
  obtain ⟨cands, st, hr⟩ := C10_total (inducedAccessor k s) (A ++ y :: B) v k chk indel heap
    (IsAcgt.append.mpr ⟨(IsAcgt.append.mp (IsAcgt.append.mp hacgt).1).1,
      IsAcgt.cons.mpr ⟨hy, (IsAcgt.append.mp hacgt).2⟩⟩) hk (by simp; omega)
  exact ⟨cands, st, hr, RepairEdit.single_core k s v A mid B y chk heap indel hk hs hv hw hkind hy
    (by omega) (by omega) (by rw [← ew]; exact RepairEdit.vtMatches_of_check w chk hc) hheap hbad
    cands st hr⟩

/-- the substitution case of `C08_single`, with or without indel handling. -/
theorem C08_single_subst_only (k : Nat) (s : Mask) (v : Nat) (w : List Char) (p : Nat) (x : Char)
    (chk : Option (List Char)) (heap : Nat) (indel : Bool) (hk : 1 ≤ k) (hs : s.size = 4 ^ k)
    (hv : s.getD v false = true)
    (hw : isWalk (inducedAccessor k s) v w = true) (he : (Edit.subst p x).Interior k w.length)
    (hp : (Edit.subst p x).Proper w) (hc : CheckOf w chk) (hheap : 9 * k ≤ heap)
    (hbad : isWalk (inducedAccessor k s) v ((Edit.subst p x).apply w) = false) :
    ∃ cands st, repairDna (inducedAccessor k s) ((Edit.subst p x).apply w) v k chk indel heap = .ok (cands, st) ∧
      st.detected = 1 ∧ w ∈ cands :=
  C08_single_indel k s v w _ chk heap indel hk hs hv hw he hp hc hheap (Or.inr ⟨p, x, rfl⟩) hbad

theorem C08_single_ins (k : Nat) (s : Mask) (v : Nat) (w : List Char) (p : Nat) (x : Char)
    (chk : Option (List Char)) (heap : Nat) (hk : 1 ≤ k) (hs : s.size = 4 ^ k)
    (hv : s.getD v false = true)
    (hw : isWalk (inducedAccessor k s) v w = true) (he : (Edit.ins p x).Interior k w.length)
    (hp : (Edit.ins p x).Proper w) (hc : CheckOf w chk) (hheap : 9 * k ≤ heap)
    (hbad : isWalk (inducedAccessor k s) v ((Edit.ins p x).apply w) = false) :
    ∃ cands st, repairDna (inducedAccessor k s) ((Edit.ins p x).apply w) v k chk true heap = .ok (cands, st) ∧
      st.detected = 1 ∧ w ∈ cands :=
  C08_single_indel k s v w _ chk heap true hk hs hv hw he hp hc hheap (Or.inl rfl) hbad

theorem C08_single_del (k : Nat) (s : Mask) (v : Nat) (w : List Char) (p : Nat)
    (chk : Option (List Char)) (heap : Nat) (hk : 1 ≤ k) (hs : s.size = 4 ^ k)
    (hv : s.getD v false = true)
    (hw : isWalk (inducedAccessor k s) v w = true) (he : (Edit.del p).Interior k w.length)
    (hc : CheckOf w chk) (hheap : 9 * k ≤ heap)
    (hbad : isWalk (inducedAccessor k s) v ((Edit.del p).apply w) = false) :
    ∃ cands st, repairDna (inducedAccessor k s) ((Edit.del p).apply w) v k chk true heap = .ok (cands, st) ∧
      st.detected = 1 ∧ w ∈ cands :=
  C08_single_indel k s v w _ chk heap true hk hs hv hw he trivial hc hheap (Or.inl rfl) hbad

/-- one interior edit, indel handling on, a heap limit of at least `9k`:
if the corrupted strand is no longer a walk, exactly one error is detected and the original strand
is among the candidates (also when the check of the original is supplied). Together with
`C09_clean` (a corrupted strand that is still a walk gives zero detections) this is "detected
exactly when the corrupted strand is no longer a walk". -/
theorem C08_single (k : Nat) (s : Mask) (v : Nat) (w : List Char) (e : Edit) (chk : Option (List Char))
    (heap : Nat) (hk : 1 ≤ k) (hs : s.size = 4 ^ k) (hv : s.getD v false = true)
    (hw : isWalk (inducedAccessor k s) v w = true) (he : e.Interior k w.length) (hp : e.Proper w)
    (hc : CheckOf w chk) (hheap : 9 * k ≤ heap)
    (hbad : isWalk (inducedAccessor k s) v (e.apply w) = false) :
    ∃ cands st, repairDna (inducedAccessor k s) (e.apply w) v k chk true heap = .ok (cands, st) ∧
      st.detected = 1 ∧ w ∈ cands := by
  exact C08_single_indel k s v w e chk heap true hk hs hv hw he hp hc hheap (Or.inl rfl) hbad

/-- with substitutions only the same holds with indel handling off. -/
theorem C08_single_subst (k : Nat) (s : Mask) (v : Nat) (w : List Char) (p : Nat) (x : Char)
    (chk : Option (List Char)) (heap : Nat) (hk : 1 ≤ k) (hs : s.size = 4 ^ k) (hv : s.getD v false = true)
    (hw : isWalk (inducedAccessor k s) v w = true) (he : (Edit.subst p x).Interior k w.length)
    (hp : (Edit.subst p x).Proper w) (hc : CheckOf w chk) (hheap : 9 * k ≤ heap)
    (hbad : isWalk (inducedAccessor k s) v ((Edit.subst p x).apply w) = false) :
    ∃ cands st, repairDna (inducedAccessor k s) ((Edit.subst p x).apply w) v k chk false heap = .ok (cands, st) ∧
      st.detected = 1 ∧ w ∈ cands :=
  C08_single_subst_only k s v w p x chk heap false hk hs hv hw he hp hc hheap hbad

/-- positions increasing with gaps of at least `3k + 2`. -/
def Spaced (k : Nat) : List Edit → Prop
  | [] => True
  | [_] => True
  | e :: e' :: r => e.pos + 3 * k + 2 ≤ e'.pos ∧ Spaced k (e' :: r)

/-- apply a list of edits given in increasing position order (positions refer to the original
strand, so the rightmost edit is applied first). -/
def applyEdits (es : List Edit) (w : List Char) : List Char := es.foldr (fun e acc => e.apply acc) w

/-- the multi-edit case (full statement). The heap bound `(9k)^|es|`: at most nine records per
detection (`pathMatching_records`) at each of at most `k` marker positions. -/
def C08_multi_statement : Prop :=
  ∀ (k : Nat) (s : Mask) (v : Nat) (w : List Char) (es : List Edit) (chk : Option (List Char)) (heap : Nat),
    1 ≤ k → s.size = 4 ^ k → s.getD v false = true → isWalk (inducedAccessor k s) v w = true →
    (∀ e ∈ es, e.Interior k w.length ∧ e.Proper w) → Spaced k es → CheckOf w chk →
    (9 * k) ^ es.length ≤ heap →
    ∀ cands st, repairDna (inducedAccessor k s) (applyEdits es w) v k chk true heap = .ok (cands, st) →
      st.detected = es.length → w ∈ cands

section Multi
open RepairEdit

/-- the strands of the multi-edit case in block form: a leading clean stretch up to the first
edited position, then one block per edit. -/
theorem applyEdits_blocks (k : Nat) (hk : 1 ≤ k) : ∀ (es : List Edit) (w : List Char), IsAcgt w →
    Spaced k es → (∀ e ∈ es, e.Interior k w.length ∧ e.Proper w) →
    ∃ (G0 : List Char) (bs : List Blk), w = G0 ++ tailO bs ∧ applyEdits es w = G0 ++ tailC bs ∧
      bs.length = es.length ∧ Chain k G0.length bs ∧
      (es = [] → G0.length = w.length) ∧ (∀ e es', es = e :: es' → G0.length = e.pos)
  | [], w, _, _, _ => ⟨w, [], by simp [tailO], by simp [applyEdits, tailC], rfl, trivial,
      fun _ => rfl, fun _ _ h => by cases h⟩
  | e :: es, w, hw, hsp, hes => by
    have hsp' : Spaced k es := by
      cases es with
      | nil => trivial
      | cons e' r => exact hsp.2
    obtain ⟨G, bs, ew, ec, hlen, hch, hnil, hcons⟩ := applyEdits_blocks k hk es w hw hsp'
      (fun e' he' => hes e' (List.mem_cons_of_mem _ he'))
    obtain ⟨⟨hkp, hpn⟩, hprop⟩ := hes e List.mem_cons_self
    have h1 : e.pos + 2 * k + 1 ≤ G.length := by
      cases es with
      | nil => rw [hnil rfl]; omega
      | cons e' r => rw [hcons e' r rfl]; have := hsp.1; omega
    have h2 : bs ≠ [] → e.pos + 3 * k + 2 ≤ G.length := by
      intro hne
      cases es with
      | nil => simp at hlen; exact absurd hlen hne
      | cons e' r => rw [hcons e' r rfl]; exact hsp.1
    have hacgtG : IsAcgt G := by rw [ew] at hw; exact (IsAcgt.append.mp hw).1
    have happ : applyEdits (e :: es) w = e.apply (G ++ tailC bs) := by
      simp only [applyEdits, List.foldr_cons] at ec ⊢; rw [ec]
    rw [happ]
    obtain ⟨A, mid, y, B, hA, hB, hkind, hy, hbl⟩ := Edit.blocks e G (tailO bs) true hacgtG
      (by rw [← ew]; exact hprop) (by omega) (Or.inl rfl)
    refine ⟨A, ⟨mid, y, B⟩ :: bs, by rw [ew]; exact (hbl _).1, (hbl _).2, by simp [hlen], ?_,
      by simp, fun e' es' h => by cases h; exact hA⟩
    rw [hA]
    exact Chain.cons hkp hkind hy hB h1 h2 hch

/-- several separated interior edits: when every edit is detected, the original strand is among
the candidates. -/
theorem C08_multi : C08_multi_statement := by
  intro k s v w es chk heap hk hs hv hw hes hsp hc hheap cands st hres hdet
  obtain ⟨G0, bs, ew, ec, hlen, hch, -, -⟩ := applyEdits_blocks k hk es w (isAcgt_of_isWalk w _ hw) hsp hes
  have hchk := RepairEdit.vtMatches_of_check w chk hc
  have h1 : 1 ≤ heap := Nat.le_trans (Nat.pow_pos (by omega)) hheap
  rw [ec] at hres
  rw [ew] at hw hchk ⊢
  exact multi_core k s v G0 bs chk heap hk hs hv hw hch hchk h1 cands st hres (by rw [hdet, hlen])

end Multi

/-! non-vacuity: the doctest's substitution on the GC-balanced order-2 graph -/
example : (Edit.subst 5 'A').apply "TCTCTCTCTCTC".toList = "TCTCTATCTCTC".toList ∧
    (Edit.subst 5 'A').Interior 2 12 := by
  refine ⟨by decide, by simp [Edit.Interior, Edit.pos]⟩

end Dsw
