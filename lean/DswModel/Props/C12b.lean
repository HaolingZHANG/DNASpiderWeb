import DswModel.Model.Biofilter
import DswModel.Lemmas.Thresholds
/-!
# C12 (continued) — the integer thresholds of the GC rule versus exact fractions

The model of `LocalBioFilter` carries integer thresholds (`gcLo`, `gcHi`, `atHi`) because, for an
integer count, a comparison with a real bound is a comparison with its floor or ceiling. These
theorems state that reduction for EXACT (rational) fractions `lo`, `hi`, and show that with exact
arithmetic the three thresholds are always mutually consistent — so the inconsistency repaired by
D8 (`(1 - 0.8) * 5 = 0.9999999999999998`) is purely a floating-point artefact; `k − gcLo ≤ atHi` for the
thresholds the code's float expressions produce is `C02_float_consistent` (Props/C02b).
-/
namespace Dsw

/-- thresholds for exact fractions `lo`, `hi` and window `k`. -/
def exactGcRule (lo hi : Rat) (k : Nat) : GcRule :=
  { gcLo := (lo * k).ceil, gcHi := (hi * k).floor, atHi := ((k : Rat) - lo * k).floor }

/-- `gc > hi·k ↔ gc > ⌊hi·k⌋`, `gc < lo·k ↔ gc < ⌈lo·k⌉`, `at > k − lo·k ↔ at > ⌊k − lo·k⌋` for
integer counts. -/
theorem C12_thresholds (lo hi : Rat) (k : Nat) (g : Nat) :
    (((g : Rat) > hi * k) ↔ ((g : Int) > (exactGcRule lo hi k).gcHi)) ∧
    (((g : Rat) < lo * k) ↔ ((g : Int) < (exactGcRule lo hi k).gcLo)) ∧
    (((g : Rat) > (k : Rat) - lo * k) ↔ ((g : Int) > (exactGcRule lo hi k).atHi)) := by
  exact ⟨Thresholds.natCast_gt_iff g _, Thresholds.natCast_lt_iff g _,
    Thresholds.natCast_gt_iff g _⟩

/-- with exact arithmetic the short-string A+T bound always agrees with the window GC lower
bound: `⌊k − lo·k⌋ = k − ⌈lo·k⌉`. -/
theorem C12_exact_consistent (lo hi : Rat) (k : Nat) :
    (exactGcRule lo hi k).atHi = (k : Int) - (exactGcRule lo hi k).gcLo := by
  exact Thresholds.floor_natCast_sub k _

example : exactGcRule (4 / 5) 1 5 = ⟨4, 5, 1⟩ := by
  have h1 : ((4 / 5 : Rat) * (5 : Nat)) = ((4 : Int) : Rat) := by norm_num
  have h2 : ((1 : Rat) * (5 : Nat)) = ((5 : Int) : Rat) := by norm_num
  have h3 : (((5 : Nat) : Rat) - ((4 : Int) : Rat)) = ((1 : Int) : Rat) := by norm_num
  simp only [exactGcRule, h1, h2, h3, Rat.ceil_intCast, Rat.floor_intCast]

end Dsw
