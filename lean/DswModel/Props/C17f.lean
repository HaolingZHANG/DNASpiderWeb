import DswModel.Props.C17d
/-!
# C17 (continued) — from the value the FUNCTION returns to the certificate

`C17F_stop_certificate` / `C17F_stop_accuracy` (Props/C17c.lean) speak about one settled step. This file connects them to
what the double-precision loop returns: whenever a repeat ends before its iteration budget is used up, the value it
appends to `results` is the (clamped) eigenvalue estimate of a step that passed the settled test — so the accuracy theorem
applies to the very number whose `log2` the code reports.
-/
namespace Dsw

/-- a repeat that stops early (at most `maxIter + 1` recorded estimates, i.e. not by the median fall-back) stopped by the
settled rule: its single result is `clampEvF tol ev` for a step `capStepF a x = (z, ev)` from a vector `x ∈ [0,1]^n` whose
rounded change `max |z − x|` is below `tol`. -/
theorem C17F_result_settled (a : Acc) (tol : Dbl) (maxIter fuel : Nat) (x0 : VecF) (run : CapRunF)
    (ha : a.Closed) (hx0 : x0.In01 a.size)
    (h : capLoopF a tol maxIter fuel x0 none [] [] = some run) (hearly : run.record.length ≤ maxIter + 1) :
    ∃ x z ev md, x.In01 a.size ∧ capStepF a x = some (z, ev) ∧ maxDiffF a.size z x = some md ∧
      Dbl.lt md tol = true ∧ run.results = [clampEvF tol ev] := by
  cases fuel with
  | zero => simp [capLoopF] at h
  | succ f =>
    obtain ⟨z, ev, hz, _, heq⟩ := PowerF.capLoopF_first a tol maxIter f ha x0 [] [] hx0
    rw [heq] at h
    exact PowerF.capLoopF_settled a tol maxIter ha f z ev [] _ run hz (by simp) rfl h hearly

/-- … hence, for a call with one start vector: if the function returns `[r]` with a record of at most `maxIter + 1`
estimates, then `r = clampEvF tol ev` (`ev` itself when `ev > tol`, else the stand-in `1` for "capacity 0") for a settled
step `capStepF a x = (z, ev)`, and — provided `ev ≥ 2^-500` — on every successor-closed set `S` on which `x ≥ δ` the walk
growth is `ev` up to the factors of `C17F_stop_accuracy`: the accuracy theorem applies to the very number whose `log2`
the code reports. -/
theorem C17F_result_accuracy (a : Acc) (tol : Dbl) (maxIter : Nat) (x0 : VecF) (res : List Dbl) (recs : List (List Dbl))
    (r : Dbl) (ha : a.Closed) (hx0 : x0.In01 a.size) (htol : IsB64 tol.num tol.den ∧ 0 ≤ tol.num)
    (hnot : a.all (fun r => r.all (· == -1)) = false)
    (h : approximateCapacityF a tol maxIter [x0] = some (res, recs))
    (hres : res = [r]) (hrec : ∀ rec ∈ recs, rec.length ≤ maxIter + 1) :
    ∃ (x : VecF) (ev : Dbl), x.In01 a.size ∧ r = clampEvF tol ev ∧
      ((2 : Rat)⁻¹ ^ 500 ≤ ev.toRat →
       ∀ (δ : Rat) (S : Nat → Prop), (2 : Rat)⁻¹ ^ 500 ≤ δ → tol.toRat + (2 : Rat)⁻¹ ^ 500 ≤ δ →
        (∀ v, S v → v < a.size ∧ δ ≤ (x.getD v Dbl.zero).toRat) →
        (∀ v, S v → ∀ w ∈ a.liveEntries (v : Int), S w) →
        ∀ n v, S v →
          (ev.toRat * (1 - (tol.toRat + (2 : Rat)⁻¹ ^ 500) / δ) * (1 - (2 : Rat)⁻¹ ^ 50)) ^ n * (x.toRat).getD v 0
            ≤ weightedWalksQ a x.toRat n v ∧
          weightedWalksQ a x.toRat n v
            ≤ (ev.toRat * (1 + (tol.toRat + (2 : Rat)⁻¹ ^ 500) / δ) * (1 + (2 : Rat)⁻¹ ^ 50)) ^ n * (x.toRat).getD v 0) := by
  unfold approximateCapacityF at h
  rw [if_neg (by rw [hnot]; simp)] at h
  simp only [List.foldl_cons, List.foldl_nil] at h
  cases hrun : capLoopF a tol maxIter (maxIter + 2) (zeroDeadF a x0) none [] [] with
  | none => rw [hrun] at h; simp at h
  | some run =>
    rw [hrun] at h
    simp only [List.nil_append, Option.some.injEq, Prod.mk.injEq] at h
    obtain ⟨h1, h2⟩ := h
    have hearly : run.record.length ≤ maxIter + 1 := hrec run.record (by rw [← h2]; simp)
    obtain ⟨x, z, ev, md, hx, hstep, hmd, hset, hresults⟩ :=
      C17F_result_settled a tol maxIter (maxIter + 2) (zeroDeadF a x0) run ha
        (PowerF.zeroDeadF_in01 a x0 hx0) hrun hearly
    refine ⟨x, ev, hx, ?_, ?_⟩
    · rw [hresults, hres] at h1
      simpa using h1.symm
    · intro hev δ S hδ hsmall hS hclosed
      exact C17F_stop_accuracy a x z ev tol md δ S hx.1 ha hstep hev htol hsmall hmd hset hδ hS hclosed

end Dsw
