import DswModel.Model.Biofilter
import DswModel.Lemmas.FloatRoundGc
/-!
# C02 (continued) — the GC thresholds the code's FLOAT expressions produce are mutually consistent

`C12_exact_consistent` (Props/C12b.lean) shows `⌊k − lo·k⌋ = k − ⌈lo·k⌉` for EXACT fractions. The code computes
`lo*k` and `k - lo*k` in double precision; defect D8 (repaired) was a filter whose short-strand A+T bound, computed as
`(1 - lo) * k`, was STRICTER than the full-window GC lower bound, so that a prefix of a valid strand was rejected.
With the exact model of double rounding (`Model/Float.lean`) the repaired expressions can be judged for ALL doubles:
for every GC lower bound `0 ≤ lo ≤ 1` and every window `k ≤ 2^53` the short-strand bound is never stricter than the
window bound (`k − gcLo ≤ atHi`) — which is what makes every prefix of a strand whose windows are valid pass the
whole-sequence check (C02).
-/
namespace Dsw

theorem C02_float_gcLo_range (lo hi : Dbl) (k : Nat) (g : GcRule) (hden : 0 < lo.den)
    (h0 : 0 ≤ lo.num) (h1 : lo.num ≤ lo.den) (hk : k ≤ 2 ^ 53)
    (hg : floatGcRule lo hi k = some g) : 0 ≤ g.gcLo ∧ g.gcLo ≤ k := by
  obtain ⟨fk, a, b, c, hnum, hfd, ha, _, _, hlo, _, _⟩ := floatGcRule_some hk hg
  obtain ⟨had, ha0, ha1⟩ := Dbl.mul_range hden h0 h1 hk hnum hfd ha
  rw [hlo]
  exact ⟨Dbl.le_ceil had (by simpa using ha0), Dbl.ceil_le had ha1⟩

theorem C02_float_gcHi_range (lo hi : Dbl) (k : Nat) (g : GcRule) (hden : 0 < hi.den)
    (h0 : 0 ≤ hi.num) (h1 : hi.num ≤ hi.den) (hk : k ≤ 2 ^ 53)
    (hg : floatGcRule lo hi k = some g) : 0 ≤ g.gcHi ∧ g.gcHi ≤ k := by
  obtain ⟨fk, a, b, c, hnum, hfd, _, hb, _, _, hhi, _⟩ := floatGcRule_some hk hg
  obtain ⟨hbd, hb0, hb1⟩ := Dbl.mul_range hden h0 h1 hk hnum hfd hb
  rw [hhi]
  exact ⟨Dbl.le_floor hbd (by simpa using hb0), Dbl.floor_le hbd hb1⟩

/-- C02/C12, float thresholds: the A+T bound for strands shorter than a window admits at least everything the GC lower
bound of a full window admits. For all doubles `lo ∈ [0, 1]`, all doubles `hi`, all windows up to 2^53. -/
theorem C02_float_consistent (lo hi : Dbl) (k : Nat) (g : GcRule) (hden : 0 < lo.den)
    (h0 : 0 ≤ lo.num) (h1 : lo.num ≤ lo.den) (hk : k ≤ 2 ^ 53)
    (hg : floatGcRule lo hi k = some g) : (k : Int) - g.gcLo ≤ g.atHi := by
  obtain ⟨hg0, hg1⟩ := C02_float_gcLo_range lo hi k g hden h0 h1 hk hg
  obtain ⟨fk, a, b, c, hnum, hfd, ha, _, hc, hlo, _, hat⟩ := floatGcRule_some hk hg
  have had : 0 < a.den := roundDouble_den_pos ha
  have hceil := Dbl.le_ceil_mul had
  rw [hat]
  rw [hlo] at hg0 hg1 ⊢
  -- `k − ⌈a⌉` is an integer of magnitude ≤ 2^53 below the exact difference `k − a`, so below its rounding `c`
  apply Dbl.le_floor (roundDouble_den_pos hc)
  apply roundDouble_ge_int _ _ _ c (Nat.mul_pos hfd had) (by omega) _ hc
  rw [hnum]
  have hmain : ((k : Int) - a.ceil) * (a.den : Int) ≤ (k : Int) * (a.den : Int) - a.num := by
    rw [Int.sub_mul]; omega
  calc ((k : Int) - a.ceil) * ((fk.den * a.den : Nat) : Int)
      = ((k : Int) - a.ceil) * (a.den : Int) * (fk.den : Int) := by
        rw [Int.natCast_mul, Int.mul_assoc, Int.mul_comm (fk.den : Int)]
    _ ≤ ((k : Int) * (a.den : Int) - a.num) * (fk.den : Int) :=
        Int.mul_le_mul_of_nonneg_right hmain (by omega)
    _ = (k : Int) * (fk.den : Int) * (a.den : Int) - a.num * (fk.den : Int) := by
        rw [Int.sub_mul, Int.mul_right_comm]

/-- for such bounds and windows the thresholds always exist (no product overflows). -/
theorem C02_float_defined (lo hi : Dbl) (k : Nat) (hlo : 0 < lo.den) (hhi : 0 < hi.den)
    (l0 : 0 ≤ lo.num) (l1 : lo.num ≤ lo.den) (u0 : 0 ≤ hi.num) (u1 : hi.num ≤ hi.den) (hk : k ≤ 2 ^ 53) :
    ∃ g, floatGcRule lo hi k = some g := by
  obtain ⟨fk, hfk, hnum, hfd⟩ := roundDouble_int_exact (k : Int) (by simpa using hk)
  obtain ⟨a, ha, had, ha0, ha1⟩ := Dbl.mul_spec hlo l0 l1 hk hnum hfd
  obtain ⟨b, hb, _⟩ := Dbl.mul_spec hhi u0 u1 hk hnum hfd
  obtain ⟨c, hc⟩ := Dbl.sub_defined hk hnum hfd had ha0 ha1
  refine ⟨⟨a.ceil, b.floor, c.floor⟩, ?_⟩
  unfold floatGcRule Dbl.ofInt
  rw [hfk]
  simp only [ha, hb, hc]

/-- non-vacuity and the D8 instance: `lo = 0.8` (the double), `k = 5`: thresholds 4 / 5 / 1, consistent. -/
example : floatGcRule ⟨3602879701896397, 4503599627370496⟩ ⟨1, 1⟩ 5 = some ⟨4, 5, 1⟩ := by rfl

end Dsw
