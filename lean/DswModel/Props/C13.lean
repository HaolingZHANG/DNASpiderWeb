import DswModel.Model.Spiderweb
import DswModel.Lemmas.Defs
import DswModel.Lemmas.DeBruijn
/-! # C13 — vertex indices are k-mers and arcs are shift-append -/
namespace Dsw

/-- index → k-mer → index. -/
theorem C13_idx_of_kmer (k v : Nat) (h : v < 4 ^ k) :
    (kmerOf k v).length = k ∧ (∀ c ∈ kmerOf k v, (nucIdx c).isSome = true) ∧ kmerIdx (kmerOf k v) = v ∧
    dnaToNumberInt (kmerOf k v) = .ok v := by
  exact ⟨kmerOf_length k v h, kmerOf_acgt k v h, kmerIdx_kmerOf k v h, by
    rw [dnaToNumberInt_acgt _ (kmerOf_acgt k v h), kmerIdx_kmerOf k v h]⟩

/-- k-mer → index → k-mer. -/
theorem C13_kmer_of_idx (s : List Char) (hs : ∀ c ∈ s, (nucIdx c).isSome = true) :
    kmerIdx s < 4 ^ s.length ∧ kmerOf s.length (kmerIdx s) = s :=
  ⟨kmerIdx_lt s, kmerOf_kmerIdx s hs⟩

/-- successor list = drop the first nucleotide, append one, in A,C,G,T order. -/
theorem C13_latters (k v : Nat) (hk : 1 ≤ k) (h : v < 4 ^ k) :
    obtainLatters k v = "ACGT".toList.map fun c => kmerIdx ((kmerOf k v).tail ++ [c]) := by
  obtain ⟨k, rfl⟩ := Nat.exists_eq_add_one_of_ne_zero (Nat.one_le_iff_ne_zero.1 hk)
  simp only [kmerIdx_snoc, kmerIdx_tail_kmerOf k v h]
  rw [acgt_map_comp (fun j => v % 4 ^ k * 4 + j)]
  unfold obtainLatters
  apply List.map_congr_left
  intro j hj
  rw [four_pow_succ, shift_mod _ _ _ (List.mem_range.1 hj)]

/-- predecessor list = drop the last nucleotide, prepend one, in A,C,G,T order. -/
theorem C13_formers (k v : Nat) (hk : 1 ≤ k) (h : v < 4 ^ k) :
    obtainFormers k v = "ACGT".toList.map fun c => kmerIdx (c :: (kmerOf k v).dropLast) := by
  obtain ⟨k, rfl⟩ := Nat.exists_eq_add_one_of_ne_zero (Nat.one_le_iff_ne_zero.1 hk)
  have hv4 : v / 4 < 4 ^ k := div_four_lt h
  simp only [kmerIdx_cons, kmerOf_succ, List.dropLast_concat, kmerIdx_kmerOf k _ hv4,
    kmerOf_length k _ hv4]
  rw [acgt_map_comp (fun j => j * 4 ^ k + v / 4)]
  unfold obtainFormers
  apply List.map_congr_left
  intro j _
  rw [Nat.add_sub_cancel, Nat.add_comm]

theorem C13_latters_lt (k v : Nat) (hk : 1 ≤ k) : ∀ w ∈ obtainLatters k v, w < 4 ^ k := by
  have _ := hk
  intro w hw
  rcases (mem_obtainLatters k v w).1 hw with ⟨j, _, rfl⟩
  exact shift_lt k v j

theorem C13_formers_lt (k v : Nat) (hk : 1 ≤ k) (h : v < 4 ^ k) : ∀ u ∈ obtainFormers k v, u < 4 ^ k :=
  formers_lt hk h

/-- `u` is a predecessor of `v` exactly when `v` is a successor of `u`. -/
theorem C13_former_iff_latter (k u v : Nat) (hk : 1 ≤ k) (hu : u < 4 ^ k) (hv : v < 4 ^ k) :
    u ∈ obtainFormers k v ↔ v ∈ obtainLatters k u :=
  former_iff_latter hk hu hv

/-- the complete graph holds the j-th successor of every vertex in column j. -/
theorem C13_complete (k v j : Nat) (h : v < 4 ^ k) (hj : j < 4) :
    (getCompleteAccessor k).ent v j = ((v * 4 + j) % 4 ^ k : Nat) ∧ WFdB k (getCompleteAccessor k) := by
  refine ⟨?_, wfdb_complete k⟩
  unfold getCompleteAccessor
  rw [Acc.ent_range_map _ _ _ _ h]
  have hj' : j < (obtainLatters k v).length := by rw [obtainLatters_length]; exact hj
  rw [getD_map_toArray _ _ _ _ hj', obtainLatters_getElem]
  rfl

/-- `WFdB`: column j holds -1 or the j-th shift successor; here for vertex-induced graphs, the `C13_wfdb_*` theorems
below cover the other constructors. -/
theorem C13_wfdb_induced (k : Nat) (m : Mask) : WFdB k (inducedAccessor k m) :=
  wfdb_induced k m

theorem C13_wfdb_valid_graph (k : Nat) (m : Option Mask) (a : Acc)
    (h : connectValidGraph k m = .ok a) : WFdB k a := by
  cases m with
  | none => cases h
  | some m =>
    rw [connectValidGraph_some] at h
    by_cases hc : m.count > 0
    · rw [if_pos hc] at h; cases h; exact wfdb_induced k m
    · rw [if_neg hc] at h; cases h

/-- `setEnt … (-1)` (used by the cascade and by arc removal) preserves the invariant. -/
theorem C13_wfdb_setEnt (k : Nat) (a : Acc) (v j : Nat) (h : WFdB k a) : WFdB k (a.setEnt v j (-1)) :=
  wfdb_setEnt k a v j (-1) h (Or.inl rfl)

theorem C13_wfdb_coding_graph (k : Nat) (m : Mask) (t : Nat) (vs : List Nat) (a : Acc)
    (h : connectCodingGraph k m t = .ok (vs, a)) : WFdB k a := by
  unfold connectCodingGraph at h
  cases hm : trimLoop k t (4 ^ k + 1) m with
  | error e => simp [hm, bind, Except.bind] at h
  | ok m' =>
    simp only [hm, bind, Except.bind] at h
    split at h
    · exact wfdb_thresholdOneLoop k _ _ (vs, a) (wfdb_induced k m') h
    · cases h; exact wfdb_induced k m'

theorem C13_wfdb_remove_nasty_arc (k : Nat) (a : Acc) (lm : LMap) (ins del : Bool) (r : RemoveResult)
    (hw : WFdB k a) (h : removeNastyArc a lm ins del = .ok r) : WFdB k r.acc := by
  unfold removeNastyArc at h
  -- `positive` does not depend on the vertex matched below, so it comes out with the first four
  extract_lets _ _ _ _ positive at h
  split at h
  · cases h
  · extract_lets _ latter at h
    split at h
    · cases h
    · rename_i ls _
      by_cases hc : ls.contains latter = true
      · rw [if_pos hc] at h
        by_cases hp : positive.isEmpty = true
        · rw [if_pos hp] at h; cases h
        · rw [if_neg hp] at h; cases h
          exact wfdb_setEnt k _ _ _ _ hw (Or.inl rfl)
      · rw [if_neg hc] at h; cases h

/-- converting a legal latter map (every listed successor is a shift-successor of its key, keys
below `4^k`) gives a de Bruijn sub-table. -/
theorem C13_wfdb_latter_map (k : Nat) (lm : LMap) (a : Acc)
    (hl : ∀ p ∈ lm, p.1 < 4 ^ k ∧ ∀ w ∈ p.2, w ∈ obtainLatters k p.1)
    (h : latterMapToAccessor lm k none = .ok a) : WFdB k a := by
  unfold latterMapToAccessor at h
  simp only [bind, Except.bind, pure, Except.pure] at h
  split at h
  · cases h
  · cases h
    exact wfdb_latterMap_fold k lm (fun p hp => (hl p hp).2) _ (wfdb_replicate k)

/-- a matrix is only accepted if every 1 sits on a shift arc, and the result is a de Bruijn
sub-table (for matrices of size `4^k`). -/
theorem C13_wfdb_matrix (k : Nat) (mx : Matrix) (a : Acc) (hs : mx.size = 4 ^ k)
    (h : adjacencyMatrixToAccessor mx = .ok a) : WFdB k a :=
  wfdb_adjacencyMatrixToAccessor k mx a hs h

example : wfdbB 2 gcBalanced2 = true := wfdbB_gcBalanced2
example : obtainFormers 3 27 = [6, 22, 38, 54] ∧ obtainLatters 3 6 = [24, 25, 26, 27] := by decide

end Dsw
