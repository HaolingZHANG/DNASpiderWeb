import DswModel.Model.Capacity
import DswModel.Lemmas.Defs
import DswModel.Lemmas.DeBruijn
import DswModel.Lemmas.Power
/-!
# C17 — reported capacity is the log2 spectral radius of the graph  (partial)

The model runs the power iteration of `approximate_capacity` over exact rationals and returns
eigenvalue estimates (the code reports `log2` of them, `1` standing for the code's `0.0`).
Proved here: the structural claims of the property (never more than 2 bits, 0 for an arc-less
graph, exactly `log2 d` on `d`-regular graphs in the single-start mode) and the soundness of the
Collatz–Wielandt certificate the harness uses as its oracle. What the stopping rule certifies is in
`C17b` (exact arithmetic) and `C17c`, `C17f` (double precision); `C17d`, `C17e` prove the structural
claims and totality for the double-precision computation. NOT proved (tested, and labelled as a test
in the evidence): that under the spectral-gap precondition the rule fires within the iteration budget
at a vector good enough for 1e-4 (a Perron–Frobenius convergence rate), and `log2` / `median` of the
estimates.
-/
namespace Dsw

/-- one iteration: the eigenvalue estimate lies in `[0, 4]` (at most four entries of `[0,1]` are
summed) and the normalised vector is again in `[0,1]`. -/
theorem C17_step_bounds (a : Acc) (x : Vec) (hx : VecIn01 x) :
    0 ≤ (capStep a x).2 ∧ (capStep a x).2 ≤ 4 ∧ VecIn01 (capStep a x).1 := by
  exact ⟨(Power.capEv_bounds a x hx).1, (Power.capEv_bounds a x hx).2, Power.capStep_in01 a x hx⟩

/-- for every graph, tolerance in `(0,1)`, iteration limit and start vectors in `[0,1]`: every
value whose `log2`-median the code returns, and every recorded estimate, lies in `(0, 4]` — so the
reported capacity never exceeds 2 bits per nucleotide. -/
theorem C17_le_four (a : Acc) (tol : Rat) (maxIter : Nat) (starts : List Vec) (res : List Rat)
    (recs : List (List Rat)) (htol : 0 < tol ∧ tol < 1) (hs : ∀ x ∈ starts, VecIn01 x)
    (h : approximateCapacity a tol maxIter starts = some (res, recs)) :
    (∀ r ∈ res, 0 < r ∧ r ≤ 4) ∧ ∀ rec ∈ recs, ∀ r ∈ rec, 0 < r ∧ r ≤ 4 := by
  exact Power.approx_bounds a tol maxIter starts res recs htol.1 hs h

/-- an arc-less graph has capacity `log2 1 = 0`. -/
theorem C17_arcless (a : Acc) (tol : Rat) (maxIter : Nat) (starts : List Vec)
    (h : a.all (fun r => r.all (· == -1)) = true) :
    approximateCapacity a tol maxIter starts = some ([1], starts.map fun _ => [1]) := by
  unfold approximateCapacity
  rw [if_pos h]

/-- the deterministic single-start mode (all-ones start) returns exactly `d` (capacity `log2 d`)
after two iterations when every live vertex has exactly `d` live successors. -/
theorem C17_regular (k d : Nat) (a : Acc) (tol : Rat) (maxIter : Nat) (hw : WFdB k a) (hd : 1 ≤ d)
    (htol : 0 < tol ∧ tol < 1) (hmax : 1 ≤ maxIter)
    (hlive : ∃ v : Nat, v < 4 ^ k ∧ a.live (v : Int) ≠ [])
    (hreg : ∀ v : Nat, v < 4 ^ k → a.live (v : Int) ≠ [] → liveSucc a v = d) :
    approximateCapacity a tol maxIter [Array.replicate a.size 1] = some ([(d : Rat)], [[(d : Rat), (d : Rat)]]) := by
  unfold approximateCapacity
  rw [if_neg (Power.not_arcless hw hlive)]
  simp only [List.foldl_cons, List.foldl_nil]
  rw [Power.capLoop_regular tol maxIter hw hd htol hmax hlive hreg _ (Power.zeroDead_ones_ind hw)]
  rfl

/-- sum of `x` over the end points of all `n`-step walks from `v`. -/
def weightedWalks (a : Acc) (x : Nat → Nat) : Nat → Nat → Nat
  | 0, v => x v
  | n + 1, v => ((a.liveEntries (v : Int)).map fun w => weightedWalks a x n w).sum

/-- Collatz–Wielandt certificate, combinatorial form (upper bound): if on a successor-closed
vertex set `S` the positive integer vector `x` satisfies `q · (A x)_v ≤ p · x_v`, then the
`x`-weighted number of `n`-step walks from any `v ∈ S` is at most `(p/q)^n · x_v`. -/
theorem C17_certificate_upper (a : Acc) (S : Nat → Prop) (x : Nat → Nat) (p q : Nat)
    (hclosed : ∀ v, S v → ∀ w ∈ a.liveEntries (v : Int), S w)
    (hineq : ∀ v, S v → q * ((a.liveEntries (v : Int)).map x).sum ≤ p * x v) :
    ∀ n v, S v → q ^ n * weightedWalks a x n v ≤ p ^ n * x v := by
  intro n
  induction n with
  | zero => intro v _; simp [weightedWalks]
  | succ n ih =>
    intro v hv
    rw [weightedWalks]
    have h1 := Power.sum_map_mul_le (a.liveEntries (v : Int)) (fun w => weightedWalks a x n w) x
      (q ^ n) (p ^ n) (fun w hw => ih w (hclosed v hv w hw))
    calc q ^ (n + 1) * ((a.liveEntries (v : Int)).map fun w => weightedWalks a x n w).sum
        = q * (q ^ n * ((a.liveEntries (v : Int)).map fun w => weightedWalks a x n w).sum) := by
          rw [Nat.pow_succ, Nat.mul_comm (q ^ n) q, Nat.mul_assoc]
      _ ≤ q * (p ^ n * ((a.liveEntries (v : Int)).map x).sum) := Nat.mul_le_mul_left _ h1
      _ = p ^ n * (q * ((a.liveEntries (v : Int)).map x).sum) := Nat.mul_left_comm _ _ _
      _ ≤ p ^ n * (p * x v) := Nat.mul_le_mul_left _ (hineq v hv)
      _ = p ^ (n + 1) * x v := by rw [Nat.pow_succ, Nat.mul_assoc]

theorem C17_certificate_lower (a : Acc) (S : Nat → Prop) (x : Nat → Nat) (p q : Nat)
    (hclosed : ∀ v, S v → ∀ w ∈ a.liveEntries (v : Int), S w)
    (hineq : ∀ v, S v → p * x v ≤ q * ((a.liveEntries (v : Int)).map x).sum) :
    ∀ n v, S v → p ^ n * x v ≤ q ^ n * weightedWalks a x n v := by
  intro n
  induction n with
  | zero => intro v _; simp [weightedWalks]
  | succ n ih =>
    intro v hv
    rw [weightedWalks]
    have h1 := Power.sum_map_mul_le (a.liveEntries (v : Int)) x (fun w => weightedWalks a x n w)
      (p ^ n) (q ^ n) (fun w hw => ih w (hclosed v hv w hw))
    calc p ^ (n + 1) * x v = p ^ n * (p * x v) := by rw [Nat.pow_succ, Nat.mul_assoc]
      _ ≤ p ^ n * (q * ((a.liveEntries (v : Int)).map x).sum) := Nat.mul_le_mul_left _ (hineq v hv)
      _ = q * (p ^ n * ((a.liveEntries (v : Int)).map x).sum) := Nat.mul_left_comm _ _ _
      _ ≤ q * (q ^ n * ((a.liveEntries (v : Int)).map fun w => weightedWalks a x n w).sum) :=
          Nat.mul_le_mul_left _ h1
      _ = q ^ (n + 1) * ((a.liveEntries (v : Int)).map fun w => weightedWalks a x n w).sum := by
          rw [Nat.pow_succ, Nat.mul_comm (q ^ n) q, Nat.mul_assoc]

example : approximateCapacity gcBalanced2 (1 / 10 ^ 10) 500 [Array.replicate 16 1] = some ([2], [[2, 2]]) := by
  decide +kernel

end Dsw
