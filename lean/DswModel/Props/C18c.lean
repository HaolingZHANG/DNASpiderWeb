import DswModel.Model.Shuffle
/-!
# C18c — the seeded shuffle table, with NumPy's generator inside the model

`createRandomShufflesSeeded k seed` (`Model/Shuffle`) is `create_random_shuffles(k, seed)` with
MT19937, `random_interval` and the legacy in-place `shuffle` modelled. Here: for every `k` and
every legal seed the table has `4^k` rows, every row is a permutation of `[0,1,2,3]`, the table is
a function of `(k, seed)`, illegal seeds raise `ValueError`; and the docstring table of the Python
function is reproduced inside the kernel.

The permutation property is proved for the shuffle over an ARBITRARY source of indices
(`shuffleWith draw`, any state type, any `draw`), then instantiated with `randomInterval` on the
MT19937 state; so it does not depend on the generator's output stream, nor on the fuel of the
rejection loop.
-/
namespace Dsw

theorem rejectLoop_le {σ : Type} (nxt : σ → Nat × σ) (mask max : Nat) (fuel : Nat) (s : σ) :
    (rejectLoop nxt mask max fuel s).1 ≤ max := by
  induction fuel generalizing s with
  | zero => exact Nat.zero_le _
  | succ n ih =>
    simp only [rejectLoop]
    split
    · assumption
    · exact ih _

/-- `random_interval(max) ≤ max` for every word source (fuel exhaustion included), so every swap of
the model is a real swap. -/
theorem randomIntervalWith_le {σ : Type} (nxt : σ → Nat × σ) (s : σ) (max : Nat) :
    (randomIntervalWith nxt s max).1 ≤ max := by
  unfold randomIntervalWith
  split
  · exact Nat.zero_le _
  · exact rejectLoop_le ..

theorem randomInterval_le (s : MT.State) (max : Nat) : (randomInterval s max).1 ≤ max :=
  randomIntervalWith_le ..

theorem swapIfInBounds_perm (x : Array Nat) (i j : Nat) : (x.swapIfInBounds i j).Perm x := by
  unfold Array.swapIfInBounds
  split
  · split
    · exact Array.swap_perm ..
    · exact Array.Perm.refl _
  · exact Array.Perm.refl _

theorem shuffleLoop_perm {σ : Type} (draw : σ → Nat → Nat × σ) (i : Nat) (s : σ) (x : Array Nat) :
    (shuffleLoop draw i s x).1.Perm x := by
  induction i generalizing s x with
  | zero => exact Array.Perm.refl _
  | succ n ih =>
    simp only [shuffleLoop]
    exact (ih _ _).trans (swapIfInBounds_perm ..)

/-- the legacy in-place shuffle returns a permutation of its argument, whatever the index source
returns. -/
theorem shuffleWith_perm {σ : Type} (draw : σ → Nat → Nat × σ) (s : σ) (x : List Nat) :
    (shuffleWith draw s x).1.Perm x := by
  have h := shuffleLoop_perm draw (x.length - 1) s x.toArray
  rw [Array.perm_iff_toList_perm] at h
  simpa [shuffleWith] using h

/-- the table built from ANY index source (any generator, any output stream), on top of rows that
are permutations of `[0,1,2,3]`: `n` more rows, each such a permutation. -/
theorem shuffleRowsWith_spec {σ : Type} (draw : σ → Nat → Nat × σ) (n : Nat) (s : σ)
    (acc : Array (List Nat)) (hacc : ∀ r ∈ acc, r.Perm [0, 1, 2, 3]) :
    (shuffleRowsWith draw n s acc).1.size = acc.size + n ∧
    ∀ r ∈ (shuffleRowsWith draw n s acc).1, r.Perm [0, 1, 2, 3] := by
  induction n generalizing s acc with
  | zero => exact ⟨rfl, hacc⟩
  | succ n ih =>
    simp only [shuffleRowsWith]
    obtain ⟨h1, h2⟩ := ih (shuffleWith draw s [0, 1, 2, 3]).2
      (acc.push (shuffleWith draw s [0, 1, 2, 3]).1) fun r hr => by
      rcases Array.mem_push.mp hr with h | h
      · exact hacc r h
      · exact h ▸ shuffleWith_perm ..
    exact ⟨by rw [h1, Array.size_push, Nat.add_assoc, Nat.add_comm 1 n], h2⟩

theorem C18_any_source {σ : Type} (draw : σ → Nat → Nat × σ) (n : Nat) (s : σ) :
    (shuffleRowsWith draw n s #[]).1.toList.length = n ∧
    ∀ r ∈ (shuffleRowsWith draw n s #[]).1.toList, r.Perm [0, 1, 2, 3] := by
  obtain ⟨h1, h2⟩ := shuffleRowsWith_spec draw n s #[] (by simp)
  exact ⟨by simpa using h1, fun r hr => h2 r (by simpa using hr)⟩

theorem createRandomShufflesSeeded_eq (k seed : Nat) :
    createRandomShufflesSeeded k seed =
      if seed < 2 ^ 32 then .ok (shuffleRowsWith randomInterval (4 ^ k) (MT.init seed) #[]).1.toList
      else .error .valueError := by
  unfold createRandomShufflesSeeded mtSeed
  by_cases h : seed < 2 ^ 32
  · rw [if_pos (show seed < MT.W from h), if_pos h]; rfl
  · rw [if_neg (show ¬ seed < MT.W from h), if_neg h]; rfl

/-- for every observed length and every seed NumPy accepts, the model returns a table with one row
per vertex. -/
theorem C18_seeded_shape (k seed : Nat) (h : seed < 2 ^ 32) :
    ∃ t, createRandomShufflesSeeded k seed = .ok t ∧ t.length = 4 ^ k :=
  ⟨_, (createRandomShufflesSeeded_eq k seed).trans (if_pos h), (C18_any_source ..).1⟩

theorem C18_seeded_perm (k seed : Nat) (t : List (List Nat))
    (h : createRandomShufflesSeeded k seed = .ok t) : ∀ r ∈ t, r.Perm [0, 1, 2, 3] := by
  rw [createRandomShufflesSeeded_eq] at h
  split at h
  · cases h
    exact (C18_any_source ..).2
  · cases h

/-- in the form "length 4, no duplicates, entries below 4". -/
theorem C18_seeded_rows (k seed : Nat) (t : List (List Nat))
    (h : createRandomShufflesSeeded k seed = .ok t) :
    ∀ r ∈ t, r.length = 4 ∧ r.Nodup ∧ ∀ e ∈ r, e < 4 := by
  intro r hr
  have hp := C18_seeded_perm k seed t h r hr
  exact ⟨hp.length_eq, hp.nodup_iff.mpr (by decide),
    fun e he => (by decide : ∀ x ∈ [0, 1, 2, 3], x < 4) e (hp.mem_iff.mp he)⟩

/-- the same `(k, seed)` always gives the same table: the model is a pure function, there is no
hidden generator state that earlier calls could have changed. -/
theorem C18_seeded_deterministic (k₁ seed₁ k₂ seed₂ : Nat) (hk : k₁ = k₂) (hs : seed₁ = seed₂) :
    createRandomShufflesSeeded k₁ seed₁ = createRandomShufflesSeeded k₂ seed₂ := by
  rw [hk, hs]

/-- integer seeds `≥ 2^32` raise `ValueError` (NumPy: "Seed must be between 0 and 2**32 - 1"). -/
theorem C18_seed_range (k seed : Nat) (h : 2 ^ 32 ≤ seed) :
    createRandomShufflesSeeded k seed = .error .valueError :=
  (createRandomShufflesSeeded_eq k seed).trans (if_neg (Nat.not_lt.mpr h))

/-- the table of the docstring of `create_random_shuffles` (`observed_length=2`,
`random_seed=2021`), computed by the kernel: MT19937 seeding, one regeneration of the block, 50
tempered outputs (2 of them rejected by `random_interval(2)`), 48 swaps. -/
example : createRandomShufflesSeeded 2 2021 = .ok
    [[3, 2, 1, 0], [2, 3, 1, 0], [3, 1, 0, 2], [0, 3, 1, 2], [3, 2, 0, 1], [1, 0, 3, 2],
     [0, 3, 1, 2], [2, 0, 1, 3], [2, 3, 0, 1], [1, 0, 3, 2], [2, 0, 1, 3], [0, 1, 3, 2],
     [2, 3, 1, 0], [2, 0, 3, 1], [0, 1, 3, 2], [0, 3, 2, 1]] := by decide +kernel

/-- the first two tempered outputs for seed 2021 (`RandomState(2021).randint(0, 2**32, 4, uint64)`). -/
example : (mtNext (MT.init 2021)).1 = 2602656884 ∧
    (mtNext (mtNext (MT.init 2021)).2).1 = 3431165269 := by decide +kernel

end Dsw
