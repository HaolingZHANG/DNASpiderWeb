import DswModel.Props.C17d
import DswModel.Lemmas.PowerFSeed
/-!
# C17 (continued) — the randomised call, seeded, entirely inside the model

`approximateCapacitySeeded a tol maxIter repeats seed` is `numpy.random.seed(seed)` followed by the randomised
`approximate_capacity` call: the model's MT19937 (`Model/Shuffle.lean`) draws the start vectors exactly as
`numpy.random.random` does, then `Model/CapacityF.lean` iterates in double precision (the harness compares the result with
NumPy's character for character, operation `capr`). For EVERY 32-bit seed, every number of repeats, every graph, tolerance
and iteration budget the call returns, and everything it reports is a double in `(0, 4]` — the randomised mode never
exceeds 2 bits per nucleotide and always terminates, for the floating-point computation itself.
-/
namespace Dsw

/-- the drawn start vectors are non-negative binary64 values not above 1 (`VecF.In01`, what `C17F_total` needs). -/
theorem C17F_randomStarts_in01 (n repeats : Nat) (s : MT.State) :
    ∀ x ∈ randomStarts n repeats s, x.In01 n :=
  PowerFSeed.randomStarts_in01 n repeats s

/-- the seeded randomised call always returns, and every value it reports lies in `(0, 4]`. -/
theorem C17F_seeded (a : Acc) (tol : Dbl) (maxIter repeats seed : Nat) (ha : a.Closed)
    (htol : IsB64 tol.num tol.den ∧ 0 ≤ tol.num) (hseed : seed < 2 ^ 32) :
    ∃ res recs, approximateCapacitySeeded a tol maxIter repeats seed = .ok (some (res, recs)) ∧
      (∀ r ∈ res, 0 < r.num ∧ r.num ≤ 4 * r.den ∧ 0 < r.den) ∧
      ∀ rec ∈ recs, ∀ r ∈ rec, 0 < r.num ∧ r.num ≤ 4 * r.den ∧ 0 < r.den := by
  have hW : seed < MT.W := by simpa [MT.W] using hseed
  have hs := C17F_randomStarts_in01 a.size repeats (MT.init seed)
  obtain ⟨res, recs, h⟩ := C17F_total a tol maxIter _ ha htol hs
  refine ⟨res, recs, ?_, C17F_le_four a tol maxIter _ res recs ha htol hs h⟩
  unfold approximateCapacitySeeded mtSeed
  rw [if_pos hW]
  show Except.ok _ = _
  rw [h]

end Dsw
