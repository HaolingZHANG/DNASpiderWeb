import DswModel.Model.Operation
import DswModel.Lemmas.Decimal
/-!
# C15 — string big-number arithmetic equals integer arithmetic

A decimal string is *canonical* when all its symbols are digits, it is non-empty and it has no
leading zero unless it is `"0"`. Canonical strings are determined by their value
(`C15_canonical_unique`), so "returns the canonical decimal string of the exact result" is:
the result is canonical and has the exact value.
-/
namespace Dsw

def C15_statement : Prop :=
  ∀ (s : Dec) (b : Nat), s.Canonical → b < 10 →
    ((calculusAddition s b).Canonical ∧ (calculusAddition s b).toNat = s.toNat + b) ∧
    ((calculusMultiplication s b).Canonical ∧ (calculusMultiplication s b).toNat = s.toNat * b) ∧
    (1 ≤ b → (calculusDivision s b).1.Canonical ∧ (calculusDivision s b).1.toNat = s.toNat / b ∧
             (calculusDivision s b).2.Canonical ∧ (calculusDivision s b).2.toNat = s.toNat % b) ∧
    (b ≤ s.toNat → (calculusSubtraction s b).Canonical ∧ (calculusSubtraction s b).toNat = s.toNat - b)

theorem C15_canonical_unique (s t : Dec) (hs : s.Canonical) (ht : t.Canonical)
    (h : s.toNat = t.toNat) : s = t :=
  Dec.canonical_unique s t hs ht h

theorem C15_add (s : Dec) (b : Nat) (hs : s.Canonical) (hb : b < 10) :
    (calculusAddition s b).Canonical ∧ (calculusAddition s b).toNat = s.toNat + b :=
  calculusAddition_spec s b hs hb

theorem C15_mul (s : Dec) (b : Nat) (hs : s.Canonical) (hb : b < 10) :
    (calculusMultiplication s b).Canonical ∧ (calculusMultiplication s b).toNat = s.toNat * b :=
  calculusMultiplication_spec s b hs hb

theorem C15_div (s : Dec) (b : Nat) (hs : s.Canonical) (hb : b < 10) (hb1 : 1 ≤ b) :
    (calculusDivision s b).1.Canonical ∧ (calculusDivision s b).1.toNat = s.toNat / b ∧
    (calculusDivision s b).2.Canonical ∧ (calculusDivision s b).2.toNat = s.toNat % b :=
  calculusDivision_spec s b hs hb hb1

theorem C15_sub (s : Dec) (b : Nat) (hs : s.Canonical) (hb : b < 10) (h : b ≤ s.toNat) :
    (calculusSubtraction s b).Canonical ∧ (calculusSubtraction s b).toNat = s.toNat - b :=
  calculusSubtraction_spec s b hs hb h

/-- the documented special cases: division by one, multiplication by zero and one are exact
(they return the operand / `"0"` themselves). -/
theorem C15_special (s : Dec) :
    calculusDivision s 1 = (s, [0]) ∧ calculusMultiplication s 0 = [0] ∧ calculusMultiplication s 1 = s ∧
    calculusDivision s 0 = ([0], [0]) :=
  ⟨rfl, rfl, rfl, rfl⟩

theorem C15_holds : C15_statement := by
  intro s b hs hb
  exact ⟨C15_add s b hs hb, C15_mul s b hs hb, fun h1 => C15_div s b hs hb h1, fun h => C15_sub s b hs hb h⟩

/-- rendering of a natural number is canonical and has that value; with `C15_canonical_unique`
this identifies every result above with `str(exact result)`. -/
theorem C15_ofNat (n : Nat) : (Dec.ofNat n).Canonical ∧ (Dec.ofNat n).toNat = n :=
  Dec.ofNat_canonical n

/-! non-vacuity: a long carry chain and a long borrow chain meet the hypotheses. -/
example : Dec.Canonical (List.replicate 50 9) ∧ (2 : Nat) < 10 := by
  decide +kernel
example : calculusAddition (List.replicate 50 9) 2 = 1 :: (List.replicate 49 0 ++ [1]) := by
  decide +kernel
example : calculusSubtraction (1 :: (List.replicate 48 0 ++ [1])) 2 = List.replicate 49 9 := by
  decide +kernel

end Dsw
