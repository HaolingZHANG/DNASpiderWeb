import DswModel.Model.Spiderweb
import DswModel.Lemmas.Defs
import DswModel.Lemmas.DeBruijn
import DswModel.Lemmas.Removal
/-!
# C19 — arc removal keeps both graph views in step over any call sequence
-/
namespace Dsw

/-- the accessor is a de Bruijn sub-table and the latter map describes the same graph. -/
def Consistent (k : Nat) (a : Acc) (lm : LMap) : Prop :=
  WFdB k a ∧ lm = accessorToLatterMap a

def Acc.arcCount (a : Acc) : Nat :=
  ((List.range a.size).map fun (v : Nat) => (a.live (v : Int)).length).sum

def scoreAt (sc : Array (Array Nat)) (v j : Nat) : Nat := (sc.getD v #[]).getD j 0

/-- intersection scores have the accessor's shape and are positive only on existing arcs. -/
theorem C19_scores (k : Nat) (a : Acc) (ins del : Bool) (hk : 1 ≤ k) (h : WFdB k a) :
    (calculateIntersectionScore (accessorToLatterMap a) k ins del).size = 4 ^ k ∧
    (∀ v, v < 4 ^ k → ((calculateIntersectionScore (accessorToLatterMap a) k ins del).getD v #[]).size = 4) ∧
    (∀ v j : Nat, v < 4 ^ k → j < 4 →
      0 < scoreAt (calculateIntersectionScore (accessorToLatterMap a) k ins del) v j → 0 ≤ a.ent (v : Int) j) := by
  have hinv := scoreInv_calc k (accessorToLatterMap a) ins del
    (fun v j => 0 ≤ a.ent (v : Int) j) (latterMap_good hk h)
  unfold scoreAt
  exact ⟨hinv.1, hinv.2.1, fun v j _ _ hp => hinv.2.2 v j hp⟩

/-- one returning call: it removes exactly one arc that existed, that arc has the maximum
intersection score of the graph before the call, no other entry changes, and the accessor and
latter map handed back describe the same graph. -/
theorem C19_step (k : Nat) (a : Acc) (lm : LMap) (ins del : Bool) (r : RemoveResult) (hk : 1 ≤ k)
    (hc : Consistent k a lm) (h : removeNastyArc a lm ins del = .ok r) :
    r.former < 4 ^ k ∧
    ∃ j, j < 4 ∧ a.ent (r.former : Int) j = (r.latter : Int) ∧
      r.acc = a.setEnt r.former j (-1) ∧
      (∀ v j' : Nat, v < 4 ^ k → j' < 4 →
        scoreAt (calculateIntersectionScore lm k ins del) v j' ≤
          scoreAt (calculateIntersectionScore lm k ins del) r.former j) ∧
      Consistent k r.acc r.lmap ∧ r.acc.arcCount + 1 = a.arcCount := by
  obtain ⟨hw, rfl⟩ := hc
  obtain ⟨hlt, j, hj, hent, hacc, hlm, hmax⟩ := removeNastyArc_ok hk hw h
  have hj4 : j < 4 := ((Acc.mem_live _ _ _).1 hj).1
  unfold scoreAt Consistent Acc.arcCount
  refine ⟨hlt, j, hj4, hent, hacc, fun v j' _ _ => hmax v j', ⟨?_, ?_⟩, ?_⟩
  · rw [hacc]; exact wfdb_setEnt k a _ _ _ hw (Or.inl rfl)
  · rw [hlm, hacc, latterMap_setEnt_erase hk hw hlt hj, hent, Int.toNat_natCast]
  · rw [hacc]; exact arcCount_setEnt hw hlt hj

/-- a sequence of removal calls, stopping at the first call that raises. -/
def removeSeq : Acc → LMap → List (Bool × Bool) → R (Acc × LMap)
  | a, lm, [] => .ok (a, lm)
  | a, lm, f :: fs =>
    match removeNastyArc a lm f.1 f.2 with
    | .ok r => removeSeq r.acc r.lmap fs
    | .error e => .error e

/-- over any sequence of returning calls the two views stay in step and each call removes exactly
one arc. -/
theorem C19_history (k : Nat) (a a' : Acc) (lm lm' : LMap) (flags : List (Bool × Bool)) (hk : 1 ≤ k)
    (hc : Consistent k a lm) (h : removeSeq a lm flags = .ok (a', lm')) :
    Consistent k a' lm' ∧ a'.arcCount + flags.length = a.arcCount := by
  induction flags generalizing a lm with
  | nil =>
    simp only [removeSeq, Except.ok.injEq, Prod.mk.injEq] at h
    obtain ⟨rfl, rfl⟩ := h
    exact ⟨hc, rfl⟩
  | cons f fs ih =>
    rw [removeSeq] at h
    split at h
    · next r hr =>
      obtain ⟨_, j, _, _, _, _, hc', hcnt⟩ := C19_step k a lm f.1 f.2 r hk hc hr
      obtain ⟨h1, h2⟩ := ih r.acc r.lmap hc' h
      refine ⟨h1, ?_⟩
      rw [List.length_cons]; omega
    · cases h

example : Consistent 2 gcBalanced2 (accessorToLatterMap gcBalanced2) ∧ wfdbB 2 gcBalanced2 = true :=
  ⟨⟨wfdb_induced 2 _, rfl⟩, wfdbB_gcBalanced2⟩
example : (removeNastyArc gcBalanced2 (accessorToLatterMap gcBalanced2) true true).toOption.map
    (fun r => (r.former, r.latter)) = some (1, 4) := by decide +kernel

end Dsw
