import DswModel.Model.Graphized
import DswModel.Lemmas.Defs
import DswModel.Lemmas.UselessSpec
/-!
# C03 (continued) — `remove_useless` on ARBITRARY latter maps

`C03_latter_map` covers latter maps that come from a vertex mask. Here: any insertion-ordered map
with distinct keys (successor lists arbitrary — not necessarily de Bruijn), any threshold.
-/
namespace Dsw

/-- `remove_useless` never runs out of the fuel `arcs + 1`, returns a sub-map that is closed for
the threshold, and that sub-map is the largest one: every closed sub-map of the input is a sub-map
of the result. -/
theorem C03_remove_useless (m : LMap) (t : Nat) (hn : m.keys.Nodup) :
    ∃ m', removeUseless m t = .ok m' ∧ m'.SubOf m ∧ m'.ClosedT t ∧
      ∀ c : LMap, c.SubOf m → c.ClosedT t → c.keys.Nodup → c.SubOf m' := by
  obtain ⟨m', e, hs, hc, hmax⟩ := UselessSpec.removeUseless_spec m t hn
  exact ⟨m', e, hs, hc, fun c hcs hcc _ => hmax c hcs hcc⟩

example : removeUseless [(0, [1, 2]), (1, []), (2, [3, 4]), (3, [0])] 1 = .ok [(0, [2]), (2, [3]), (3, [0])] := by
  decide +kernel

end Dsw
