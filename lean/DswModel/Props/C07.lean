import DswModel.Lemmas.Vt
/-!
# C07 — the path check is the documented VT function and sees every substitution
-/
namespace Dsw

/-- nucleotide values of an ACGT strand. -/
def valuesOf (s : List Char) : List Nat := s.map fun c => (nucIdx c).getD 0

/-- the documented position sum: 0-based positions `i` where the nucleotide at `i` is followed by
a larger one (declarative form, independent of the loop in `ascentSum`). -/
def ascentPositions (vals : List Nat) : List Nat :=
  (List.range (vals.length - 1)).filter fun i => vals.getD i 0 < vals.getD (i + 1) 0


/-- length, flag symbol and digit symbols of the check (defined for the empty strand too). -/
theorem C07_shape (s : List Char) (n : Nat) (hn : 1 ≤ n) (hs : IsAcgt s) :
    ∃ c, setVt s n = .ok c ∧ c.length = n ∧ IsAcgt c ∧
      c.head? = some (nucChar ((valuesOf s).sum % 4)) ∧
      kmerIdx c.tail = (ascentPositions (valuesOf s)).sum % 4 ^ (n - 1) := by
  refine ⟨_, setVt_ok n hs, ?_, ?_, ?_, ?_⟩
  · rw [List.length_cons, numberToDnaInt_length _ _ (Nat.mod_lt _ (Nat.pow_pos (by omega)))]
    omega
  · exact IsAcgt.cons.2 ⟨nucIdx_nucChar_isSome _, isAcgt_numberToDnaInt _ _⟩
  · rfl
  · rw [List.tail_cons, kmerIdx_numberToDnaInt]
    rfl

/-- a strand with a foreign character has no check: `ValueError`. -/
theorem C07_foreign (s : List Char) (n : Nat) (hs : ¬ IsAcgt s) : setVt s n = .error .valueError := by
  exact setVt_err n hs

/-- any single substitution changes the first symbol of the check. -/
theorem C07_subst (s : List Char) (n p : Nat) (x : Char) (hn : 1 ≤ n) (hs : IsAcgt s)
    (hp : p < s.length) (hx : (nucIdx x).isSome = true) (hne : s[p]? ≠ some x) :
    ∃ c c', setVt s n = .ok c ∧ setVt (s.set p x) n = .ok c' ∧ c.head? ≠ c'.head? := by
  have _ := hn
  obtain ⟨y, hy⟩ : ∃ y, s[p]? = some y := ⟨_, List.getElem?_eq_getElem hp⟩
  have hyx : y ≠ x := fun h => hne (h ▸ hy)
  exact setVt_head_ne n hs (hs.set p hx) (sum_vals_set s p x y hy) (nucIdx_getD_lt x)
    (nucIdx_getD_lt y)
    fun h => hyx (nucIdx_getD_inj (hs y (List.mem_of_getElem? hy)) hx h.symm)

/-- any single insertion of C, G or T changes the first symbol of the check. -/
theorem C07_insert (s : List Char) (n p : Nat) (x : Char) (hn : 1 ≤ n) (hs : IsAcgt s)
    (hp : p ≤ s.length) (hx : x = 'C' ∨ x = 'G' ∨ x = 'T') :
    ∃ c c', setVt s n = .ok c ∧ setVt (s.take p ++ [x] ++ s.drop p) n = .ok c' ∧ c.head? ≠ c'.head? := by
  have _ := hn
  have _ := hp
  have hx' : (nucIdx x).isSome = true ∧ 1 ≤ (nucIdx x).getD 0 := by
    rcases hx with h | h | h <;> subst h <;> decide
  exact setVt_head_ne n hs (isAcgt_insert hs p hx'.1) (sum_vals_insert s p x).symm
    (nucIdx_getD_lt x) (Nat.zero_lt_succ 3) (Nat.ne_of_gt hx'.2)

/-- any single deletion of C, G or T changes the first symbol of the check. -/
theorem C07_delete (s : List Char) (n p : Nat) (hn : 1 ≤ n) (hs : IsAcgt s) (hp : p < s.length)
    (hx : s[p]? = some 'C' ∨ s[p]? = some 'G' ∨ s[p]? = some 'T') :
    ∃ c c', setVt s n = .ok c ∧ setVt (s.eraseIdx p) n = .ok c' ∧ c.head? ≠ c'.head? := by
  have _ := hn
  have _ := hp
  have hy : ∃ y, s[p]? = some y ∧ 1 ≤ (nucIdx y).getD 0 := by
    rcases hx with h | h | h
    · exact ⟨_, h, by decide⟩
    · exact ⟨_, h, by decide⟩
    · exact ⟨_, h, by decide⟩
  obtain ⟨y, hy, hy1⟩ := hy
  exact setVt_head_ne n hs (isAcgt_eraseIdx hs p) (sum_vals_eraseIdx s p y hy)
    (Nat.zero_lt_succ 3) (nucIdx_getD_lt y) (Nat.ne_of_lt hy1)

/-- consequently decoding any strand whose check differs from the supplied one raises
`ValueError`, whatever the graph, table, mode and requested length. -/
theorem C07_decode_rejects (a : Acc) (tbl : Option Tbl) (v : Int) (s s' : List Char) (L n : Nat)
    (fast : Bool) (c c' : List Char)
    (hc : setVt s n = .ok c) (hc' : setVt s' n = .ok c') (hn : 1 ≤ n) (hne : c.head? ≠ c'.head?) :
    decode a tbl v s' L fast (some c) = .error .valueError := by
  unfold decode
  rw [vtMatches_false (setVt_length hn hc) hc' hne]
  rfl

example : setVt "TCTCTCT".toList 5 = .ok "TAAGC".toList := by decide +kernel
example : setVt [] 3 = .ok "AAA".toList := by decide +kernel

end Dsw
