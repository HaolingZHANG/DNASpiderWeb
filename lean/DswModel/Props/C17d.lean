import DswModel.Props.C17c
import DswModel.Props.C17
import DswModel.Lemmas.PowerF
import DswModel.Lemmas.PowerFLoop
import DswModel.Lemmas.PowerFInt
import DswModel.Lemmas.PowerFReg
/-!
# C17 (continued) — the universal clauses of C17 for the DOUBLE-PRECISION computation

`Props/C17.lean` proves "never more than 2 bits", "0 for an arc-less graph" and "exactly log2 d on regular graphs" for
the exact-rational model. Here the same clauses are proved for `Model/CapacityF.lean`, the operation-by-operation model of
what NumPy computes (compared with the real run bit for bit on every check): they hold for the floating-point computation
itself. In addition `C17F_total`: the double-precision iteration always returns (no non-finite intermediate value, the
iteration budget ends every repeat).

`VecF.In01 n x`: `n` non-negative binary64 values, none above 1 (the all-ones start vector, `numpy.random.random`, every
normalised eigenvector).
-/
namespace Dsw

/-- one double-precision iteration on a vector in `[0, 1]` never fails, its eigenvalue estimate lies in `[0, 4]` (at most
four doubles of `[0, 1]` are added, and rounding is monotone with respect to the integers 0 … 4), and the normalised
vector is again in `[0, 1]`. -/
theorem C17F_step_bounds (a : Acc) (x : VecF) (hx : x.In01 a.size) (ha : a.Closed) :
    ∃ z ev, capStepF a x = some (z, ev) ∧ 0 ≤ ev.num ∧ ev.num ≤ 4 * ev.den ∧ 0 < ev.den ∧ z.In01 a.size := by
  exact PowerF.step_bounds a x hx ha

/-- TOTALITY in double precision: for start vectors in `[0, 1]` and a tolerance that is a non-negative double the model
(hence, by the bit-for-bit tie, the code) returns — every repeat ends within `maxIter + 2` iterations and no operation
produces a non-finite value. -/
theorem C17F_total (a : Acc) (tol : Dbl) (maxIter : Nat) (starts : List VecF) (ha : a.Closed)
    (htol : IsB64 tol.num tol.den ∧ 0 ≤ tol.num) (hs : ∀ x ∈ starts, x.In01 a.size) :
    ∃ res recs, approximateCapacityF a tol maxIter starts = some (res, recs) := by
  -- the tolerance plays no role for totality (an infinite relative error is simply "not below `tol`")
  have _ := htol
  exact PowerF.approxF_total a tol maxIter starts ha hs

/-- "never more than 2 bits per nucleotide", for the floating-point computation: every value whose `log2`-median the code
returns, and every recorded estimate, is a double in `(0, 4]`. -/
theorem C17F_le_four (a : Acc) (tol : Dbl) (maxIter : Nat) (starts : List VecF) (res : List Dbl) (recs : List (List Dbl))
    (ha : a.Closed) (htol : IsB64 tol.num tol.den ∧ 0 ≤ tol.num) (hs : ∀ x ∈ starts, x.In01 a.size)
    (h : approximateCapacityF a tol maxIter starts = some (res, recs)) :
    (∀ r ∈ res, 0 < r.num ∧ r.num ≤ 4 * r.den ∧ 0 < r.den) ∧
    ∀ rec ∈ recs, ∀ r ∈ rec, 0 < r.num ∧ r.num ≤ 4 * r.den ∧ 0 < r.den := by
  exact PowerF.approxF_bounds a tol maxIter starts res recs ha htol.2 hs h

/-- an arc-less graph: the model returns the value `1` (capacity `log2 1 = 0`) without iterating. -/
theorem C17F_arcless (a : Acc) (tol : Dbl) (maxIter : Nat) (starts : List VecF)
    (h : a.all (fun r => r.all (· == -1)) = true) :
    approximateCapacityF a tol maxIter starts = some ([⟨1, 1⟩], starts.map fun _ => [⟨1, 1⟩]) := by
  unfold approximateCapacityF
  rw [if_pos h]

/-- "exactly log2 d on regular graphs", for the floating-point computation: when every live vertex has exactly `d` live
successors the deterministic single-start mode (all-ones start) stops after two iterations with the estimate `d`, exactly
(every operation involved is exact in binary64: sums of at most four ones, `d / d`, `d − d`). The tolerance is any
positive double below 1 (the code's `10 ** tolerance_level`). -/
theorem C17F_regular (k d : Nat) (a : Acc) (tol : Dbl) (maxIter : Nat) (hw : WFdB k a) (hd : 1 ≤ d)
    (htol : IsB64 tol.num tol.den ∧ 0 < tol.num ∧ tol.num < tol.den) (hmax : 1 ≤ maxIter)
    (hlive : ∃ v : Nat, v < 4 ^ k ∧ a.live (v : Int) ≠ [])
    (hreg : ∀ v : Nat, v < 4 ^ k → a.live (v : Int) ≠ [] → liveSucc a v = d) :
    ∃ r, approximateCapacityF a tol maxIter [Array.replicate a.size ⟨1, 1⟩] = some ([r], [[r, r]]) ∧
      r.num = (d : Int) * r.den ∧ 0 < r.den := by
  refine ⟨PowerF.canon d, ?_, (PowerF.canon_isInt d).2, (PowerF.canon_isInt d).1⟩
  unfold approximateCapacityF
  rw [if_neg (Power.not_arcless hw hlive)]
  simp only [List.foldl_cons, List.foldl_nil]
  rw [PowerF.capLoopF_regular tol maxIter hw hd htol.2 hmax hlive hreg _
    (PowerF.zeroDeadF_ones_ind hw)]
  rfl

end Dsw
