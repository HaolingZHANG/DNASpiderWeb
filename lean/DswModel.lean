-- Root of the `DswModel` library: the executable model, the property files and the translation tie.
import DswModel.Model.Basic
import DswModel.Model.Operation
import DswModel.Model.Graphized
import DswModel.Model.Spiderweb
import DswModel.Model.Biofilter
import DswModel.Model.Capacity
import DswModel.Props.C01
import DswModel.Props.C02
import DswModel.Props.C03
import DswModel.Props.C04
import DswModel.Props.C05
import DswModel.Props.C06
import DswModel.Props.C07
import DswModel.Props.C08
import DswModel.Props.C09
import DswModel.Props.C10
import DswModel.Props.C11
import DswModel.Props.C12
import DswModel.Props.C13
import DswModel.Props.C14
import DswModel.Props.C15
import DswModel.Props.C16
import DswModel.Props.C17
import DswModel.Props.C17b
import DswModel.Props.C18
import DswModel.Props.C19
import DswModel.Props.C20
import DswModel.Props.EndToEnd
import DswModel.Props.C03b
import DswModel.Props.C08b
import DswModel.Props.C12b
import DswModel.Model.Shuffle
import DswModel.Props.C18c
-- translation tie: the Python fragment, the generated definitions, and the theorems that they compute the model
import DswModel.Py.Value
import DswModel.Py.Wire
import DswModel.Gen.Operation
import DswModel.Tie.OpAdd
import DswModel.Tie.OpSub
import DswModel.Tie.OpMul
import DswModel.Tie.OpDiv
import DswModel.Tie.OpBits
import DswModel.Tie.OpDna
import DswModel.Tie.Corollaries
import DswModel.Gen.Graphized
import DswModel.Gen.Spiderweb
import DswModel.Tie.NpLemmas
import DswModel.Tie.SwVt
import DswModel.Tie.SwEncode
import DswModel.Tie.SwDecode
import DswModel.Tie.GzArith
import DswModel.Tie.SwCorollaries
import DswModel.Tie.GzPath
import DswModel.Tie.SwRepair
import DswModel.Tie.RepCorollaries
import DswModel.Tie.GzViews
import DswModel.Tie.SwValid
import DswModel.Tie.SwFind
import DswModel.Tie.SwCoding
import DswModel.Tie.GzScore
import DswModel.Tie.GraphCorollaries
import DswModel.Gen.Biofilter
import DswModel.Tie.BfValid
import DswModel.Tie.BfCorollaries
import DswModel.Props.C02b
import DswModel.Tie.BfPipeline
import DswModel.Props.FloatSpec
import DswModel.Props.C17c
import DswModel.Tie.SwRemove
import DswModel.Tie.RemoveCorollaries
import DswModel.Props.C17d
import DswModel.Props.C12c
import DswModel.Props.C17e
import DswModel.Props.C17f
